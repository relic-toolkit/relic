/-
C01 — Multi-precision integer arithmetic is exact.
Each theorem is about the hand-written model of RelicVerif/Model/Bn.lean (tied to the C code by the correspondence
run of tools/check.py C01).

`Exact B r v` : if the modelled function returns (no precision error), the result is in normal form
(no leading zero digit, digits < B, zero non-negative) and denotes exactly the integer v.
-/
import RelicVerif.Lemmas.BnHighMul
import RelicVerif.Lemmas.BnSqrBasic

namespace Relic.Props.C01
open Relic.Model

abbrev Exact := @ExactR

variable (cfg : Cfg)

/-! ### add / subtract -/

theorem bn_add_exact (hw : 0 < cfg.w) (a b : Bn) (ha : a.WF cfg.B) (hb : b.WF cfg.B) :
    Exact cfg.B (bnAdd cfg a b) (a.toInt cfg.B + b.toInt cfg.B) := bnAdd_exact cfg hw a b ha hb

theorem bn_sub_exact (hw : 0 < cfg.w) (a b : Bn) (ha : a.WF cfg.B) (hb : b.WF cfg.B) :
    Exact cfg.B (bnSub cfg a b) (a.toInt cfg.B - b.toInt cfg.B) := bnSub_exact cfg hw a b ha hb

/-- a precision error is raised only when the operands leave no room for the carry digit -/
theorem bn_add_total (a b : Bn) (h : max a.used b.used < cfg.cap) : (bnAdd cfg a b).isSome :=
  addSigned_total cfg a b b.neg h

theorem bn_sub_total (a b : Bn) (h : max a.used b.used < cfg.cap) : (bnSub cfg a b).isSome := by
  rw [bnSub_eq]
  exact addSigned_total cfg a b (!b.neg) h

theorem bn_add_dig_exact (hw : 0 < cfg.w) (a : Bn) (d : Nat) (ha : a.WF cfg.B) (hd : d < cfg.B) :
    Exact cfg.B (bnAddDig cfg a d) (a.toInt cfg.B + d) := bnAddDig_exact cfg hw a d ha hd

theorem bn_sub_dig_exact (hw : 0 < cfg.w) (a : Bn) (d : Nat) (ha : a.WF cfg.B) (hd : d < cfg.B) :
    Exact cfg.B (bnSubDig cfg a d) (a.toInt cfg.B - d) := bnSubDig_exact cfg hw a d ha hd

/-! ### multiply / square: every selectable algorithm -/
theorem bn_mul_dig_exact (hw : 0 < cfg.w) (a : Bn) (d : Nat) (ha : a.WF cfg.B) (hd : d < cfg.B) :
    Exact cfg.B (bnMulDig cfg a d) (a.toInt cfg.B * d) := bnMulDig_exact cfg hw a d ha hd

theorem bn_mul_basic_exact (hw : 0 < cfg.w) (a b : Bn) (ha : a.WF cfg.B) (hb : b.WF cfg.B) :
    Exact cfg.B (bnMulBasic cfg a b) (a.toInt cfg.B * b.toInt cfg.B) := by
  have hB := cfg.one_lt_B hw
  rw [bnMulBasic_eq]
  obtain ⟨hd, hv⟩ := HighMul.basic_inv cfg.B hB a.dp b.dp ha.dig hb.dig a.dp.length (Nat.le_refl _)
  rw [List.take_length] at hv
  exact .guard (.ok (HighMul.mul_fin (by omega) a b _ hd hv))

/-- Comba: needs the operand lengths below the digit base (column sums fit the triple register) -/
theorem bn_mul_comba_exact (hw : 0 < cfg.w) (a b : Bn) (ha : a.WF cfg.B) (hb : b.WF cfg.B)
    (hs : min a.used b.used < cfg.B) :
    Exact cfg.B (bnMulComba cfg a b) (a.toInt cfg.B * b.toInt cfg.B) := bnMulComba_exact cfg hw a b ha hb hs

theorem bn_mul_karat_exact (hw : 0 < cfg.w) (a b : Bn) (ha : a.WF cfg.B) (hb : b.WF cfg.B)
    (hs : max a.used b.used + 1 < cfg.B) :
    Exact cfg.B (bnMulKarat cfg a b) (a.toInt cfg.B * b.toInt cfg.B) :=
  bnMulKarat_exact cfg hw a b ha hb
    (Nat.lt_of_le_of_lt (Nat.add_le_add_right (Nat.le_trans (Nat.min_le_left _ _) (Nat.le_max_left _ _)) 1) hs)

theorem bn_sqr_comba_exact (hw : 0 < cfg.w) (a : Bn) (ha : a.WF cfg.B) (hs : a.used < cfg.B) :
    Exact cfg.B (bnSqrComba cfg a) (a.toInt cfg.B * a.toInt cfg.B) := bnSqrComba_exact cfg hw a ha hs

/-- schoolbook squaring (bn_sqra_low rows with the delayed carry) -/
theorem bn_sqr_basic_exact (hw : 0 < cfg.w) (a : Bn) (ha : a.WF cfg.B) :
    Exact cfg.B (bnSqrBasic cfg a) (a.toInt cfg.B * a.toInt cfg.B) := bnSqrBasic_exact cfg hw a ha

theorem bn_sqr_karat_exact (hw : 0 < cfg.w) (a : Bn) (ha : a.WF cfg.B) (hs : a.used + 1 < cfg.B) :
    Exact cfg.B (bnSqrKarat cfg a) (a.toInt cfg.B * a.toInt cfg.B) := by
  have hB := cfg.one_lt_B hw
  have hsa : a.used < cfg.B := Nat.lt_of_succ_lt hs
  obtain ⟨wa0, wa1, va0, va1, ua0, ua1, sa, ba⟩ := HighMul.halves hB a.dp ha.dig ha.used_pos (a.used / 2)
  rw [toInt_mul, bne_self_eq_false, if_neg Bool.false_ne_true, sa]
  exact HighMul.karat_sqr cfg hw _ _ _ _ _ (a.dp.length + 1) wa0 wa1 va0 va1
    (Nat.lt_of_le_of_lt (Nat.le_trans ua0 (Nat.max_le.2 ⟨ha.used_pos, Nat.div_le_self _ _⟩)) hsa)
    (Nat.lt_of_le_of_lt ua1 hsa) (Nat.le_add_left 1 _) hs ba

theorem bn_mul_total (a b : Bn) (h : a.used + b.used ≤ cfg.cap) :
    (bnMulBasic cfg a b).isSome ∧ (bnMulComba cfg a b).isSome := by
  constructor
  · rw [bnMulBasic_eq, if_neg (by omega)]; rfl
  · rw [bnMulComba_eq, if_neg (by omega)]; rfl

/-! ### doubling and shifts -/
theorem bn_dbl_exact (hw : 0 < cfg.w) (a : Bn) (ha : a.WF cfg.B) :
    Exact cfg.B (bnDbl cfg a) (2 * a.toInt cfg.B) := by
  have hB := cfg.one_lt_B hw
  obtain ⟨e, c1, d1, l1⟩ := lsh1Low_spec cfg.w hw a.dp 0 (by omega) ha.dig
  rw [← cfg.B_eq, Nat.add_zero] at e
  rw [← cfg.B_eq] at d1
  have hv := toInt_natMul cfg.B a 2
  rw [Nat.cast_ofNat] at hv
  rw [bnDbl_eq, ← hv]
  refine .guard (.ite (fun hcy => ?_) fun hcy => ?_)
  · -- the carry is the top digit: nothing to trim
    rw [← bnTrim_eq_self (by simpa using hcy) (by simp)]
    exact .ok (bnTrim_snoc_exact (by omega) a.neg _ _ _ _ d1 (by omega) l1 e)
  · -- no carry: the top digit of `2a` is at least that of `a`
    have h0 : (lsh1Low cfg.w a.dp 0).2 = 0 := by simpa using hcy
    rw [h0, Nat.zero_mul, Nat.add_zero] at e
    have hu := ha.used_pos
    unfold Bn.used at hu
    refine .ok ⟨WF_of_val a.neg _ (List.ne_nil_of_length_pos (by omega)) d1 ?_ fun hv0 =>
      ha.2.2.2 ((ha.val_eq_zero_iff hB).1 (by omega)), by unfold Bn.toInt; rw [e]⟩
    by_cases h2 : 2 ≤ a.used
    · have := ha.val_ge h2
      unfold Bn.used at this
      exact Or.inr (by rw [l1, e]; omega)
    · exact Or.inl (by unfold Bn.used at h2; omega)

theorem bn_lsh_exact (hw : 0 < cfg.w) (a : Bn) (k : Nat) (ha : a.WF cfg.B) :
    Exact cfg.B (bnLsh cfg a k) (a.toInt cfg.B * 2 ^ k) := bnLsh_exact cfg hw a k ha

/-- bn_rsh is the floor shift for non-negative operands (and whenever no one-bit is dropped);
    PARTIAL: for a < 0 with dropped bits the code shifts the magnitude — see `bn_rsh_neg_counter`. -/
theorem bn_rsh_exact_partial (hw : 0 < cfg.w) (a : Bn) (k : Nat) (ha : a.WF cfg.B)
    (hg : 0 ≤ a.toInt cfg.B ∨ (2 : Int) ^ k ∣ a.toInt cfg.B) :
    Exact cfg.B (bnRsh cfg a k) (Int.fdiv (a.toInt cfg.B) (2 ^ k)) :=
  (bnRsh_tdiv cfg hw a k ha).of_eq (tdiv_eq_fdiv (by positivity) hg)

theorem bn_hlv_exact_partial (hw : 0 < cfg.w) (a : Bn) (ha : a.WF cfg.B)
    (hg : 0 ≤ a.toInt cfg.B ∨ (2 : Int) ∣ a.toInt cfg.B) :
    Exact cfg.B (bnHlv cfg a) (Int.fdiv (a.toInt cfg.B) 2) :=
  (bnHlv_tdiv cfg hw a ha).of_eq (tdiv_eq_fdiv (by omega) hg)

/-- known finding F3: the full-strength statement is false of the code (and of the model) -/
theorem bn_rsh_neg_counter :
    bnRsh { w := 64, cap := 34 } { neg := true, dp := [7] } 1 = some { neg := true, dp := [3] }
    ∧ Int.fdiv (-7) (2 ^ 1) = -4 := by decide

theorem bn_hlv_neg_counter :
    bnHlv { w := 64, cap := 34 } { neg := true, dp := [7] } = some { neg := true, dp := [3] }
    ∧ Int.fdiv (-7) 2 = -4 := by decide

/-! ### comparison -/
theorem bn_cmp_abs_exact (hw : 0 < cfg.w) (a b : Bn) (ha : a.WF cfg.B) (hb : b.WF cfg.B) :
    bnCmpAbs a b = (if (a.toInt cfg.B).natAbs < (b.toInt cfg.B).natAbs then -1
                    else if (a.toInt cfg.B).natAbs > (b.toInt cfg.B).natAbs then 1 else 0) := by
  rw [toInt_natAbs, toInt_natAbs]
  exact bnCmpAbs_val (cfg.one_lt_B hw) a b ha hb

theorem bn_cmp_exact (hw : 0 < cfg.w) (a b : Bn) (ha : a.WF cfg.B) (hb : b.WF cfg.B) :
    bnCmp a b = (if a.toInt cfg.B < b.toInt cfg.B then -1
                 else if a.toInt cfg.B > b.toInt cfg.B then 1 else 0) := by
  have hB := cfg.one_lt_B hw
  unfold bnCmp
  by_cases hz : (bnIsZero a && bnIsZero b) = true
  · rw [if_pos hz]
    simp only [Bool.and_eq_true] at hz
    have h1 := (ha.isZero_iff hB).1 hz.1
    have h2 := (hb.isZero_iff hB).1 hz.2
    rw [(toInt_eq_zero_iff cfg.B a).2 h1, (toInt_eq_zero_iff cfg.B b).2 h2]
    rfl
  · rw [if_neg hz]
    cases han : a.neg <;> cases hbn : b.neg
    · simp only [Bool.not_false, Bool.and_false, Bool.false_and, Bool.false_eq_true, if_false]
      rw [bnCmpAbs_val hB a b ha hb, toInt_of_pos han, toInt_of_pos hbn]
      simp only [Int.ofNat_lt, gt_iff_lt]
    · simp only [Bool.not_false, Bool.and_true, if_true]
      rw [toInt_of_pos han, toInt_of_neg hbn]
      have := hb.neg_pos hB hbn
      rw [if_neg (by omega), if_pos (by omega)]
    · simp only [Bool.not_true, Bool.not_false, Bool.and_false, Bool.false_eq_true, if_false, Bool.and_true, if_true]
      rw [toInt_of_neg han, toInt_of_pos hbn]
      have := ha.neg_pos hB han
      have h : -(val cfg.B a.dp : Int) < (val cfg.B b.dp : Int) := by omega
      rw [if_pos h]
    · simp only [Bool.not_true, Bool.and_false, Bool.and_true, Bool.false_eq_true, if_false, if_true]
      rw [bnCmpAbs_val hB b a hb ha, toInt_of_neg han, toInt_of_neg hbn]
      simp only [Int.neg_lt_neg_iff, Int.ofNat_lt, gt_iff_lt]

theorem bn_cmp_dig_exact (hw : 0 < cfg.w) (a : Bn) (d : Nat) (ha : a.WF cfg.B) (hd : d < cfg.B) :
    bnCmpDig a d = (if a.toInt cfg.B < d then -1 else if a.toInt cfg.B > d then 1 else 0) := by
  have hB := cfg.one_lt_B hw
  unfold bnCmpDig
  cases han : a.neg
  · simp only [Bool.false_eq_true, if_false]
    rw [toInt_of_pos han]
    by_cases hu : a.used > 1
    · have := ha.base_le_val hB hu
      rw [if_pos hu, if_neg (by omega), if_pos (by omega)]
    · obtain ⟨x, hdp, _, hx⟩ := ha.singleton (Nat.le_of_not_lt hu)
      rw [if_neg hu, hx, hdp, List.getD_cons_zero]
      simp only [gt_iff_lt, Int.ofNat_lt]
      split <;> split <;> omega
  · simp only [if_true]
    rw [toInt_of_neg han]
    have := ha.neg_pos hB han
    rw [if_pos (by omega)]

/-! ### division -/
/-- floor division with remainder of the sign of the divisor, for every sign pattern and every length,
    including the quotient-estimate and add-back branches of Knuth D (Lemmas/KnuthD.lean) -/
theorem bn_div_rem_exact (hw : 2 ≤ cfg.w) (a b : Bn) (ha : a.WF cfg.B) (hb : b.WF cfg.B) :
    ∀ q r tr, bnDivRem cfg a b = some (q, r, tr) →
      q.WF cfg.B ∧ r.WF cfg.B ∧ q.toInt cfg.B = Int.fdiv (a.toInt cfg.B) (b.toInt cfg.B)
      ∧ r.toInt cfg.B = Int.fmod (a.toInt cfg.B) (b.toInt cfg.B) := by
  intro _ _ _
  exact (Relic.Lemmas.Ret.guard fun hbz => bnDivImp_ret cfg (by omega) a b ha hb
    fun h => hbz ((hb.isZero_iff (cfg.one_lt_B (by omega))).2 h)) _

theorem bn_div_rem_zero (a b : Bn) (hb : b.toInt cfg.B = 0) (hbw : b.WF cfg.B) : bnDivRem cfg a b = none := by
  have hv := (toInt_eq_zero_iff cfg.B b).1 hb
  have hdp := hbw.dp_of_val_zero (Nat.pow_pos (by omega)) hv
  unfold bnDivRem
  rw [if_pos]
  unfold bnIsZero
  rw [hdp]; rfl

/-- single-digit division; PARTIAL: exact for a ≥ 0 or b ∣ a — see `bn_div_dig_neg_counter` (F2) -/
theorem bn_div_rem_dig_exact_partial (hw : 0 < cfg.w) (a : Bn) (b : Nat) (ha : a.WF cfg.B) (hb0 : 0 < b)
    (hbB : b < cfg.B) (hg : 0 ≤ a.toInt cfg.B ∨ (b : Int) ∣ a.toInt cfg.B) :
    ∀ q r, bnDivRemDig cfg a b = some (q, r) →
      q.WF cfg.B ∧ q.toInt cfg.B = Int.fdiv (a.toInt cfg.B) b ∧ (r : Int) = Int.fmod (a.toInt cfg.B) b := by
  intro q r hc
  obtain ⟨wq, eq, er⟩ := bnDivRemDig_ret cfg hw a b ha hb0 hbB (q, r) hc
  exact ⟨wq, eq.trans (tdiv_eq_fdiv (by omega) hg), er⟩

theorem bn_div_dig_neg_counter :
    bnDivRemDig { w := 64, cap := 34 } { neg := true, dp := [7] } 2 = some ({ neg := true, dp := [3] }, 1)
    ∧ Int.fdiv (-7) 2 = -4 := by decide

/-! ### bit length, bit access, powers of two -/
theorem bn_bits_exact (hw : 0 < cfg.w) (a : Bn) (ha : a.WF cfg.B) :
    bnBitsW cfg.w a = (if a.toInt cfg.B = 0 then 0 else Nat.log2 (a.toInt cfg.B).natAbs + 1) := by
  rw [bnBitsW_val cfg hw a ha, toInt_natAbs]
  simp only [toInt_eq_zero_iff]

theorem bn_get_bit_exact (hw : 0 < cfg.w) (a : Bn) (k : Nat) (ha : a.WF cfg.B) :
    bnGetBit cfg.w a k = ((a.toInt cfg.B).natAbs >>> k) % 2 := by
  have hB := cfg.one_lt_B hw
  rw [toInt_natAbs, Nat.shiftRight_eq_div_pow]
  unfold bnGetBit
  have hk : cfg.B ^ (k / cfg.w) * 2 ^ (k % cfg.w) = 2 ^ k := cfg.B_eq ▸ two_pow_div_mod cfg.w k
  split
  · rename_i hgt
    rw [Nat.div_eq_of_lt ((bnBitsW_le_iff cfg hw a ha k).1 (Nat.le_of_lt hgt))]
  · simp only
    split
    · rename_i hge
      have h1 := ha.val_lt
      have h2 : cfg.B ^ a.used ≤ cfg.B ^ (k / cfg.w) := Nat.pow_le_pow_right (by omega) hge
      have h3 : cfg.B ^ (k / cfg.w) * 1 ≤ cfg.B ^ (k / cfg.w) * 2 ^ (k % cfg.w) :=
        Nat.mul_le_mul_left _ (Nat.pow_pos (by omega))
      rw [Nat.div_eq_of_lt (by omega)]
    · rename_i hlt
      have hlt' : k / cfg.w < a.dp.length := by unfold Bn.used at hlt; omega
      rw [Nat.shiftRight_eq_div_pow, Nat.and_one_is_mod, ← hk, ← Nat.div_div_eq_div_mul,
        ← High.val_drop cfg.B a.dp _ ha.dig, List.drop_eq_getElem_cons hlt', val, cfg.B_eq,
        High.digit_bit _ _ _ _ (Nat.mod_lt _ hw)]
      simp [List.getD_eq_getElem?_getD, hlt']

theorem bn_set_2b_exact (hw : 0 < cfg.w) (k : Nat) :
    Exact cfg.B (bnSet2b cfg k) (2 ^ k) ∧ (k < cfg.cap * cfg.w → (bnSet2b cfg k).isSome) := by
  have hB := cfg.one_lt_B hw
  constructor
  · have hm : 2 ^ (k % cfg.w) < cfg.B := by
      rw [cfg.B_eq]; exact Nat.pow_lt_pow_right (by omega) (Nat.mod_lt _ hw)
    have := bnTrim_exact (B := cfg.B) (by omega) false (List.replicate (k / cfg.w) 0 ++ [2 ^ (k % cfg.w)])
      (digs_append (digs_replicate_zero (by omega) _) (by simpa using hm))
    -- the top digit is a power of two: nothing to trim
    rw [bnTrim_eq_self (by simp) (by simp)] at this
    rw [bnSet2b_eq cfg hw]
    refine .guard (.ok ⟨this.1, ?_⟩)
    rw [this.2, val_replicate_zero_append, cfg.B_eq]
    simp only [val, Nat.mul_zero, Nat.add_zero, Bool.false_eq_true, if_false]
    rw [two_pow_div_mod]
    push_cast; rfl
  · intro h
    rw [bnSet2b_eq cfg hw, if_neg (by omega)]
    rfl

/-! ### non-vacuity: the hypotheses are met by concrete non-trivial states -/
example : ({ neg := true, dp := [5, 0, 7] } : Bn).WF (2 ^ 64) := by decide
example : bnAdd { w := 8, cap := 66 } { neg := false, dp := [255, 255] } { neg := false, dp := [1] }
    = some { neg := false, dp := [0, 0, 1] } := by decide
example : (bnDivRem { w := 8, cap := 66 } { neg := true, dp := [7] } { neg := false, dp := [2] }).map
    (fun x => (x.1, x.2.1)) = some ({ neg := true, dp := [4] }, { neg := false, dp := [1] }) := by decide

end Relic.Props.C01
