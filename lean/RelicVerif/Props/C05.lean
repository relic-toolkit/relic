/-
C05 — Signature schemes are complete and sound, including encoding checks.

The specification verifiers (Spec/Sig.lean) are the standards' verification algorithms; the correspondence run compares
the verdict of every real verifier with them on honest and systematically altered triples ("accepts only if the defining
equation holds" is by construction of the specification verifier plus that comparison — it is not a theorem about the C
code).  The theorems below are about the specification's own algebra, for all keys, nonces and messages:
completeness (what a signer derives is accepted: ECDSA, EC-Schnorr, SoK, vBNN-IBS, RSASSA-PSS; the honest BB / ZSS / CL
signatures satisfy their equations), the one intended malleability of ECDSA, the RSA / CRT round trip, EMSA-PSS verification
= re-encoding, the pairing equations of BLS / BB / ZSS / CL / PS as the G1 equations the specification decides, and the
driver's Jacobian evaluator = the affine definition.
-/
import RelicVerif.Lemmas.Sig
import RelicVerif.Lemmas.RsaC06
import RelicVerif.Lemmas.Pss
import RelicVerif.Lemmas.Pairing
import RelicVerif.Lemmas.CurveFast

namespace Relic.Props.C05
open Relic.Spec.Sig Relic.Lemmas.Sig Relic.Lemmas.Rsa
open Relic.Spec.Curve (powMod)
open Relic.Lemmas.ZModCast (cast_ne_zero_of_lt)

variable {P : Type} [AddCommGroup P]

/-- ECDSA completeness (FIPS 186-4 §6.4 / SEC 1 §4.1): in any commutative group of prime order n generated by g, for every
    private key d and nonce k in [1, n−1] and every digest integer e, the pair (r, s) the signer derives (when it does not
    ask for another nonce because r = 0 or s = 0) is accepted under Q = dG. -/
theorem ecdsa_complete (o : GrpOps P) (ho : Lawful o) (n : Nat) [Fact n.Prime] (g : P) (hg : n • g = 0) (hg0 : g ≠ 0)
    (d k e : Nat) (hd : 0 < d ∧ d < n) (hk : 0 < k ∧ k < n) (hvalid : o.valid (d • g) = true)
    (r s : Nat) (h : ecdsaSignCore o n g d k e = some (r, s)) :
    ecdsaVerifyCore o n g (o.smul d g) e r s = true := by
  have hn : n.Prime := Fact.out
  simp only [ecdsaSignCore, ho.smul_eq] at h
  split at h
  · cases h
  next hz =>
  rw [not_or] at hz
  obtain ⟨hr, hs⟩ := Prod.mk.inj (Option.some.inj h)
  have hkF : (k : ZMod n) ≠ 0 := cast_ne_zero_of_lt hk.1 hk.2
  have hsF : (s : ZMod n) ≠ 0 := cast_ne_zero_of_lt (Nat.pos_of_ne_zero (hs ▸ hz.2)) (hs ▸ Nat.mod_lt _ hn.pos)
  have hR := ecdsa_commit g hg d k e r s hkF hsF (by
    rw [← hs, ← hr, ZMod.natCast_mod, Nat.cast_mul, invMod_cast k hkF, ZMod.natCast_mod]; push_cast; ring)
  simp only [ecdsaVerifyCore, ho.smul_eq, ho.add_eq, Int.toNat_natCast, hR, ho.pub_nsmul hg hg0 hd hvalid,
    isZero_nsmul o ho hg hg0 hk, inRangePos_natCast _ _ (hr ▸ hz.1) (hr ▸ Nat.mod_lt _ hn.pos),
    inRangePos_natCast _ _ (hs ▸ hz.2) (hs ▸ Nat.mod_lt _ hn.pos), hr]
  simp

/-- The (r, n − s) malleability of ECDSA: an accepted (r, s) stays accepted when s is replaced by n − s (the verifier then
    computes −R, whose x-coordinate is the same).  This is the only alteration of an accepted triple the property names as
    "itself valid". -/
theorem ecdsa_malleable (o : GrpOps P) (ho : Lawful o) (n : Nat) [Fact n.Prime] (g q : P) (hg : n • g = 0) (hq : n • q = 0)
    (hxn : ∀ a, o.xn (-a) = o.xn a) (e : Nat) (r s : Int) (h : ecdsaVerifyCore o n g q e r s = true) :
    ecdsaVerifyCore o n g q e r ((n : Int) - s) = true := by
  unfold ecdsaVerifyCore inRangePos at h ⊢
  simp only [Bool.and_eq_true, decide_eq_true_eq, Bool.not_eq_true', ho.smul_eq, ho.add_eq] at h ⊢
  obtain ⟨⟨⟨hr, hs⟩, hpub⟩, hz, hx⟩ := h
  obtain ⟨s', rfl⟩ := Int.eq_ofNat_of_zero_le (a := s) (by omega)
  have hs1 : 0 < s' := by exact_mod_cast hs.1
  have hs2 : s' < n := by exact_mod_cast hs.2
  have hsub : ((n : Int) - (s' : Int)) = ((n - s' : Nat) : Int) := by omega
  rw [hsub]
  simp only [Int.toNat_natCast] at hz hx ⊢
  -- each scalar of the second run is the negative of the first one modulo n
  have hR : (e % n * invMod n (n - s') % n) • g + (r.toNat * invMod n (n - s') % n) • q
      = -((e % n * invMod n s' % n) • g + (r.toNat * invMod n s' % n) • q) := by
    rw [nsmul_invMod_sub hs1 hs2 _ hg, nsmul_invMod_sub hs1 hs2 _ hq, neg_add]
  refine ⟨⟨⟨hr, by omega, by omega⟩, hpub⟩, ?_, ?_⟩
  · rw [hR, Bool.eq_false_iff] at *
    intro h'
    exact hz ((ho.isZero_iff _).mpr (neg_eq_zero.mp ((ho.isZero_iff _).mp h')))
  · rw [hR, hxn]; exact hx

/-- EC-Schnorr completeness (relic's variant e = H(m ‖ x(kG) mod n) mod n, s = k − d·e): accepted under Q = dG for every
    challenge function, provided s ≠ 0 (the verifier refuses s = 0). -/
theorem ecss_complete (o : GrpOps P) (ho : Lawful o) (n : Nat) [Fact n.Prime] (g : P) (hg : n • g = 0) (hg0 : g ≠ 0)
    (chal : Nat → Nat) (hchal : ∀ x, chal x < n)
    (d k : Nat) (hd : 0 < d ∧ d < n) (hk : 0 < k ∧ k < n) (hvalid : o.valid (d • g) = true)
    (hs : (ecssSignCore o n g chal d k).2 ≠ 0) :
    ecssVerifyCore o n g (o.smul d g) chal (ecssSignCore o n g chal d k).1 (ecssSignCore o n g chal d k).2 = true := by
  have hn : n.Prime := Fact.out
  simp only [ecssSignCore, ho.smul_eq] at hs ⊢
  have hR := schnorr_commit g hg d k (chal (o.xn (k • g) % n))
  rw [Nat.mul_comm] at hR
  simp only [ecssVerifyCore, ho.smul_eq, ho.add_eq, Int.toNat_natCast, hR, inRange_natCast _ _ (hchal _),
    inRangePos_natCast _ _ hs (Nat.mod_lt _ hn.pos), ho.pub_nsmul hg hg0 hd hvalid, isZero_nsmul o ho hg hg0 hk]
  simp

/-- the hypotheses of the three theorems are satisfiable (Z/11Z with generator 1): a concrete signature and its mirror image -/
example : Lawful (zmodOps 11) ∧ ecdsaSignCore (zmodOps 11) 11 1 3 4 5 = some (4, 7) ∧
    ecdsaVerifyCore (zmodOps 11) 11 1 ((zmodOps 11).smul 3 1) 5 4 7 = true ∧
    ecdsaVerifyCore (zmodOps 11) 11 1 ((zmodOps 11).smul 3 1) 5 4 (11 - 7) = true :=
  ⟨zmodOps_lawful 11, by decide, by decide, by decide⟩

/-- RSA round trip on the executable modular exponentiation, for *every* m (also those sharing a factor with n):
    with n = pq, p ≠ q primes and e·d ≡ 1 (mod lcm(p−1, q−1)), (m^d)^e ≡ m and (m^e)^d ≡ m (mod n). -/
theorem rsa_roundtrip (p q e d : Nat) (hp : p.Prime) (hq : q.Prime) (hpq : p ≠ q)
    (hed : e * d % Nat.lcm (p - 1) (q - 1) = 1) (m : Nat) :
    powMod (powMod m d (p * q)) e (p * q) = m % (p * q) ∧ powMod (powMod m e (p * q)) d (p * q) = m % (p * q) :=
  let ⟨h, h0⟩ := Relic.Lemmas.NumC06.modEq_one_of_mod_eq_one hed
  Relic.Lemmas.NumC06.powMod_roundtrip hp hq hpq h h0 m

/-- the same for keys as cp_rsa_gen derives them: e·d ≡ 1 (mod (p−1)(q−1)) -/
theorem rsa_roundtrip_phi (p q e d : Nat) (hp : p.Prime) (hq : q.Prime) (hpq : p ≠ q)
    (hed : e * d % ((p - 1) * (q - 1)) = 1) (m : Nat) :
    powMod (powMod m d (p * q)) e (p * q) = m % (p * q) ∧ powMod (powMod m e (p * q)) d (p * q) = m % (p * q) :=
  let ⟨h, h0⟩ := Relic.Lemmas.NumC06.modEq_one_of_mod_eq_one hed
  Relic.Lemmas.NumC06.powMod_roundtrip hp hq hpq (h.of_dvd (Nat.lcm_dvd_mul _ _)) h0 m

/-- CRT private-key operation (RFC 8017 §5.1.2 2.b; Garner's recombination as in bn_mxp_crt): dP = d mod (p−1),
    dQ = d mod (q−1), qInv·q ≡ 1 (mod p) give m^d mod pq for every m.  (dP, dQ > 0 holds whenever e·d ≡ 1 modulo p−1, q−1
    for odd primes; for dP = 0 and p ∣ m the statement is false: m^0 = 1.) -/
theorem rsa_crt (p q d qi : Nat) (hp : p.Prime) (hq : q.Prime) (hpq : p ≠ q) (hqi : qi * q % p = 1)
    (hdp : 0 < d % (p - 1)) (hdq : 0 < d % (q - 1)) (m : Nat) :
    rsasp1Crt p q (d % (p - 1)) (d % (q - 1)) qi m = powMod m d (p * q) := by
  have _ := hpq
  rw [Relic.Spec.Curve.powMod_eq]
  exact rsasp1Crt_eq_mod p q _ _ qi m _ hp.one_lt hq.pos hqi (Relic.Lemmas.NumC06.pow_mod_pred hp hdp m) (Relic.Lemmas.NumC06.pow_mod_pred hq hdq m)

/-- satisfiable: the textbook key p = 53, q = 61, e = 17, d = 2753 -/
example : (17 * 2753) % Nat.lcm (53 - 1) (61 - 1) = 1 ∧ 20 * 61 % 53 = 1 ∧
    rsasp1Crt 53 61 (2753 % 52) (2753 % 60) 20 65 = powMod 65 2753 (53 * 61) := by decide

/-- EMSA-PSS (RFC 8017 §9.1, empty salt): the step-by-step verification of §9.1.2 accepts an encoded message exactly when it
    is the (deterministic) encoding of §9.1.1 of the same digest — "decoding accepts only valid encodings", for every hash
    function with fixed output length, every digest and every emBits. -/
theorem pss_verify_iff_encode (H : Relic.Spec.Mac.Hash) (hout : ∀ b, (H.h b).length = H.outLen) (hpos : 0 < H.outLen)
    (mHash em : Bytes) (emBits : Nat) :
    emsaPssVerify H mHash em emBits = true ↔ emsaPssEncode H mHash emBits = some em :=
  Relic.Lemmas.Pss.emsaPssVerify_iff H hout hpos mHash em emBits

/-- RSASSA-PSS completeness for keys as cp_rsa_gen derives them (n = pq, e·d ≡ 1 mod (p−1)(q−1)): the signature
    I2OSP(EM^d mod n, k) of every message the signer accepts is accepted by RSASSA-PSS-VERIFY, in both the hash-then-sign
    and the pre-hashed mode, for every modulus length. -/
theorem rsa_pss_complete (H : Relic.Spec.Mac.Hash) (hout : ∀ b, (H.h b).length = H.outLen) (hpos : 0 < H.outLen)
    (p q e d : Nat) (hp : p.Prime) (hq : q.Prime) (hpq : p ≠ q) (hed : e * d % ((p - 1) * (q - 1)) = 1)
    (pre : Bool) (msg : Bytes) (em : Nat) (hrep : rsaPssSignRep H (p * q) pre msg = some em) :
    rsaPssVerify H ⟨p * q, e⟩ pre msg (i2osp (powMod em d (p * q)) ((bitLen (p * q) + 7) / 8)) = true := by
  have hn : 2 ≤ bitLen (p * q) := Nat.lt_of_not_le fun h => by
    have := (Relic.Lemmas.NatBits.bl_le_iff (p * q) 1).1 h
    have := Relic.Lemmas.NumC06.one_lt_mul_primes hp hq
    omega
  exact Relic.Lemmas.Pss.rsaPss_sign_verify H hout hpos (p * q) e d pre msg em hn hrep
    (rsa_roundtrip_phi p q e d hp hq hpq hed em).1

/-- Signature / proof of knowledge of a discrete logarithm (Camenisch–Stadler; `msg = []` is cp_pokdl, otherwise cp_sokdl):
    completeness for every witness x ∈ [1, n−1], every commitment randomness and every message. -/
theorem sokdl_complete (o : GrpOps P) (ho : Lawful o) (n : Nat) [Fact n.Prime] (g : P) (hg : n • g = 0) (hg0 : g ≠ 0)
    (H : Bytes → Bytes) (fc : Nat) (msg : Bytes) (x r : Nat) (hx : 0 < x ∧ x < n) (hvalid : o.valid (x • g) = true) :
    let c := hashToZn H n (msg ++ padSlots fc 3 (o.enc g ++ o.enc (x • g) ++ o.enc (r • g)))
    sokdlVerify o H n fc g (o.smul x g) msg c ((r + (n - c * x % n)) % n : Nat) = true := by
  intro c
  simp only [sokdlVerify, ho.smul_eq, ho.add_eq, Int.toNat_natCast, schnorr_commit g hg x r c, inRange_mod,
    show inRange n (c : Int) = true from inRange_mod n _, ho.pub_nsmul hg hg0 hx hvalid, Bool.true_and]
  exact decide_eq_true rfl

/-- vBNN-IBS completeness: master key x, extracted user key (R = rG, sk = r + H(id ‖ R)·x), signature with nonce y. -/
theorem vbnn_complete (o : GrpOps P) (ho : Lawful o) (n : Nat) [Fact n.Prime] (g : P) (hg : n • g = 0) (hg0 : g ≠ 0)
    (H : Bytes → Bytes) (id msg : Bytes) (x r y : Nat) (hx : 0 < x ∧ x < n) (hr : 0 < r ∧ r < n)
    (hvx : o.valid (x • g) = true) (hvr : o.valid (r • g) = true) :
    let c := hashToZn H n (id ++ o.enc (r • g))
    let sk := (r + c * x) % n
    let h := hashToZn H n (id ++ msg ++ o.enc (r • g) ++ o.enc (y • g))
    vbnnVerify o H n g (o.smul x g) (o.smul r g) ((h * sk + y) % n : Nat) (h : Nat) id msg = true := by
  intro c sk h
  simp only [vbnnVerify, GrpOps.sub, ho.smul_eq, ho.add_eq, ho.neg_eq, Int.toNat_natCast, inRange_mod,
    show inRange n (h : Int) = true from inRange_mod n _, ho.pub_nsmul hg hg0 hx hvx, ho.pub_nsmul hg hg0 hr hvr,
    Bool.true_and, decide_eq_true_eq]
  rw [show hashToZn H n (id ++ o.enc (r • g)) = c from rfl, show ((h * sk + y) % n) • g + -(h • (r • g + c • x • g)) = y • g
    from vbnn_commit g hg x r y c h]

/-! ### pairing-based schemes: the discrete-logarithm-oracle formulation is the pairing equation

For every bilinear map `e : G1 →+ G2 →+ GT` (all groups additive) for which e(·, g2) is injective — non-degeneracy, property
C04 of the implemented pairing — the equation the C verifier checks holds iff the G1 equation the specification decides
holds.  Public keys are the multiples [d]g2 etc. of the generator. -/
section pairing
open Relic.Lemmas.Pairing (pair_eq_iff)
variable {G1 G2 GT : Type} [AddCommGroup G1] [AddCommGroup G2] [AddCommGroup GT]
  (e : G1 →+ G2 →+ GT) (g2 : G2) (hinj : ∀ a : G1, e a g2 = 0 → a = 0)
include hinj

theorem bls_equation (hm sigma : G1) (d : Nat) : e hm (d • g2) = e sigma g2 ↔ sigma = d • hm := by
  rw [pair_eq_iff e g2 hinj]; exact eq_comm

/-- Boneh–Boyen short signatures -/
theorem bbs_equation (g1 sigma : G1) (m d : Nat) : e sigma (m • g2 + d • g2) = e g1 g2 ↔ (m + d) • sigma = g1 := by
  rw [← add_nsmul, pair_eq_iff e g2 hinj]

/-- Zhang–Safavi-Naini–Susilo (signature [t]g2 in G2) -/
theorem zss_equation (g1 q : G1) (m t : Nat) : e (m • g1 + q) (t • g2) = e g1 g2 ↔ t • (m • g1 + q) = g1 :=
  pair_eq_iff e g2 hinj _ _ _

/-- Camenisch–Lysyanskaya, scheme A -/
theorem cls_equations (a b c : G1) (m x y : Nat) :
    (e a (y • g2) = e b g2 ∧ e (a + m • b) (x • g2) = e c g2) ↔ (b = y • a ∧ c = x • (a + m • b)) := by
  simp only [pair_eq_iff e g2 hinj, eq_comm]

/-- Camenisch–Lysyanskaya, scheme C (committed message, randomness r) -/
theorem cli_equations (a A b B c : G1) (m r t u v : Nat) :
    (e a (v • g2) = e A g2 ∧ e a (u • g2) = e b g2 ∧ e A (u • g2) = e B g2 ∧ e (a + m • b + r • B) (t • g2) = e c g2) ↔
    (A = v • a ∧ b = u • a ∧ B = u • A ∧ c = t • (a + m • b + r • B)) := by
  simp only [pair_eq_iff e g2 hinj, eq_comm]

/-- Pointcheval–Sanders (x = [r]g, y = [s]g for the key's own generator g = g2 here) -/
theorem ps_equation (a b : G1) (m r s : Nat) : e a (r • g2 + m • s • g2) = e b g2 ↔ b = (r + m * s) • a := by
  rw [smul_smul, ← add_nsmul, pair_eq_iff e g2 hinj]; exact eq_comm

end pairing

/-- honest Boneh–Boyen / ZSS signatures satisfy the G1 equation: [k]([1/k]P) = P for k = m + d ≢ 0 (mod n) -/
theorem bbs_zss_complete (n : Nat) [Fact n.Prime] {G1 : Type} [AddCommGroup G1] (Pt : G1) (hP : n • Pt = 0) (k : Nat)
    (hk : (k : ZMod n) ≠ 0) : (k % n) • (invMod n (k % n)) • Pt = Pt := by
  have hk' : ((k % n : Nat) : ZMod n) ≠ 0 := by rwa [ZMod.natCast_mod]
  have h1 : (((k % n * invMod n (k % n) : Nat)) : ZMod n) = ((1 : Nat) : ZMod n) := by
    rw [Nat.cast_mul, invMod_cast _ hk', Nat.cast_one]
    exact mul_inv_cancel₀ hk'
  rw [smul_smul, nsmul_congr hP h1, one_smul]

/-- honest Camenisch–Lysyanskaya signatures (A and C) satisfy their G1 equations -/
theorem cl_complete {G1 : Type} [AddCommGroup G1] (a : G1) (m r t u v x y : Nat) :
    (x + m * x * y) • a = x • (a + m • y • a) ∧
    (t + m * t * u) • a + (t * r) • u • v • a = t • (a + m • u • a + r • u • v • a) := by
  refine ⟨?_, ?_⟩
  · rw [smul_add, smul_smul, smul_smul, ← add_nsmul]
    congr 1; ring
  · simp only [smul_add, smul_smul, ← add_nsmul]
    congr 1; ring

/-- the driver evaluates the specification's scalar multiplications in Jacobian coordinates (Spec/CurveFast.lean): that
    evaluator equals the affine double-and-add definition of Spec/Curve.lean for every prime p > 2, every point with
    reduced coordinates (on the curve or not) and every scalar -/
theorem fast_evaluator_exact (c : Relic.Spec.Curve.Curve) (hp : c.p.Prime) (h2 : 2 < c.p) (pt : Relic.Spec.Curve.Point)
    (hpt : ∀ x y, pt = some (x, y) → x < c.p ∧ y < c.p) (k : Nat) :
    Relic.Spec.CurveFast.mulNat c pt k = Relic.Spec.Curve.mulNat c pt k := by
  have : Fact c.p.Prime := ⟨hp⟩
  unfold Relic.Spec.CurveFast.mulNat
  -- the formulas never use the coefficient b: the input lies on the curve with its own b' (`OnF.self`)
  rcases pt with _ | ⟨x, y⟩
  · exact (Relic.Lemmas.CurveFast.jmulNat_spec c h2 0 none (Or.inl rfl) k).1
  · obtain ⟨hx, hy⟩ := hpt x y rfl
    exact (Relic.Lemmas.CurveFast.jmulNat_spec c h2 _ (some (x, y)) (Relic.Lemmas.CurveFast.OnF.self c hx hy) k).1

end Relic.Props.C05
