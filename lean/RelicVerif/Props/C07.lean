/-
C07 — Decoding validates untrusted bytes; encoding is canonical and round-trips.
Integers (bn_read_bin / bn_write_bin / bn_size_bin, bn_read_str / bn_write_str / bn_size_str), then elliptic-curve points,
points of the twist over Fp2 and elements of Fp2, one section each.
-/
import RelicVerif.Lemmas.BnConv
import RelicVerif.Lemmas.EpConv
import RelicVerif.Lemmas.Ep2Conv
import RelicVerif.Lemmas.Fp2Conv

namespace Relic.Props.C07
open Relic.Model

variable (cfg : Cfg)

/-- R1 (binary): decode (encode x) = x -/
theorem bn_bin_decode_encode (hw : 0 < cfg.w) (h8 : 8 ∣ cfg.w) (a : Bn) (ha : a.WF cfg.B) (hpos : a.neg = false)
    (len : Nat) (b : List UInt8) (h : bnWriteBin cfg.w len a = some b) (x : Bn) (hx : bnReadBin cfg b = some x) :
    x = a := by
  have hB := cfg.one_lt_B hw
  obtain ⟨hxw, hxv⟩ := bnReadBin_spec cfg hw h8 b x hx
  obtain ⟨_, hbv⟩ := bnWriteBin_spec cfg h8 a ha len b h
  apply Conv.WF_eq_of_toInt hB hxw ha
  rw [hxv, hbv, toInt_natAbs, toInt_of_pos hpos]

set_option linter.unusedVariables false in
/-- R2 (binary): the encoding has exactly the requested length, denotes |a| big-endian, and is refused
    exactly when the buffer is shorter than the minimal (canonical) size -/
theorem bn_bin_encode_canonical (hw : 0 < cfg.w) (h8 : 8 ∣ cfg.w) (a : Bn) (ha : a.WF cfg.B) (len : Nat) :
    (∀ b, bnWriteBin cfg.w len a = some b → b.length = len ∧ os2n b = (a.toInt cfg.B).natAbs) ∧
    (bnWriteBin cfg.w len a = none ↔ len < bnSizeBin cfg.w a) ∧
    (a.toInt cfg.B).natAbs < 256 ^ bnSizeBin cfg.w a :=
  ⟨fun b h => bnWriteBin_spec cfg h8 a ha len b h, bnWriteBin_error_iff cfg a len, (bnSizeBin_spec cfg h8 a ha).1⟩

/-- R3 (binary): decoding an arbitrary byte string fails with an error or yields a valid integer whose
    re-encoding in the same length reproduces the input -/
theorem bn_bin_decode_valid (hw : 0 < cfg.w) (h8 : 8 ∣ cfg.w) (b : List UInt8) (x : Bn) (h : bnReadBin cfg b = some x) :
    x.WF cfg.B ∧ x.toInt cfg.B = os2n b ∧ bnWriteBin cfg.w b.length x = some b :=
  ⟨(bnReadBin_spec cfg hw h8 b x h).1, (bnReadBin_spec cfg hw h8 b x h).2, bnWriteBin_readBin cfg hw h8 b x h⟩

/-- R4 (text): every radix 2..64 is positional notation, and reading back returns the integer -/
-- The read-back conjunct assumes `radix < cfg.B`: the radix and the digit values are handed to bn_mul_dig / bn_add_dig as
-- single digits, and without it the claim is false for tiny words, e.g. w = 1, radix = 10, a = 5 reads back as 3 (see the
-- `example` in Lemmas/BnConv.lean). It holds for every real configuration (radix ≤ 64 < 2^w for w ≥ 8).
theorem bn_str_positional (hw : 0 < cfg.w) (a : Bn) (ha : a.WF cfg.B) (radix len : Nat) (hr : 2 ≤ radix ∧ radix ≤ 64)
    (s : String) (h : bnWriteStr cfg len a radix = .ok s) :
    (∃ ds : List Nat, (∀ d ∈ ds, d < radix) ∧ (ds.head? ≠ some 0 ∨ ds = [0]) ∧ ds ≠ [] ∧
      posVal radix ds = (a.toInt cfg.B).natAbs ∧
      s.toList = (if a.toInt cfg.B < 0 then ['-'] else []) ++ ds.map convChar) ∧
    bnSizeStr cfg a radix = some (s.toList.length + 1) ∧
    (radix < cfg.B → ∀ x, bnReadStr cfg s radix = some x → x = a) :=
  ⟨bnWriteStr_spec cfg hw a ha radix len hr s h, bnSizeStr_spec cfg hw a ha radix len hr s h,
   fun hrB x hx => bnReadStr_writeStr cfg hw a ha radix len hr hrB s h x hx⟩

theorem bn_str_errors (a : Bn) (radix len : Nat) :
    (radix < 2 ∨ radix > 64 → bnWriteStr cfg len a radix = .error .noValid) ∧
    (∀ l, bnSizeStr cfg a radix = some l → len < l → bnWriteStr cfg len a radix = .error .noBuffer) := by
  constructor
  · intro hr
    unfold bnWriteStr bnSizeStr
    rw [if_pos hr]
  · intro l hl hlt
    unfold bnWriteStr
    rw [hl]
    simp only [if_pos hlt]

example : bnWriteBin 64 3 { neg := false, dp := [0x1ff] } = some [0, 1, 0xff] := by decide
example : bnReadBin { w := 8, cap := 66 } [0, 1, 0xff] = some { neg := false, dp := [0xff, 1] } := by decide


/-! ### elliptic-curve point encodings (Model/EpConv.lean; ep_read_bin / ep_write_bin / ep_pck / ep_upk) -/
section Ep
open Relic.Model.EpConv Relic.Spec.Curve

set_option linter.unusedVariables false in
/-- decoding accepts only valid points: whatever `ep_read_bin` returns is the identity or satisfies the curve equation
    with canonical coordinates: every accepting path ends with the explicit `onCurve` check -/
theorem ep_decode_valid (x : Ctx) (hp : 1 < x.c.p) (hs : SrtSound x) (bin : Bytes) (P : Point)
    (h : readBin x bin = some P) : onCurve x.c P = true :=
  readBin_valid x bin P h

set_option linter.unusedVariables false in
/-- re-encoding what was decoded reproduces the input bytes (same length, same compression) — off the 2-torsion
    for the compressed form, see `ep_compressed_two_torsion_malleable` -/
theorem ep_encode_decode (x : Ctx) (hp : 1 < x.c.p) (hnb : x.c.p ≤ 256 ^ x.nb) (hs : SrtSound x) (hsep : SignSeparates x)
    (bin : Bytes) (P : Point) (h : readBin x bin = some P)
    (hy0 : bin.length = x.nb + 1 → ∀ px, P ≠ some (px, 0)) :
    writeBin x bin.length P (bin.length = x.nb + 1) = some bin :=
  writeBin_readBin x hs hsep bin P h hy0

set_option linter.unusedVariables false in
/-- decoding what was encoded returns the point, compressed or not -/
theorem ep_decode_encode (x : Ctx) (hp : 1 < x.c.p) (hnb : x.c.p ≤ 256 ^ x.nb) (hnb0 : 0 < x.nb) (hs : SrtSound x)
    (hc : SrtComplete x) (hsep : SignSeparates x) (hprime : ∀ d, d ∣ x.c.p → d = 1 ∨ d = x.c.p)
    (P : Point) (hP : onCurve x.c P = true) (pack : Bool) (b : Bytes)
    (h : writeBin x (sizeBin x P pack) P pack = some b) : readBin x b = some P :=
  readBin_writeBin x hnb hnb0 hs hc hsep hprime P hP pack b h

/-- no two distinct byte strings of the same length decode to the same point (same restriction) -/
theorem ep_decode_injective (x : Ctx) (hs : SrtSound x) (hsep : SignSeparates x) (b1 b2 : Bytes) (P : Point)
    (h1 : readBin x b1 = some P) (h2 : readBin x b2 = some P) (hl : b1.length = b2.length)
    (hy0 : b1.length = x.nb + 1 → ∀ px, P ≠ some (px, 0)) : b1 = b2 :=
  readBin_inj x hs hsep b1 b2 P h1 h2 hl hy0

/-- the excluded case is real: a point (x, 0) of order two has two accepted compressed encodings (tags 2 and 3); no
    curve whose group has odd order has such a point -/
theorem ep_compressed_two_torsion_malleable (x : Ctx) (hnb : x.c.p ≤ 256 ^ x.nb) (hnb0 : 0 < x.nb) (hs : SrtSound x)
    (hc : SrtComplete x) (hprime : ∀ d, d ∣ x.c.p → d = 1 ∨ d = x.c.p) (px : Nat)
    (hon : onCurve x.c (some (px, 0)) = true) :
    readBin x (2 :: beBytes px x.nb) = some (some (px, 0)) ∧
    readBin x (3 :: beBytes px x.nb) = some (some (px, 0)) ∧
    writeBin x (x.nb + 1) (some (px, 0)) true = some (2 :: beBytes px x.nb) :=
  readBin_twoTorsion_malleable x hnb hnb0 hs hc hprime px hon

end Ep

/-! ### points of the twist over Fp2 (ep2_write_bin / ep2_read_bin, ep2_pck / ep2_upk) -/
section Ep2
open Relic.Model.Ep2Conv Relic.Lemmas.Ep2Conv Relic.Spec.CurveX

/-- decoding accepts only points that satisfy the curve equation (with reduced coordinates: `onCurve` includes canonicity) -/
theorem ep2_decode_valid (x : Relic.Model.Ep2Conv.Ctx) (bin : List Nat) (P : List Nat × List Nat)
    (h : Relic.Model.Ep2Conv.readBin x bin = some (some P)) : onCurve x.c (some P) = true :=
  Relic.Lemmas.Ep2Conv.readBin_valid x bin (some P) h

/-- decode(encode(P)) = P in the uncompressed format at the advertised length, for every point of the twist -/
theorem ep2_decode_encode_unpacked (x : Relic.Model.Ep2Conv.Ctx) (fb : Bool) (a0 a1 b0 b1 : Nat) (hnb : 0 < x.nb)
    (hp : x.c.d.p ≤ 256 ^ x.nb) (ha0 : a0 < x.c.d.p) (ha1 : a1 < x.c.d.p) (hb0 : b0 < x.c.d.p) (hb1 : b1 < x.c.d.p)
    (hon : onCurve x.c (some ([a0, a1], [b0, b1])) = true) :
    (Relic.Model.Ep2Conv.writeBin x fb (4 * x.nb + 1) (some ([a0, a1], [b0, b1])) false).bind (Relic.Model.Ep2Conv.readBin x)
      = some (some ([a0, a1], [b0, b1])) := by
  have hw : Relic.Model.Ep2Conv.writeBin x fb (4 * x.nb + 1) (some ([a0, a1], [b0, b1])) false =
      some (4 :: (elBytes x [a0, a1] ++ elBytes x [b0, b1])) := by simp [Relic.Model.Ep2Conv.writeBin]
  rw [hw, Option.bind_some, readBin_eq, Relic.Lemmas.Codec.frame_unc (by omega) _ _ _ (elBytes_length x _) (elBytes_length x _),
    if_pos rfl, elRead_elBytes x a0 a1 ha0 ha1 hp, elRead_elBytes x b0 b1 hb0 hb1 hp]
  exact if_pos hon

/-- the compression bit separates y from −y, with the rule of ep2_upk, which ep2_pck writes too (`fallback = true`); that a value of
    Fp2 has no square roots other than ±y is not proved here -/
theorem ep2_compression_bit_separates (p y0 y1 : Nat) (hodd : p % 2 = 1) (h0 : y0 < p) (h1 : y1 < p) (hne : y0 ≠ 0 ∨ y1 ≠ 0) :
    signPck true p [(p - y0) % p, (p - y1) % p] ≠ signPck true p [y0, y1] := by
  rw [signPck_fallback, signPck_fallback, signUpk_neg p y0 y1 hodd h0 h1 hne]
  have : signUpk p [y0, y1] ≤ 1 := by
    unfold signUpk; simp only [List.getD_cons_zero, List.getD_cons_succ]; split <;> split <;> omega
  omega

/-- with the rule that looks at the second coefficient only (`fallback = false`: ep2_pck in /repo before commit cf3db1e) the statement
    is false: y and −y in Fp share the bit, so twist points with y in Fp decoded to −P -/
theorem ep2_compression_bit_pinned_counterexample :
    signPck false 7 [5, 0] = signPck false 7 [(7 - 5) % 7, (7 - 0) % 7] ∧ signUpk 7 [5, 0] ≠ signPck false 7 [5, 0] := by
  decide

/-- an instance of `ep2_compression_bit_separates`: 5 and −5 = 2 in F_7 -/
example : signPck true 7 [5, 0] = 1 ∧ signPck true 7 [2, 0] = 0 ∧ (7 % 2 = 1) := by decide

end Ep2

/-! ### elements of Fp2 (fp2_write_bin / fp2_read_bin, fp2_pck / fp2_upk) -/
section Fp2
open Relic.Lemmas.Fp2Conv

/-- decoding a packed string (RLC_FP_BYTES + 1 bytes) yields only unitary elements with a reduced first coefficient equal to the
    transmitted one and a second coefficient of the transmitted parity -/
theorem fp2_decode_packed_valid (x : Relic.Model.Fp2Conv.Ctx) (hp : 1 < x.p) (hs : SrtSound x) (hq : QinvOk x) (bin : List Nat)
    (a0 a1 : Nat) (hl : bin.length = x.nb + 1) (h : Relic.Model.Fp2Conv.readBin x bin = some (a0, a1)) :
    Relic.Model.Fp2Conv.unitary x a0 a1 = true ∧ a0 < x.p ∧ a0 = Relic.Model.Ep2Conv.beVal (bin.take x.nb) ∧
      x.bit a1 = bin.getD x.nb 0 := by
  rw [readBin_packed x bin hl] at h
  split at h
  · cases h
  · split at h
    · next hlt =>
      obtain ⟨a, hu, h⟩ := Option.map_eq_some_iff.mp h
      cases h
      obtain ⟨hsq, hbit⟩ := upk_sound hs hu
      exact ⟨(unitary_iff hp hq _ _).mpr hsq, hlt, rfl, hbit⟩
    · cases h

/-- a parity byte other than 0 / 1 is never accepted (fp2_read_bin in /repo before commit 8eb62e5 accepted every value) -/
theorem fp2_decode_parity_rejected (x : Relic.Model.Fp2Conv.Ctx) (bin : List Nat) (hl : bin.length = x.nb + 1)
    (hpar : bin.getD x.nb 0 > 1) : Relic.Model.Fp2Conv.readBin x bin = none := by
  rw [readBin_packed x bin hl, if_pos hpar]

set_option linter.unusedVariables false in
/-- decode(encode(a)) = a in the packed format for every unitary element, for every prime p and every non-residue β (fp2_upk in
    /repo before commit a3385c9 was only correct for β = −1) -/
theorem fp2_decode_encode_packed (x : Relic.Model.Fp2Conv.Ctx) (hprime : Nat.Prime x.p) (hs : SrtSound x) (hc : SrtComplete x)
    (hq : QinvOk x) (hsep : BitSep x) (hbit : ∀ a, x.bit a ≤ 1) (hnb : 0 < x.nb) (hp : x.p ≤ 256 ^ x.nb) (a0 a1 : Nat)
    (h0 : a0 < x.p) (h1 : a1 < x.p) (hu : Relic.Model.Fp2Conv.unitary x a0 a1 = true) :
    (Relic.Model.Fp2Conv.writeBin x (Relic.Model.Fp2Conv.sizeBin x a0 a1 true) a0 a1 true).bind (Relic.Model.Fp2Conv.readBin x)
      = some (a0, a1) := by
  have hl := Relic.Lemmas.Ep2Conv.beBytes_length a0 x.nb
  have hw : Relic.Model.Fp2Conv.writeBin x (Relic.Model.Fp2Conv.sizeBin x a0 a1 true) a0 a1 true =
      some (Relic.Model.Ep2Conv.beBytes a0 x.nb ++ [x.bit a1]) := by
    simp [Relic.Model.Fp2Conv.writeBin, Relic.Model.Fp2Conv.sizeBin, hu]
  have hg : (Relic.Model.Ep2Conv.beBytes a0 x.nb ++ [x.bit a1]).getD x.nb 0 = x.bit a1 := by
    rw [List.getD_eq_getElem?_getD, List.getElem?_append_right (by omega)]
    simp [hl]
  have hb := hbit a1
  rw [hw, Option.bind_some, readBin_packed x _ (by simp [hl]), hg, List.take_left' hl, if_neg (by omega),
    Relic.Lemmas.Ep2Conv.beVal_beBytes _ _ (by omega), if_pos h0, upk_unitary x hprime hs hc hq hsep a0 a1 h1 hu]
  rfl

/-- decode(encode(a)) = a in the plain format -/
theorem fp2_decode_encode_plain (x : Relic.Model.Fp2Conv.Ctx) (a0 a1 : Nat) (hnb : 1 < x.nb) (hp : x.p ≤ 256 ^ x.nb)
    (h0 : a0 < x.p) (h1 : a1 < x.p) :
    Relic.Model.Fp2Conv.readBin x (Relic.Model.Ep2Conv.beBytes a0 x.nb ++ Relic.Model.Ep2Conv.beBytes a1 x.nb) = some (a0, a1) := by
  rw [readBin_plain x _ _ hnb (Relic.Lemmas.Ep2Conv.beBytes_length _ _) (Relic.Lemmas.Ep2Conv.beBytes_length _ _),
    Relic.Lemmas.Ep2Conv.beVal_beBytes _ _ (by omega), Relic.Lemmas.Ep2Conv.beVal_beBytes _ _ (by omega), if_pos ⟨h0, h1⟩]

/-- F_7[u]/(u² − 5) with β⁻¹ = 3: `QinvOk` holds and the element 6 = −1 is unitary (the square root of this context finds nothing, so
    it is no instance of `SrtComplete`) -/
example : Relic.Model.Fp2Conv.unitary { p := 7, qnr := 5, qinv := 3, nb := 1, srt := fun _ => none, bit := fun a => a % 2 } 6 0 = true ∧
    (3 * 5) % 7 = 1 % 7 := by decide

end Fp2

end Relic.Props.C07
