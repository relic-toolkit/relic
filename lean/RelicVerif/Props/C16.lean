/-
C16 — binary fields GF(2^m) and binary curves.

Field level. Polynomials over GF(2) are natural numbers (Spec/Gf2.lean); `toPoly` maps them injectively into
`(ZMod 2)[X]`, turning xor into +, the shift-and-xor product into the product and the long division into `%ₘ`.
The algorithms of the C code (López-Dahab comb, Karatsuba, table squaring, digit-wise fast reduction modulo a trinomial /
pentanomial, shift-and-add, square root by even/odd splitting, trace from selected coefficients, the table of iterated
squarings, the inversion chains) compute this arithmetic for ALL inputs. For the polynomial of the running library the
driver checks z^(2^m) = z mod f on every run (`FrobFix`); under it the specification's square root, trace and half-trace
satisfy their defining equations, and for irreducible f the inverse does.

Curve level. The point formulas (Model/Eb.lean, one `let` per C statement) are the subject of Lemmas/EbFormulas.lean and
Lemmas/EbLadder.lean, whose theorems stand for this property without a copy here: the affine and López-Dahab projective routines
compute the chord-and-tangent law of y² + xy = x³ + a x² + b over any field of characteristic two, with the exceptional cases
dispatched as the group law demands; halving inverts doubling; the Frobenius map squares the coordinates. In this file: every
scalar-multiplication loop computes
k•P in an abstract commutative group (Koblitz: in a module over a ring containing τ, τ² = μτ - 2, for points fixed by τ^m);
where the code reduces the scalar — eb_mul_lodah and the fixed-base tables modulo r, the Koblitz routines modulo the
group order h·r — the theorems hold for EVERY integer k.

The driver evaluates the specification through the fast evaluators of Model/BinFast.lean; `fast_evaluators_sound` (product,
reduction, field product and inverse, point addition, scalar multiplication) and the remaining `*_eq` theorems of Lemmas/BinFast.lean
(among them `FF.sqrN_eq`, on which the evaluation of `FrobFix` rests) say they are the specification. Class C (compared on the presented lines only): see TRUSTED in tools/props/c16.py.
-/
import RelicVerif.Lemmas.Gf2Poly
import RelicVerif.Lemmas.Gf2Field
import RelicVerif.Lemmas.BinFast
import RelicVerif.Lemmas.Fb
import RelicVerif.Lemmas.EbFormulas
import RelicVerif.Lemmas.EbLadder
import RelicVerif.Lemmas.Tnaf
import RelicVerif.Lemmas.EbMul
import RelicVerif.Lemmas.MulAlg
import RelicVerif.Lemmas.FbInvEuclid

namespace Relic.Props.C16
open Polynomial
open Relic.Spec.Gf2 Relic.Model Relic.Model.Fb Relic.Model.MulAlg Relic.Model.EbMul Relic.Model.Tnaf
open Relic.Lemmas.Gf2Poly Relic.Lemmas.Gf2Field Relic.Lemmas.Fb Relic.Lemmas.Tnaf Relic.Lemmas.EbMul

/-- xor is the sum and the shift-and-xor loop is the product of polynomials over GF(2) -/
theorem clmul_is_polynomial_product (a b : Nat) :
    toPoly (a ^^^ b) = toPoly a + toPoly b ∧ toPoly (clmul a b) = toPoly a * toPoly b ∧ Function.Injective toPoly :=
  ⟨toPoly_xor a b, toPoly_clmul a b, toPoly_injective⟩

/-- the long-division loop returns the unique remainder of degree below deg f -/
theorem pmod_is_remainder (a f : Nat) (hf : f ≠ 0) :
    (∃ q, a = clmul q f ^^^ pmod a f) ∧ bitLen (pmod a f) < bitLen f ∧
    (∀ q r, a = clmul q f ^^^ r → bitLen r < bitLen f → pmod a f = r) ∧
    toPoly (pmod a f) = toPoly a %ₘ toPoly f :=
  ⟨pmod_spec a f, bitLen_pmod_lt a f hf, pmod_unique a f, toPoly_pmod a f hf⟩

/-- GF(2)[z]/(f) on natural numbers is a commutative ring of characteristic two with canonical representatives -/
theorem field_ring_laws (F : Field) (hF : F.wellFormed = true) (a b c : Nat) :
    F.mul a b = F.mul b a ∧ F.mul (F.mul a b) c = F.mul a (F.mul b c) ∧
    F.mul a (b ^^^ c) = F.mul a b ^^^ F.mul a c ∧ F.sqr (a ^^^ b) = F.sqr a ^^^ F.sqr b ∧
    (bitLen a ≤ F.m → F.mul a 1 = a) ∧ F.isElem (F.mul a b) = true :=
  ⟨Field.mul_comm F a b, Field.mul_assoc F a b c, Field.mul_xor F a b c, Field.sqr_xor F a b,
    fun ha => Field.mul_one F a (by have := (wf_parts hF).1; omega), (isElem_iff F _).2 (isElem_mul F hF a b)⟩

/-- fb_muln_low / fb_muld_low: the López-Dahab comb with 4-bit windows is the product, for all operands of n digits -/
theorem fb_muln_low_correct (w n a b : Nat) (hw : 4 ∣ w) (hw0 : 0 < w) (ha : a < 2 ^ (w * n)) :
    mulLodah w n a b = clmul a b := by
  have hw4 : w = 4 * (w / 4) := (Nat.mul_div_cancel' hw).symm
  unfold mulLodah
  simp only
  rw [lodah_loop w n a b hw4 (w / 4 - 1) (by omega), combRow_eq, ← clmul_xor_left, digitSum_xor]
  congr 1
  rw [show w / 4 - (w / 4 - 1) = 1 by omega]
  -- the rows k ≥ 1, shifted, and row 0 are the high part and the low nibble of every digit
  have : (fun d => (d >>> (4 * 1)) <<< 4 ^^^ (d >>> (4 * 0)) % 16) = fun d => d := by
    funext d
    rw [Nat.xor_comm]
    exact (split_lo_hi d 4).symm
  rw [this]
  exact digits_sum w n a ha

/-- fb_rdcn_low: digit-wise folding modulo z^m + Σ z^e is the remainder, for every double-length input (`hm`, `hnd` are not needed) -/
theorem fb_rdc_quick_correct (w n m : Nat) (exps : List Nat) (f t : Nat) (hw : 0 < w) (hn : m < w * n) (hm : w ≤ m)
    (hf : f = exps.foldl (fun acc e => acc ^^^ (1 <<< e)) (1 <<< m)) (hnd : exps.Nodup)
    (he : ∀ e ∈ exps, e + w ≤ m) (ht : t < 2 ^ (2 * w * n)) :
    rdcQuick w n m exps t = pmod t f := rdcQuick_eq w n m exps f t hw hn hf he ht

/-- fb_mul_lodah (= fb_mul, fb_mul_integ with FB_POLYN = 283 and the configured multiplication method): comb product, then fast reduction = a·b mod f -/
theorem fb_mul_lodah_correct (F : Field) (w n : Nat) (exps : List Nat) (hw4 : 4 ∣ w) (hw0 : 0 < w) (hn : F.m < w * n)
    (hm : w ≤ F.m) (hf : F.f = exps.foldl (fun acc e => acc ^^^ (1 <<< e)) (1 <<< F.m)) (hnd : exps.Nodup)
    (he : ∀ e ∈ exps, e + w ≤ F.m) (a b : Nat) (ha : a < 2 ^ (w * n)) (hb : b < 2 ^ (w * n)) :
    rdcQuick w n F.m exps (mulLodah w n a b) = F.mul a b := by
  rw [fb_muln_low_correct w n a b hw4 hw0 ha]
  exact rdcQuick_clmul F w n exps hw0 hn hf he a b ha hb

/-- fb_sqr_quick / fb_sqr_integ: squaring by the spreading table, then fast reduction = a² mod f -/
theorem fb_sqr_quick_correct (F : Field) (w n nn : Nat) (exps : List Nat) (hw0 : 0 < w) (hnn : 4 * nn = w * n) (hn : F.m < w * n)
    (hm : w ≤ F.m) (hf : F.f = exps.foldl (fun acc e => acc ^^^ (1 <<< e)) (1 <<< F.m)) (hnd : exps.Nodup)
    (he : ∀ e ∈ exps, e + w ≤ F.m) (a : Nat) (ha : a < 2 ^ (w * n)) :
    rdcQuick w n F.m exps (sqrTable nn a) = F.sqr a := by
  rw [sqrTable_eq nn a (by rw [hnn]; exact ha)]
  exact rdcQuick_clmul F w n exps hw0 hn hf he a a ha ha

/-- fb_mul_karat (one level) with any correct half-size product -/
theorem fb_mul_karat_correct (mul : Nat → Nat → Nat) (hmul : ∀ x y, mul x y = clmul x y) (w n a b : Nat) :
    mulKarat mul w n a b = clmul a b := by
  unfold mulKarat
  simp only [hmul]
  rw [show 2 * w * (n / 2) = 2 * (w * (n / 2)) by ring]
  generalize w * (n / 2) = s
  conv_rhs => rw [split_lo_hi a s, split_lo_hi b s]
  generalize a % 2 ^ s = a0
  generalize a >>> s = a1
  generalize b % 2 ^ s = b0
  generalize b >>> s = b1
  apply toPoly_injective
  simp only [toPoly_xor, toPoly_shiftLeft, toPoly_clmul]
  linear_combination (Polynomial.X ^ s * (toPoly a0 * toPoly b0 + toPoly a1 * toPoly b1)) * (CharTwo.two_eq_zero : (2 : (ZMod 2)[X]) = 0)

/-- fb_mul_basic: shift-and-add with a reduction after every shift -/
theorem fb_mul_basic_correct (F : Field) (hF : F.wellFormed = true) (rdc : Nat → Nat) (hrdc : ∀ x, rdc x = pmod x F.f)
    (a b : Nat) (ha : a < 2 ^ F.m) (hb : b < 2 ^ F.m) : mulBasic F rdc a b = F.mul a b := by
  obtain ⟨h1, _, h3, hf0⟩ := wf_parts hF
  unfold mulBasic
  simp only
  rw [mulBasic_loop F.f rdc hrdc a b (pmod_elem F hF ((bitLen_le_iff b F.m).2 hb)) (F.m - 1)]
  simp only
  rw [show F.m - 1 + 1 = F.m by omega, Nat.mod_eq_of_lt ha]
  have := bitLen_pmod_lt (clmul a b) F.f hf0
  rw [if_neg (by omega)]
  rfl

/-- the specification's square root is the unique reduced element whose square is a; fb_srt_quick (even/odd splitting with any
    srz such that srz² = z) squares to a as well (that its value is reduced, hence that element, is not stated) -/
theorem fb_srt_correct (F : Field) (hF : F.wellFormed = true) (hz : FrobFix F) (a : Nat) (ha : a < 2 ^ F.m) :
    F.sqr (F.sqrt a) = a ∧ (∀ r, bitLen r ≤ F.m → F.sqr r = a → r = F.sqrt a) ∧
    (∀ srz, F.sqr srz = 2 → F.sqr (srtSplit F.mul srz F.m a) = a) := by
  have hae : bitLen a ≤ F.m := (bitLen_le_iff a F.m).mpr ha
  exact ⟨sqr_sqrt F hF hz a hae, fun r hr h => sqrt_unique F hF hz a r hr h, fun srz hs => srtSplit_spec F hF srz hs a ha⟩

/-- the trace is additive, invariant under squaring, and fb_trc_quick (xor of the coefficients at the positions with
    Tr(z^i) = 1) computes it -/
theorem fb_trc_correct (F : Field) (hF : F.wellFormed = true) (hz : FrobFix F) (a b : Nat) (ha : a < 2 ^ F.m) :
    F.trace (a ^^^ b) = F.trace a ^^^ F.trace b ∧ F.trace (F.sqr a) = F.trace a ∧
    (∀ ts : List Nat, ts.Nodup → (∀ i ∈ ts, i < F.m) → (∀ i, i < F.m → F.trace (2 ^ i) = if i ∈ ts then 1 else 0) →
      F.trace a = trcBits a ts) :=
  ⟨trace_xor F hF a b, trace_sqr F hF hz a,
    fun ts hnd _ hts => trace_bits F hF ts hnd hts a ha⟩

/-- half-trace (odd m): c = H(a) solves c² + c = a + Tr(a), i.e. the quadratic equation whenever Tr(a) = 0; H is additive
    (the half-trace table of fb_slv_quick) -/
theorem fb_slv_correct (F : Field) (hF : F.wellFormed = true) (hz : FrobFix F) (hodd : F.m % 2 = 1) (a b : Nat)
    (ha : bitLen a ≤ F.m) :
    F.sqr (F.halfTrace a) ^^^ F.halfTrace a = a ^^^ F.trace a ∧
    F.halfTrace (a ^^^ b) = F.halfTrace a ^^^ F.halfTrace b :=
  ⟨halfTrace_spec F hF hz hodd a ha, halfTrace_xor F hF a b⟩

/-- fb_itr_quick: the table of the images of u·z^(4i) evaluates a ↦ a^(2^b) (an additive map) -/
theorem fb_itr_quick_correct (F : Field) (hF : F.wellFormed = true) (b nn a : Nat) (ha : a < 2 ^ (4 * nn)) :
    itrTable (fun i u => F.sqrN b (u <<< (4 * i))) nn a = F.sqrN b a :=
  itrTable_eq (F.sqrN b) (Field.sqrN_zero F b) (Field.sqrN_xor F b) _ (fun _ _ _ => rfl) nn a ha

/-- the inverse of the specification is an inverse (f irreducible) and inverses are unique -/
theorem fb_inv_correct (F : Field) (hF : F.wellFormed = true) (hz : FrobFix F) (hirr : Irreducible (toPoly F.f)) (a : Nat)
    (ha : bitLen a ≤ F.m) (ha0 : a ≠ 0) :
    F.mul a (F.inv a) = 1 ∧ F.mul a (F.invFermat a) = 1 ∧
    (∀ c c', bitLen c ≤ F.m → bitLen c' ≤ F.m → F.mul a c = 1 → F.mul a c' = 1 → c = c') :=
  ⟨inv_spec F hF hz hirr a ha ha0, invFermat_spec F hF hz hirr a ha ha0,
    fun c c' hc hc' h h' => inv_unique F hF a c c' hc hc' h h'⟩

/-- fb_inv_basic raises a to 2^283 - 2 (2^233 - 2), fb_inv_itoht to 2·(2^u - 1) with u the last value of its chain, in any
    commutative monoid: the loops depend on m only -/
theorem fb_inv_chains_correct {M : Type} [CommMonoid M] (a : M) :
    invBasicChain (monoidOps : MOps M) 283 a = a ^ (2 ^ 283 - 2) ∧
    invBasicChain (monoidOps : MOps M) 233 a = a ^ (2 ^ 233 - 2) ∧
    (∀ chain, ChainValid chain → (invItohtChain (monoidOps : MOps M) chain a).1 =
      a ^ (2 * (2 ^ (invItohtChain (monoidOps : MOps M) chain a).2 - 1))) := by
  refine ⟨?_, ?_, fun chain hc => invItohtChain_eq chain a hc⟩
  · rw [invBasicChain_eq, show invBasicExp 283 = 2 ^ 283 - 2 by decide +kernel]
  · rw [invBasicChain_eq, show invBasicExp 233 = 2 ^ 233 - 2 by decide +kernel]

/-- the chain the library reports for m = 283 is valid -/
example : ChainValid [0, 257, 514, 771, 1024, 1285, 1536, 1799, 2056, 2304, 2570] := by decide

/-! ## the driver's evaluators are the specification -/

theorem fast_evaluators_sound (c : Relic.Spec.BinCurve.Curve) (hF : c.F.wellFormed = true) (a b : Nat)
    (p q : Relic.Spec.BinCurve.Point) (k : Int) (n : Nat) :
    BinFast.clmulW a b = clmul a b ∧ BinFast.pmodS c.F.m (BinFast.setBits c.F.f c.F.m) a = pmod a c.F.f ∧
    (BinFast.FF.ofField c.F).mul a b = c.F.mul a b ∧ (BinFast.FF.ofField c.F).inv a = c.F.inv a ∧
    BinFast.add (BinFast.FC.ofCurve c) p q = Relic.Spec.BinCurve.add c p q ∧
    BinFast.mulWith (BinFast.FC.ofCurve c) (some (BinFast.dblChain (BinFast.FC.ofCurve c) n p)) p k = Relic.Spec.BinCurve.mul c p k ∧
    BinFast.mulWith (BinFast.FC.ofCurve c) none p k = Relic.Spec.BinCurve.mul c p k :=
  ⟨Relic.Lemmas.BinFast.clmulW_eq a b, Relic.Lemmas.BinFast.pmodS_eq c.F hF a,
    congrFun (congrFun (Relic.Lemmas.BinFast.FF.mul_eq c.F hF) a) b,
    Relic.Lemmas.BinFast.FF.inv_eq c.F hF a, Relic.Lemmas.BinFast.add_eq c hF p q,
    (Relic.Lemmas.BinFast.mulWith_eq c hF p k n).1, (Relic.Lemmas.BinFast.mulWith_eq c hF p k n).2⟩

/-! ## scalar multiplications over an abstract commutative group -/

section group
variable {G : Type} [AddCommGroup G]

/-- eb_mul_lwnaf / eb_mul_fix_lwnaf on ordinary curves: width-w NAF of |k| (no reduction), table of odd multiples -/
theorem eb_mul_lwnaf_plain_correct (p : G) (k : ℤ) (w : Nat) (hw : 2 ≤ w) (cap : Nat) (ds : List Int)
    (h : Rec.recNaf cap k.natAbs w = some ds) :
    (if k < 0 then -(mulSigned gops (tabOdd gops p (2 ^ (w - 2))) 0 ds) else mulSigned gops (tabOdd gops p (2 ^ (w - 2))) 0 ds)
      = k • p :=
  mulSigned_naf_signed p k w hw cap ds h

/-- eb_mul_basic: binary NAF, sign applied at the end; any integer k (the table of odd multiples for w = 2 is [P]) -/
theorem eb_mul_basic_correct (p : G) (k : ℤ) (cap : Nat) (ds : List Int) (h : Rec.recNaf cap k.natAbs 2 = some ds) :
    (if k < 0 then -(mulSigned gops [p] 0 ds) else mulSigned gops [p] 0 ds) = k • p :=
  mulSigned_naf_signed p k 2 le_rfl cap ds h

/-- eb_mul_rwnaf on ordinary curves (RLC_WIDTH = 4): right-to-left with buckets -/
theorem eb_mul_rwnaf_plain_correct (p : G) (k : ℤ) (cap : Nat) (ds : List Int) (h : Rec.recNaf cap k.natAbs 4 = some ds) :
    (if k < 0 then -(mulRnaf4 gops p ds) else mulRnaf4 gops p ds) = k • p := by
  obtain ⟨hv, hd, _⟩ := Rec.recNaf_spec cap _ 4 (by norm_num) ds h
  rw [mulRnaf4_spec p ds (by intro d hdm; simpa using hd d hdm), hv]
  exact neg_natAbs_zsmul k p

/-- the blinded scalar of eb_mul_lodah: t = a + r (a = |k| mod r), or t + r when bit nb of t is clear, has exactly nb + 1 bits
    (nb = bits of r) -/
theorem lodah_scalar (r nb a l : Nat) (hlo : 2 ^ (nb - 1) ≤ r) (hhi : r < 2 ^ nb) (hnb : 1 ≤ nb) (ha : a < r)
    (hl : l = if (a + r).testBit nb then a + r else a + r + r) :
    2 ^ nb ≤ l ∧ l < 2 ^ (nb + 1) ∧ (l = a + r ∨ l = a + r + r) := by
  have h2 := Rec.two_pow_eq nb hnb
  have hp : 2 ^ (nb + 1) = 2 * 2 ^ nb := Nat.pow_succ'
  split at hl
  · rename_i hb
    have hge := Nat.ge_two_pow_of_testBit hb
    have : 2 ^ nb ≤ l ∧ l < 2 ^ (nb + 1) := by omega
    exact ⟨this.1, this.2, Or.inl hl⟩
  · rename_i hb
    have hlt : a + r < 2 ^ nb := lt_two_pow_of_testBit_false (by omega) (by simpa using hb)
    have : 2 ^ nb ≤ l ∧ l < 2 ^ (nb + 1) := by omega
    exact ⟨this.1, this.2, Or.inr hl⟩

/-- eb_mul_lodah (|k| is reduced modulo r before it is blinded): for EVERY integer k and every point of order dividing r, the
    ladder over the bits nb-1 … 0 of the blinded scalar (implicit leading one at position nb = bits of r), with the sign applied
    at the end, returns k•P -/
theorem eb_mul_lodah_correct (p : G) (r nb : Nat) (hr : (r : ℤ) • p = 0) (hlo : 2 ^ (nb - 1) ≤ r) (hhi : r < 2 ^ nb)
    (hnb : 1 ≤ nb) (k : ℤ) :
    (if k < 0 then
        -(mulLadder gops p ((List.range nb).reverse.map fun i =>
          (if (k.natAbs % r + r).testBit nb then k.natAbs % r + r else k.natAbs % r + r + r).testBit i))
      else mulLadder gops p ((List.range nb).reverse.map fun i =>
          (if (k.natAbs % r + r).testBit nb then k.natAbs % r + r else k.natAbs % r + r + r).testBit i)) = k • p := by
  have hr0 : 0 < r := lt_of_lt_of_le (Nat.two_pow_pos _) hlo
  obtain ⟨hge, hlt, hl⟩ := lodah_scalar r nb (k.natAbs % r) _ hlo hhi hnb (Nat.mod_lt _ hr0) rfl
  rw [mulLadder_spec, bitsVal_testBits_top nb _ hge hlt]
  -- the multiples of r added for blinding act trivially
  rcases hl with h | h <;> rw [h] <;> simp only [Nat.cast_add, add_zsmul, hr, add_zero] <;>
    exact natAbs_mod_zsmul p r hr k

/-- eb_mul_halve (cofactor-2 branch): halving is multiplication by c = (r+1)/2 on the group of odd order r; `naf` is the width-w NAF
    of kk = k·2^(l-1) mod r (any kk < 2^l congruent to it); the digit at position l is 0 or 1 (`recNaf_top`), which is what the code tests -/
theorem eb_mul_halve_correct (p : G) (r : ℕ) (hr : (r : ℤ) • p = 0) (c : ℤ) (hc : (2 * c - 1) % (r : ℤ) = 0)
    (w l : Nat) (hw : 2 ≤ w) (hl : 1 ≤ l) (k : ℤ) (cap kk : Nat) (naf : List Int)
    (h : Rec.recNaf cap kk w = some naf) (hkk : ((kk : ℤ) - k * 2 ^ (l - 1)) % (r : ℤ) = 0) (hlt : kk < 2 ^ l) :
    mulHalve gops (fun x => c • x) w l p naf = k • p := by
  obtain ⟨hv, hd, _, hlen, _⟩ := Rec.recNaf_spec cap kk w hw naf h
  have hb : Rec.bitLen kk ≤ l := Rec.bitLen_le_of_lt hlt
  exact mulHalve_correct p r hr c hc w l hw hl k naf hd (by omega)
    (Rec.recNaf_top cap kk w l hw naf h hlt) (by rw [hv]; exact hkk)

/-- eb_mul_fix_basic (|k| reduced modulo r, table 2^i·P for i < nb = bits of r, sign applied at the end): k•P for EVERY integer k
    and every point of order dividing r -/
theorem eb_mul_fix_basic_correct (p : G) (r nb : Nat) (hr0 : 0 < r) (hr : (r : ℤ) • p = 0) (hhi : r < 2 ^ nb) (k : ℤ) :
    (if k < 0 then -(mulFixBasic gops (tabPow2 gops p nb) 0 (k.natAbs % r))
      else mulFixBasic gops (tabPow2 gops p nb) 0 (k.natAbs % r)) = k • p := by
  rw [mulFixBasic_spec p nb _ (lt_trans (Nat.mod_lt _ hr0) hhi)]
  exact natAbs_mod_zsmul p r hr k

/-- eb_mul_fix_combs (= eb_mul_gen; |k| reduced modulo r, comb of depth d over l columns with r < 2^(l·d)): k•P for EVERY integer k -/
theorem eb_mul_fix_combs_correct (p : G) (r l d : Nat) (hr0 : 0 < r) (hr : (r : ℤ) • p = 0) (hl : 0 < l) (hhi : r < 2 ^ (l * d))
    (k : ℤ) :
    (if k < 0 then -(mulCombs gops (tabCombs gops p l d) (k.natAbs % r) l d)
      else mulCombs gops (tabCombs gops p l d) (k.natAbs % r) l d) = k • p := by
  have _ := hl
  rw [mulCombs_spec p _ l d (lt_trans (Nat.mod_lt _ hr0) hhi)]
  exact natAbs_mod_zsmul p r hr k

/-- eb_mul_sim_inter on ordinary curves: two width-w NAFs interleaved (signs folded into the digits by the code) -/
theorem eb_mul_sim_inter_plain_correct (p q : G) (k m : Nat) (w : Nat) (hw : 2 ≤ w) (cap : Nat) (n0 n1 : List Int)
    (h0 : Rec.recNaf cap k w = some n0) (h1 : Rec.recNaf cap m w = some n1) :
    simInter gops (tabOdd gops p (2 ^ (w - 2))) (tabOdd gops q (2 ^ (w - 2))) 0 n0 n1 = (k : ℤ) • p + (m : ℤ) • q :=
  simInter_naf p q cap k m w w hw hw n0 n1 h0 h1

/-- eb_mul_sim_trick: fixed windows of width w, table of i·P + j·Q -/
theorem eb_mul_sim_trick_correct (p q : G) (k m : Nat) (w : Nat) (hw : 0 < w) (hk : 0 < k) (hm : 0 < m) (cap : Nat)
    (w0 w1 : List Int) (h0 : Rec.recWin cap k w = some w0) (h1 : Rec.recWin cap m w = some w1) :
    simTrick gops (tabTrick gops p q w) 0 w w0 w1 = (k : ℤ) • p + (m : ℤ) • q :=
  have _ := hk
  have _ := hm
  simTrick_win p q cap k m w hw w0 w1 h0 h1

/-- eb_mul_sim_joint: joint sparse form -/
theorem eb_mul_sim_joint_correct (p q : G) (k m : Nat) (cap : Nat) (j0 j1 : List Int)
    (h : Rec.recJsf cap k m = some (j0, j1)) :
    simJoint gops p q j0 j1 = (k : ℤ) • p + (m : ℤ) • q :=
  simJoint_jsf p q cap k m j0 j1 h

end group

/-! ## Koblitz curves -/

-- G is a module over a commutative ring R ∋ τ with τ² = μτ - 2; the Frobenius acts as x ↦ τ • x and τ^m fixes the point
-- (`hfix`: true of every point of E(GF(2^m)))

section koblitz
variable {G : Type} [AddCommGroup G] {R : Type} [CommRing R] [Module R G] (τ : R) (u : ℤ)

/-- bn_rec_tnaf_mod + bn_rec_tnaf: the digit string denotes k modulo τ^m - 1, digits zero or odd below 2^(w-1) -/
theorem bn_rec_tnaf_correct (hτ : τ ^ 2 = (u : R) * τ - 2) (hu : u = 1 ∨ u = -1) (cap k m w : Nat) (hw : 2 ≤ w ∧ w ≤ 8)
    (ds : List Int) (h : recTnaf cap k u m w = some ds) :
    (∃ ρ : R, (k : R) = evalTau τ u w ds + (τ ^ m - 1) * ρ) ∧
    (∀ d ∈ ds, d = 0 ∨ (d % 2 ≠ 0 ∧ d.natAbs < 2 ^ (w - 1))) :=
  have _ := hu
  recTnaf_spec τ u hτ cap k m w hw ds h

/-- the left-to-right τ-adic loop over a table of the n = 2^(w-2) points α_j • P (eb_tab, Koblitz branch), for the scalar the
    recoding receives -/
theorem mulTnaf_reduced (hτ : τ ^ 2 = (u : R) * τ - 2) (m w : Nat) (hw : 3 ≤ w ∧ w ≤ 8) (p : G)
    (hfix : (τ ^ m - 1 : R) • p = 0) (tab : List G) (n : Nat) (hlen : tab.length = n) (hn : 2 * n = 2 ^ (w - 1))
    (htab : ∀ j, j < n → tab.getD j 0 = (ev τ (alpha u w (2 * (j : ℤ) + 1)) : R) • p)
    (cap k : Nat) (ds : List Int) (h : recTnaf cap k u m w = some ds) :
    mulTnaf gops (fun x => τ • x) tab 0 ds = (k : ℤ) • p := by
  obtain ⟨hk, hd⟩ := recTnaf_spec τ u hτ cap k m w ⟨by omega, hw.2⟩ ds h
  rw [mulTnaf_spec τ u w hw.1 p _ (by rwa [hlen]) ds (by rwa [hlen, hn])]
  exact kbltz_mul_correct τ u m w p hfix k ds hk

/-- eb_mul_lwnaf on Koblitz curves: |k| is reduced modulo the group order N = h·r (N•P = O for every point of the curve), recoded,
    multiplied by the τ-adic loop, and the sign is applied at the end: k•P for EVERY integer k on which the recoding returns (`h`; that
    it always does within its fuel and buffer is not proved) -/
theorem eb_mul_ltnaf_correct (hτ : τ ^ 2 = (u : R) * τ - 2) (hu : u = 1 ∨ u = -1) (m : Nat) (p : G)
    (hfix : (τ ^ m - 1 : R) • p = 0) (N : Nat) (hN : (N : ℤ) • p = 0) (cap : Nat) (k : ℤ) (ds : List Int)
    (h : recTnaf cap (k.natAbs % N) u m 4 = some ds) :
    (if k < 0 then -(mulTnaf gops (fun x => τ • x) (tabKbltz4 gops (fun x => τ • x) u p) 0 ds)
      else mulTnaf gops (fun x => τ • x) (tabKbltz4 gops (fun x => τ • x) u p) 0 ds) = k • p := by
  rw [mulTnaf_reduced τ u hτ m 4 (by norm_num) p hfix _ 4 rfl rfl (tabKbltz4_spec τ u hτ hu p) cap _ ds h]
  exact natAbs_mod_zsmul p N hN k

/-- eb_mul_fix_lwnaf on Koblitz curves (RLC_DEPTH = 5): k•P for EVERY integer k on which the recoding returns -/
theorem eb_mul_fix_kbltz_correct (hτ : τ ^ 2 = (u : R) * τ - 2) (hu : u = 1 ∨ u = -1) (m : Nat) (p : G)
    (hfix : (τ ^ m - 1 : R) • p = 0) (N : Nat) (hN : (N : ℤ) • p = 0) (cap : Nat) (k : ℤ) (ds : List Int)
    (h : recTnaf cap (k.natAbs % N) u m 5 = some ds) :
    (if k < 0 then -(mulTnaf gops (fun x => τ • x) (tabKbltz5 gops (fun x => τ • x) u p) 0 ds)
      else mulTnaf gops (fun x => τ • x) (tabKbltz5 gops (fun x => τ • x) u p) 0 ds) = k • p := by
  rw [mulTnaf_reduced τ u hτ m 5 (by norm_num) p hfix _ 8 rfl rfl (tabKbltz5_spec τ u hτ hu p) cap _ ds h]
  exact natAbs_mod_zsmul p N hN k

/-- eb_mul_rwnaf on Koblitz curves (RLC_WIDTH = 4): k•P for EVERY integer k on which the recoding returns -/
theorem eb_mul_rtnaf_correct (hτ : τ ^ 2 = (u : R) * τ - 2) (hu : u = 1 ∨ u = -1) (m : Nat) (p : G)
    (hfix : (τ ^ m - 1 : R) • p = 0) (N : Nat) (hN : (N : ℤ) • p = 0) (cap : Nat) (k : ℤ) (ds : List Int)
    (h : recTnaf cap (k.natAbs % N) u m 4 = some ds) :
    (if k < 0 then -(mulTnafRtl4 gops (fun x => τ • x) u p ds) else mulTnafRtl4 gops (fun x => τ • x) u p ds) = k • p := by
  obtain ⟨hk, hd⟩ := recTnaf_spec τ u hτ cap _ m 4 (by norm_num) ds h
  rw [mulTnafRtl4_spec τ u hτ hu p ds (by intro d hdm; simpa using hd d hdm), kbltz_mul_correct τ u m 4 p hfix _ ds hk]
  exact natAbs_mod_zsmul p N hN k

end koblitz

/-- fb_inv_sim (Montgomery's trick as coded: forward products, one call of fb_inv, backward pass) for every list length ≥ 1 and any
    fb_inv meeting its contract: the error of fb_inv when some element is zero, else every output is the inverse of its input -/
theorem fb_inv_sim_correct (F : Field) (hF : F.wellFormed = true) (hirr : Irreducible (toPoly F.f))
    (inv : Nat → Option Nat) (hinv : Relic.Lemmas.FbInvSim.InvContract F inv)
    (as : List Nat) (hne : as ≠ []) (hel : ∀ a ∈ as, bitLen a ≤ F.m) :
    ((∃ a ∈ as, a = 0) → FbInv.invSim F.mul inv as = none) ∧
    ((∀ a ∈ as, a ≠ 0) → ∃ out, FbInv.invSim F.mul inv as = some out ∧
      List.Forall₂ (fun a x => bitLen x ≤ F.m ∧ F.mul a x = 1) as out) := by
  cases as with
  | nil => exact absurd rfl hne
  | cons a0 rest =>
    have := Fact.mk hirr
    obtain ⟨h0, h1⟩ := Relic.Lemmas.SimInv.inverses_or_error (ψ F) (ψ_mul F) (bitLen · ≤ F.m) (isElem_mul F hF) 0
      (fun a ha => ⟨ψ_eq_zero F hF ha, fun e => e ▸ ψ_zero F⟩) inv hinv.1
      (fun a ha ha0 => let ⟨u, hu, hul, hu1⟩ := hinv.2 a ha ha0; ⟨u, hu, hul, (ψ_mul_eq_one_iff F hF a u).2 hu1⟩) a0 rest hel
    simp only [FbInv.invSim, Relic.Lemmas.FbInvSim.simProds_eq, Relic.Lemmas.FbInvSim.simBack_eq,
      Relic.Lemmas.SimInv.getLastD_prods]
    refine ⟨fun hz => by rw [h0 hz], fun hnz => ?_⟩
    obtain ⟨u, hu, hf⟩ := h1 hnz
    rw [hu]
    exact ⟨_, rfl, hf.imp fun a x hx => ⟨hx.1, (ψ_mul_eq_one_iff F hF a x).1 hx.2⟩⟩

/-- the contract holds for the inversion the driver plugs in (zero reported, else the specification's inverse) -/
theorem fb_inv_contract (F : Field) (hF : F.wellFormed = true) (hz : FrobFix F) (hirr : Irreducible (toPoly F.f)) :
    Relic.Lemmas.FbInvSim.InvContract F (fun x => if x = 0 then none else some (F.inv x)) := by
  refine ⟨by simp, fun a ha ha0 => ⟨F.inv a, by simp [ha0], isElem_inv F hF a, inv_spec F hF hz hirr a ha ha0⟩⟩

/-! ## fb_inv_binar / fb_inv_almos / fb_inv_exgcd -/

/-- fb_inv_binar as coded (two halving loops, exits through u = 1 or v = 1, comparison by digit count and top digit, any digit width w):
    zero is reported; whatever the loop returns is the reduced inverse.
    Full statement, not proved: `a ≠ 0 → bitLen a ≤ F.m → ∃ c, invBinar w F a = some c` (the fuel 2(bitLen a + bitLen f) + 2 suffices;
    the driver reports a line on which the model runs out of fuel as a model difference). -/
theorem fb_inv_binar_partial (F : Field) (hF : F.wellFormed = true) (hirr : Irreducible (toPoly F.f)) (w a : Nat) :
    (a = 0 → FbInv.invBinar w F a = none) ∧ (∀ c, FbInv.invBinar w F a = some c → bitLen c ≤ F.m ∧ F.mul a c = 1) := by
  refine ⟨fun h => by simp [FbInv.invBinar, h], Relic.Lemmas.Ret.guard fun _ => Relic.Lemmas.Ret.mono
    (Relic.Lemmas.FbInvEuclid.binLoop_spec F hF hirr w a _ _ _ _ _
      (Relic.Lemmas.FbInvEuclid.Cof.init F hF a).1 (Relic.Lemmas.FbInvEuclid.Cof.init F hF a).2)
    fun _ h => h.exit hF⟩

/-- fb_inv_almos as coded (one halving loop, swap when u is shorter, add): same statement; termination not proved -/
theorem fb_inv_almos_partial (F : Field) (hF : F.wellFormed = true) (hirr : Irreducible (toPoly F.f)) (w a : Nat) :
    (a = 0 → FbInv.invAlmos w F a = none) ∧ (∀ c, FbInv.invAlmos w F a = some c → bitLen c ≤ F.m ∧ F.mul a c = 1) := by
  refine ⟨fun h => by simp [FbInv.invAlmos, h], Relic.Lemmas.Ret.guard fun _ => Relic.Lemmas.Ret.mono
    (Relic.Lemmas.FbInvEuclid.almLoop_spec F hF hirr w a _ _ _ _ _
      (Relic.Lemmas.FbInvEuclid.Cof.init F hF a).1 (Relic.Lemmas.FbInvEuclid.Cof.init F hF a).2)
    fun _ h => h.exit hF⟩

/-- fb_inv_exgcd as coded (swap when the degree difference is negative, u += v·z^j, g1 += g2·z^j, final conditional addition of f):
    zero is reported; whatever is returned satisfies a·c = 1 in GF(2)[z]/(f) (f need not be irreducible) and, for a reduced a, is reduced
    (invariant: deg g1 + deg v ≤ m, deg g2 + deg u ≤ m, so the cofactor has degree ≤ m and the final addition of f clears z^m).
    Full statement, not proved: termination within the fuel. -/
theorem fb_inv_exgcd_partial (F : Field) (hF : F.wellFormed = true) (a : Nat) :
    (a = 0 → FbInv.invExgcd F a = none) ∧ (∀ c, FbInv.invExgcd F a = some c → F.mul a c = 1 ∧ (bitLen a ≤ F.m → bitLen c ≤ F.m)) :=
  ⟨(Relic.Lemmas.FbInvEuclid.invExgcd_partial F hF a).1, fun c h =>
    ⟨(Relic.Lemmas.FbInvEuclid.invExgcd_partial F hF a).2 c h, fun ha => Relic.Lemmas.FbInvEuclid.invExgcd_isElem F hF a c ha h⟩⟩

/-- the value returned by the models of fb_inv_binar / fb_inv_almos / fb_inv_exgcd is the specification's inverse: the model column and
    the specification of the driver agree whenever a model returns -/
theorem fb_inv_euclid_value (F : Field) (hF : F.wellFormed = true) (hz : FrobFix F) (hirr : Irreducible (toPoly F.f)) (w a c : Nat)
    (ha : bitLen a ≤ F.m)
    (h : FbInv.invBinar w F a = some c ∨ FbInv.invAlmos w F a = some c ∨ FbInv.invExgcd F a = some c) : c = F.inv a := by
  obtain ⟨ha0, hc⟩ : a ≠ 0 ∧ bitLen c ≤ F.m ∧ F.mul a c = 1 := by
    -- a model that reports zero and returns c was not given zero
    have key : ∀ {o : Option Nat}, (a = 0 → o = none) → o = some c → a ≠ 0 :=
      fun h0 h e => Option.some_ne_none c (h.symm.trans (h0 e))
    rcases h with h | h | h
    · exact ⟨key (fb_inv_binar_partial F hF hirr w a).1 h, (fb_inv_binar_partial F hF hirr w a).2 c h⟩
    · exact ⟨key (fb_inv_almos_partial F hF hirr w a).1 h, (fb_inv_almos_partial F hF hirr w a).2 c h⟩
    · exact ⟨key (fb_inv_exgcd_partial F hF a).1 h, ((fb_inv_exgcd_partial F hF a).2 c h).2 ha, ((fb_inv_exgcd_partial F hF a).2 c h).1⟩
  exact inv_unique F hF a c (F.inv a) hc.1 (isElem_inv F hF a) hc.2 (inv_spec F hF hz hirr a ha ha0)

/-! ## non-vacuity -/

/-- the models run to completion and return the inverse on a concrete field: GF(2^7), a = z^6 + z^5 + z^2 (all three, 64-bit digits) -/
example : FbInv.invBinar 64 ⟨7, 131⟩ 100 = some ((⟨7, 131⟩ : Field).inv 100) ∧ FbInv.invAlmos 64 ⟨7, 131⟩ 100 = some ((⟨7, 131⟩ : Field).inv 100) ∧
    FbInv.invExgcd ⟨7, 131⟩ 100 = some ((⟨7, 131⟩ : Field).inv 100) := by
  decide +kernel

/-- a field the hypotheses apply to: GF(2^7) = GF(2)[z]/(z^7 + z + 1): well-formed, Frobenius check, and a product -/
example : (⟨7, 131⟩ : Field).wellFormed = true ∧ FrobFix ⟨7, 131⟩ ∧ (⟨7, 131⟩ : Field).mul 100 77 = 13 := by
  refine ⟨by decide, ?_, by decide⟩
  show (⟨7, 131⟩ : Field).sqrN 7 2 = 2
  decide

/-- the τ-adic loop runs in Z[τ] acting on itself (μ = 1): 9 = Σ α(d_i) τ^i -/
example : evalDigits 1 4 ((recTnaf 100 9 1 7 4).getD []) = tnafMod 9 1 7 ∧ congTauM 1 7 (tnafMod 9 1 7) (9, 0) = true := by
  decide +kernel

end Relic.Props.C16
