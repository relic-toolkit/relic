/-
C19 — Error handling and parameter selection behave as well-defined state machines.
Error handling. Model: the macros of include/relic_err.h as a machine over the context fields (Model/Err.lean `mEval`);
specification: structured semantics (`sEval`): a throw transfers control to the nearest enclosing handler,
the finalisation block of every exited protected block runs exactly once, the handler chain after a block
is the chain before it, the sticky code reads as error until fetched.
Parameter selection (second half of the file): selection by identifier over the tables of Model/ParamSel.lean does not depend on what
was selected before.
-/
import RelicVerif.Lemmas.Err
import RelicVerif.Model.ParamSel

namespace Relic.Props.C19
open Relic.Model.Err

/-- every program, any nesting depth and order of try / throw / rethrow / catch-with-variable / catch-any /
    finally / throws outside any block: same action trace, same final sticky code, same final chain -/
theorem err_machine_refines_structured (p : Prog) : mRun true p = sRun p := mRun_eq_sRun p

/-- `latch = false`: the macro with ctx->caught read again after FINALLY, as in /repo before commit ec31a13, is right on programs
    without a protected block inside FINALLY -/
theorem err_machine_original_partial (p : Prog) (h : finallyFree p = true) : mRun false p = sRun p := by
  rw [← mRun_eq_sRun p]
  unfold mRun
  rw [mEval_orig_eq p h]

/-- … and wrong outside that fragment: (a) a successful nested block inside FINALLY suppresses the pending handler,
    (b) a nested block that catches its own error inside FINALLY triggers the handler -/
theorem err_machine_original_counter_a :
    mRun false (.tryc (.throw 5) (.act 1) (.tryc (.act 2) .skip .skip false) false)
      ≠ sRun (.tryc (.throw 5) (.act 1) (.tryc (.act 2) .skip .skip false) false) := by decide

theorem err_machine_original_counter_b :
    mRun false (.tryc (.act 3) (.act 1) (.tryc (.throw 5) (.act 4) .skip false) false)
      ≠ sRun (.tryc (.act 3) (.act 1) (.tryc (.throw 5) (.act 4) .skip false) false) := by decide

/-- the sticky code: after a program that ends with an err_get_code observation the code is success -/
theorem err_code_reset (p : Prog) : (sRun (.seq p .getcode)).2.1 = 0 ∨
    ∃ e, (sEval p 0 {}).1 = .thrown e := by
  unfold sRun
  simp only [sEval]
  split
  · left; rfl
  · rename_i r hr
    right
    cases h : (sEval p 0 {}).1 with
    | normal =>
      exfalso
      apply hr (sEval p 0 {}).2
      rw [← h]
    | thrown e => exact ⟨e, rfl⟩

/-- nested blocks, a rethrow, a catch variable and FINALLY in one program -/
example : sRun (.seq (.tryc (.tryc (.throw 1) (.throw 0) (.act 9) true) (.act 8) (.act 10) true) .getcode)
    = ([.act 9, .caught 1, .act 10, .caught 99, .act 8, .code 1], 0, true) := by decide

/-! ### parameter selection -/
-- Model: Model/ParamSel.lean over the tables extracted from the source on every run. Tie: the re-parameterisation stream (every ordered
-- pair of selectable curves, the same curve after a field change and after core_clean/core_init, rejected identifiers in between)
-- compared with a fresh process.
section Selection
open Relic.Model.Param

/-- a selection is either accepted, and then installs a set that does not depend on what was installed before, or rejected, and then
    changes nothing; which of the two depends on the identifier and the tables only -/
theorem selectCurve_cases (fs : List FieldParam) (cs : List CurveParam) (id : Nat) :
    (∃ new, ∀ st, selectCurve fs cs st id = (new, true)) ∨ (∀ st, selectCurve fs cs st id = (st, false)) := by
  unfold selectCurve
  cases cs.find? (·.id == id) with
  | none => exact .inr fun _ => rfl
  | some c =>
    dsimp only
    cases lookupField fs c.field with
    | none => exact .inr fun _ => rfl
    | some f => exact .inl ⟨_, fun _ => rfl⟩

/-- "after any sequence of parameter selections the library computes exactly what a freshly initialised library with the last selection
    computes": whatever was selected (or rejected) before, after an accepted selection the installed set is the one a fresh context gets -/
theorem selection_history_independent (fs : List FieldParam) (cs : List CurveParam) (init fresh : CurveSel) (hist : List Nat) (id : Nat)
    (h : (selectCurve fs cs fresh id).2 = true) :
    selStep fs cs (hist.foldl (selStep fs cs) init) id = selStep fs cs fresh id := by
  rcases selectCurve_cases fs cs id with ⟨new, hn⟩ | hr
  · rw [selStep, selStep, hn, hn]
  · rw [hr] at h
    cases h

/-- rejected selections in between leave no trace -/
theorem rejected_selection_no_trace (fs : List FieldParam) (cs : List CurveParam) (st : CurveSel) (bad : Nat)
    (h : (selectCurve fs cs st bad).2 = false) : selStep fs cs st bad = st := by
  rcases selectCurve_cases fs cs bad with ⟨new, hn⟩ | hr
  · rw [hn] at h
    cases h
  · rw [selStep, hr]

end Selection

end Relic.Props.C19
