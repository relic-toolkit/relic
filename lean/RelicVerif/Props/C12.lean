/-
C12 — Subgroup membership tests are exact; group exponentiation is repeated operation.

The specification the driver evaluates per line is the definition itself (on the curve, not the identity, r•P = O;
a ≠ 1 ∧ a^r = 1; square-and-multiply).  The theorems here justify the two places where that specification is not
literally the property's wording:
 * the property asks for "in the cyclotomic subgroup and annihilated by r"; in a cyclic group (the multiplicative group
   of a finite field) every element killed by r lies in every subgroup whose order is a multiple of r — so `a^r = 1`
   alone is the same predicate;
 * exponentiation / multiplication by k on elements of order dividing r depends only on k mod r, so the specification may
   reduce the scalar, and negative scalars are the inverse of the positive ones.
-/
import Mathlib.GroupTheory.SpecificGroups.Cyclic
import Mathlib.GroupTheory.OrderOfElement
import RelicVerif.Lemmas.PcValid

namespace Relic.Props.C12

section Cyclic
variable {G : Type} [Group G] [Fintype G] [IsCyclic G]

/-- in a finite cyclic group, an element killed by r belongs to every subgroup whose order is divisible by r:
    "a^r = 1" implies membership in the cyclotomic subgroup (order Φ₁₂(p), a multiple of r) -/
theorem pow_eq_one_mem_of_dvd_card (H : Subgroup G) [Fintype H] (r : ℕ) (hr : r ∣ Fintype.card H) (a : G)
    (ha : a ^ r = 1) : a ∈ H := by
  classical
  -- the elements x with x^m = 1 (m = |H|) are at most m in a cyclic group, and H consists of m of them
  have hm0 : 0 < Fintype.card H := Fintype.card_pos
  have ham : a ^ Fintype.card H = 1 := by
    obtain ⟨c, hc⟩ := hr
    rw [hc, pow_mul, ha, one_pow]
  have hS : (Finset.univ.filter (fun x : G => x ^ Fintype.card H = 1)).card ≤ Fintype.card H :=
    IsCyclic.card_pow_eq_one_le hm0
  have hTS : Finset.univ.filter (fun x : G => x ∈ H) ⊆ Finset.univ.filter (fun x : G => x ^ Fintype.card H = 1) := by
    intro x hx
    simp only [Finset.mem_filter, Finset.mem_univ, true_and] at hx ⊢
    have h : (⟨x, hx⟩ : H) ^ Fintype.card H = 1 := pow_card_eq_one
    exact congrArg Subtype.val h
  have hT : (Finset.univ.filter (fun x : G => x ∈ H)).card = Fintype.card H := by
    rw [Fintype.card_subtype]
  have heq := Finset.eq_of_subset_of_card_le hTS (by rw [hT]; exact hS)
  have hmem : a ∈ Finset.univ.filter (fun x : G => x ^ Fintype.card H = 1) := by
    simp only [Finset.mem_filter, Finset.mem_univ, true_and]; exact ham
  rw [← heq] at hmem
  simpa using hmem

end Cyclic

section Exp
variable {G : Type} [Group G]

/-- exponentiation of an element killed by r depends on the exponent modulo r only -/
theorem zpow_mod_of_pow_eq_one (a : G) (r : ℕ) (ha : a ^ r = 1) (k : ℤ) : a ^ k = a ^ (k % (r : ℤ)) :=
  zpow_eq_zpow_emod' k ha

/-- … and is repeated application of the group operation -/
theorem zpow_is_repeated_operation (a : G) (k : ℤ) : a ^ (k + 1) = a ^ k * a ∧ a ^ (0 : ℤ) = 1 ∧ a ^ (-k) = (a ^ k)⁻¹ :=
  ⟨zpow_add_one a k, zpow_zero a, zpow_neg a k⟩

end Exp

section Add
variable {A : Type} [AddGroup A]

/-- the additive form used for G1 and G2 -/
theorem zsmul_mod_of_nsmul_eq_zero (P : A) (r : ℕ) (hP : r • P = 0) (k : ℤ) : k • P = (k % (r : ℤ)) • P :=
  zpow_eq_zpow_emod' (G := Multiplicative A) (x := Multiplicative.ofAdd P) k hP

end Add

end Relic.Props.C12
