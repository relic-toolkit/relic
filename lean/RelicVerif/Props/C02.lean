/-
C02 — Prime-field arithmetic realises Z/pZ with canonical results (digit-level layer, Montgomery form).
`⟦a⟧ = val a · R⁻¹ mod p` is the residue a raw digit vector denotes; the theorems below are stated with
R on the other side to avoid the inverse. The algorithm layer (exponentiation, inversion, square root,
Euler-criterion symbol) is in Props/C02B.lean (models of Model/FpAlg.lean and Model/FpAlgCrt.lean); what remains class C
(divstep / Pornin variants, the general branch of fp_crt, fp_is_cub) is compared with the Z/pZ specification by the correspondence run only.
-/
import RelicVerif.Lemmas.Fp
import RelicVerif.Props.C02B

namespace Relic.Props.C02
open Relic.Model

/-- modular add/sub/neg/dbl: canonical result, value = the residue -/
theorem fp_add_sub_canonical (c : FpCtx) (hc : c.WF) (a b : List Nat) (ha : c.El a) (hb : c.El b) :
    (c.El (fpAddm c a b) ∧ val c.B (fpAddm c a b) = (val c.B a + val c.B b) % c.pv) ∧
    (c.El (fpSubm c a b) ∧ val c.B (fpSubm c a b) = (val c.B a + c.pv - val c.B b) % c.pv) ∧
    (c.El (fpNegm c a) ∧ val c.B (fpNegm c a) = (c.pv - val c.B a) % c.pv) ∧
    (c.El (fpDblm c a) ∧ val c.B (fpDblm c a) = (2 * val c.B a) % c.pv) :=
  ⟨fpAddm_spec c hc a b ha hb, fpSubm_spec c hc a b ha hb, fpNegm_spec c hc a ha, fpDblm_spec c hc a ha⟩

theorem fp_hlv_canonical (c : FpCtx) (hc : c.WF) (a : List Nat) (ha : c.El a) :
    c.El (fpHlvm c a) ∧ (2 * val c.B (fpHlvm c a)) % c.pv = val c.B a := by
  have hB := FpAux.one_lt_B c hc
  have hodd := hc.hodd
  obtain ⟨al, ad, av⟩ := ha
  have hpar : val c.B a % 2 = a.getD 0 0 % 2 := val_mod_two c.w hc.hw a
  -- first half: T = t + carry·R is a or a + p, whichever is even
  obtain ⟨t, carry, hx, tl, td, hc1, hev, hlt, hmod⟩ : ∃ t carry,
      (if a.getD 0 0 % 2 = 1 then addnLow c.B a c.p 0 else (a, 0)) = (t, carry) ∧ t.length = c.n ∧
      (∀ d ∈ t, d < c.B) ∧ carry ≤ 1 ∧ (val c.B t + carry * c.B ^ c.n) % 2 = 0 ∧
      val c.B t + carry * c.B ^ c.n < 2 * c.pv ∧ (val c.B t + carry * c.B ^ c.n) % c.pv = val c.B a := by
    by_cases hp : a.getD 0 0 % 2 = 1
    · obtain ⟨h1, h2, h3, h4⟩ := addnLow_spec c.B hB a c.p 0 (by rw [al, hc.hlen]) (by omega) ad hc.hdig
      rw [al, Nat.add_zero, show val c.B c.p = c.pv from rfl] at h1
      rw [al] at h4
      exact ⟨_, _, if_pos hp, h4, h3, h2, by omega, by omega, by
        rw [h1, Nat.add_mod_right, Nat.mod_eq_of_lt av]⟩
    · refine ⟨a, 0, if_neg hp, al, ad, Nat.zero_le _, ?_⟩
      rw [Nat.zero_mul, Nat.add_zero, Nat.mod_eq_of_lt av]
      exact ⟨by omega, by omega, rfl⟩
  obtain ⟨out, ho, ol, od, ov⟩ : ∃ out, _ = out ∧ out.length = c.n ∧ (∀ d ∈ out, d < c.B) ∧
      2 * val c.B out = val c.B t + carry * c.B ^ c.n :=
    FpAux.hlvShift_spec c.w c.n hc.hw hc.hn t carry tl td hc1 hev
  have e : fpHlvm c a = out := by rw [← ho]; simp only [fpHlvm, hx]
  rw [e, ov]
  exact ⟨⟨ol, od, by omega⟩, hmod⟩

/-- Montgomery reduction is exact and canonical for every T < p·R -/
theorem fp_montgomery_reduce (c : FpCtx) (hc : c.WF) (hu : (c.u * c.pv + 1) % c.B = 0) (hub : c.u < c.B)
    (t : List Nat) (hlen : t.length = 2 * c.n) (hdig : ∀ d ∈ t, d < c.B) (hT : val c.B t < c.pv * c.R) :
    c.El (fpRdcn c t) ∧ (val c.B (fpRdcn c t) * c.R) % c.pv = val c.B t % c.pv :=
  fpRdcn_spec c hc hu hub t hlen hdig hT

/-- multiplication and squaring in Montgomery form -/
theorem fp_mul_sqr (c : FpCtx) (hc : c.WF) (hu : (c.u * c.pv + 1) % c.B = 0) (hub : c.u < c.B)
    (a b : List Nat) (ha : c.El a) (hb : c.El b) :
    (c.El (fpMulm c a b) ∧ (val c.B (fpMulm c a b) * c.R) % c.pv = (val c.B a * val c.B b) % c.pv) ∧
    (c.El (fpSqrm c a) ∧ (val c.B (fpSqrm c a) * c.R) % c.pv = (val c.B a * val c.B a) % c.pv) :=
  ⟨fpMulm_spec c hc hu hub a b ha hb, fpSqrm_spec c hc hu hub a ha⟩

/-- raw digit comparison decides equality of residues -/
theorem fp_cmp_sound (c : FpCtx) (hc : c.WF) (a b : List Nat) (ha : c.El a) (hb : c.El b) :
    a = b ↔ val c.B a % c.pv = val c.B b % c.pv := by
  constructor
  · intro h; rw [h]
  · intro h
    rw [Nat.mod_eq_of_lt ha.2.2, Nat.mod_eq_of_lt hb.2.2] at h
    exact val_inj c.B (by have := FpAux.one_lt_B c hc; omega) a b (by rw [ha.1, hb.1]) ha.2.1 hb.2.1 h

theorem fp_inv_unique (p a x y : Nat) (hx : x < p) (hy : y < p) (h1 : a * x % p = 1) (h2 : a * y % p = 1) :
    x = y := inv_unique p a x y hx hy h1 h2

/-- a 2-digit context in base 2^8 (p = 65521, u = 239): its modulus, the condition on u, and one Montgomery product
    (3·5·R⁻¹ mod p = 1, since R = 2^16 ≡ 15) -/
example : ({ w := 8, n := 2, p := [241, 255], u := 239 } : FpCtx).pv = 65521 ∧ (239 * 65521 + 1) % 256 = 0 := by decide
example : fpMulm { w := 8, n := 2, p := [241, 255], u := 239 } [3, 0] [5, 0] = [1, 0] := by decide

end Relic.Props.C02
