/-
C17 — Edwards curves implement the twisted-Edwards group.

What is proved (for all inputs, no bounds), and about what:

* FORMULAS. The code of src/ed/relic_ed_add.c, relic_ed_dbl.c, relic_ed_neg.c, relic_ed_norm.c (+ ed_set_infty, ed_copy) is
  translated on every run into `RelicVerif/Gen/EdFormulas.lean` (tools/translate_ed.py), once per pattern of pointer
  aliasing and per build. Over an arbitrary field of characteristic ≠ 2, on a complete curve (a a square, d not), for
  operands that are curve points: affine, projective and extended addition / doubling / subtraction return a
  representation of the affine sum, the extended ones re-establish T·Z = X·Y, negation and normalisation denote −P and P,
  ed_cmp decides equality of the denoted points; every aliased call computes the same as the unaliased one
  (Lemmas/EdFormulas.lean, by `rfl`). The theorems below combine the formula lemmas with the completeness theorem
  (Lemmas/EdGroup.lean), so they carry NO "denominator ≠ 0" hypothesis.
* GROUP LAW. The affine law is closed on the curve, commutative, has neutral element (0, 1) and inverse (−x, y)
  (Lemmas/EdGroup.lean). Associativity is the classical theorem and is not re-proved.
* SCALAR MULTIPLICATIONS. Every routine of Model/EdMul.lean is total and returns k • P (k • P + m • Q) for EVERY integer k
  (and m), in any additive commutative group, for base points killed by the group order r < 2^RLC_FP_BITS: the routines
  reduce the scalar modulo r first, like the ep_* originals, so that it fits the fixed-size recoding array / table.
  ed_mul_basic and ed_mul_monty do not reduce and are right for every k on every point (Lemmas/EdMul.lean).
* ENCODINGS. ed_read_bin accepts only curve points in canonical form, decode ∘ encode = id on curve points,
  encode ∘ decode = id except on the two redundant forms of the format (Lemmas/EdConv.lean).
Hashing to the curve is compared on every run with the RFC 9380 construction of Spec/Edwards.lean (class C).
-/
import RelicVerif.Lemmas.EdFormulas
import RelicVerif.Lemmas.EdGroup
import RelicVerif.Lemmas.EdMul
import RelicVerif.Lemmas.EpSim
import RelicVerif.Lemmas.EdConv
import Mathlib.Algebra.Field.ZMod

namespace Relic.Props.C17
open Relic.Model.Formula Relic.Gen
open Relic.Lemmas.EdFormulas Relic.Lemmas.EdGroup

variable {F : Type} [Field F] [DecidableEq F]

/-- a complete twisted Edwards curve over a field of characteristic ≠ 2: a is a square, d is not -/
structure Complete (cv : EdC F) : Prop where
  two_ne : (2 : F) ≠ 0
  a_sq : ∃ s : F, cv.a = s ^ 2
  d_nsq : ∀ t : F, t ^ 2 ≠ cv.d

theorem Complete.dens {cv : EdC F} (hc : Complete cv) {x1 y1 x2 y2 : F} (h1 : OnCurve cv x1 y1) (h2 : OnCurve cv x2 y2) :
    1 + cv.d * x1 * x2 * y1 * y2 ≠ 0 ∧ 1 - cv.d * x1 * x2 * y1 * y2 ≠ 0 := by
  obtain ⟨s, hs⟩ := hc.a_sq
  exact complete cv.a cv.d s hc.two_ne hs hc.d_nsq x1 y1 x2 y2 h1 h2

instance fact13 : Fact (Nat.Prime 13) := ⟨by decide⟩

/-- the hypotheses are satisfiable: over Z/13Z, a = 12 = 5², d = 2 is not a square, and (3, 2) is a point of that curve
    (the library's instance — a = −1, d = −121665/121666 modulo 2²⁵⁵ − 19 — is evaluated by the driver on every run) -/
example : Complete (⟨12, 2⟩ : EdC (ZMod 13)) ∧ OnCurve (⟨12, 2⟩ : EdC (ZMod 13)) 3 2 :=
  ⟨⟨by decide, ⟨5, by decide⟩, by decide⟩, by unfold OnCurve; decide⟩

theorem onCurve_neg {cv : EdC F} {x y : F} (h : OnCurve cv x y) : OnCurve cv (-x) y :=
  neg_onCurve cv.a cv.d x y h

/-- ed_add_basic: the affine law itself; no hypothesis, with the model's convention 0⁻¹ = 0 where the law divides by 0
    (fp_inv of /repo raises ERR_NO_VALID there) -/
theorem add_basic (cv : EdC F) (r p q : EPt F) :
    let s := Ed.ed_add_basic fieldOps cv r p q
    s.x = addX cv.d p.x p.y q.x q.y ∧ s.y = addY cv.a cv.d p.x p.y q.x q.y ∧ s.coord = .basic := by
  obtain ⟨a, b, _, _, c⟩ := add_basic_correct cv r p q
  exact ⟨a, b, c⟩

/-- ed_add_projc on curve points: a representation of the affine sum, for ALL operands (equal, opposite, neutral,
    of order 2, 4, 8 …: the law has no exceptional case) -/
theorem add_projc (cv : EdC F) (hc : Complete cv) (r p q : EPt F) (x1 y1 x2 y2 : F)
    (hp : Rep p x1 y1) (hq : Rep q x2 y2) (h1 : OnCurve cv x1 y1) (h2 : OnCurve cv x2 y2) :
    Rep (Ed.ed_add_projc fieldOps cv r p q) (addX cv.d x1 y1 x2 y2) (addY cv.a cv.d x1 y1 x2 y2) := by
  obtain ⟨d1, d2⟩ := hc.dens h1 h2
  exact (add_projc_correct cv r p q x1 y1 x2 y2 hp hq d1 d2).1

/-- ed_add_extnd (Hisil–Wong–Carter–Dawson): the sum, and the invariant T = xyZ again -/
theorem add_extnd (cv : EdC F) (hc : Complete cv) (r p q : EPt F) (x1 y1 x2 y2 : F)
    (hp : RepT p x1 y1) (hq : RepT q x2 y2) (h1 : OnCurve cv x1 y1) (h2 : OnCurve cv x2 y2) :
    RepT (Ed.ed_add_extnd fieldOps cv r p q) (addX cv.d x1 y1 x2 y2) (addY cv.a cv.d x1 y1 x2 y2) := by
  obtain ⟨d1, d2⟩ := hc.dens h1 h2
  exact (add_extnd_correct cv r p q x1 y1 x2 y2 hp hq d1 d2).1

theorem add_closed (cv : EdC F) (hc : Complete cv) (x1 y1 x2 y2 : F) (h1 : OnCurve cv x1 y1) (h2 : OnCurve cv x2 y2) :
    OnCurve cv (addX cv.d x1 y1 x2 y2) (addY cv.a cv.d x1 y1 x2 y2) := by
  obtain ⟨d1, d2⟩ := hc.dens h1 h2
  exact add_onCurve cv.a cv.d x1 y1 x2 y2 h1 h2 d1 d2

theorem dbl_basic (cv : EdC F) (r p : EPt F) :
    let s := Ed.ed_dbl_basic fieldOps cv r p
    s.x = addX cv.d p.x p.y p.x p.y ∧ s.y = addY cv.a cv.d p.x p.y p.x p.y ∧ s.coord = .basic := by
  obtain ⟨a, b, _, _, c⟩ := dbl_basic_correct cv r p
  exact ⟨a, b, c⟩

theorem dbl_projc (cv : EdC F) (hc : Complete cv) (r p : EPt F) (x y : F) (hp : Rep p x y) (h : OnCurve cv x y) :
    Rep (Ed.ed_dbl_projc fieldOps cv r p) (addX cv.d x y x y) (addY cv.a cv.d x y x y) := by
  obtain ⟨d1, d2⟩ := hc.dens h h
  exact (dbl_projc_correct cv r p x y hp h d1 d2).1

/-- ed_dbl_extnd does not read T and produces it -/
theorem dbl_extnd (cv : EdC F) (hc : Complete cv) (r p : EPt F) (x y : F) (hp : Rep p x y) (h : OnCurve cv x y) :
    RepT (Ed.ed_dbl_extnd fieldOps cv r p) (addX cv.d x y x y) (addY cv.a cv.d x y x y) := by
  obtain ⟨d1, d2⟩ := hc.dens h h
  exact (dbl_extnd_correct cv r p x y hp h d1 d2).1

/-- ed_neg_projc of the extended-coordinate build: −P, invariant kept -/
theorem neg_projc (cv : EdC F) (r p : EPt F) (x y : F) (hp : RepT p x y) (hb : BasicZ1 p) :
    RepT (Ed.ed_neg_projc fieldOps cv r p) (-x) y := by
  obtain ⟨a, _, t⟩ := neg_projc_correct cv r p x y hp.1 hb
  exact ⟨a, t hp.2⟩

/-- … of the builds without T -/
theorem neg_projc_prj (cv : EdC F) (r p : EPt F) (x y : F) (hp : Rep p x y) (hb : BasicZ1 p) :
    Rep (EdP.ed_neg_projc fieldOps cv r p) (-x) y :=
  (neg_projc_correct_prj cv r p x y hp hb).1

theorem sub_projc (cv : EdC F) (hc : Complete cv) (r p q : EPt F) (x1 y1 x2 y2 : F)
    (hp : Rep p x1 y1) (hq : Rep q x2 y2) (hb : BasicZ1 q) (h1 : OnCurve cv x1 y1) (h2 : OnCurve cv x2 y2) :
    Rep (Ed.ed_sub_projc fieldOps cv r p q) (addX cv.d x1 y1 (-x2) y2) (addY cv.a cv.d x1 y1 (-x2) y2) := by
  obtain ⟨d1, d2⟩ := hc.dens h1 (onCurve_neg h2)
  exact (sub_projc_correct cv r p q x1 y1 x2 y2 hp hq hb d1 d2).1

/-- ed_sub_extnd in the extended-coordinate build -/
theorem sub_extnd (cv : EdC F) (hc : Complete cv) (r p q : EPt F) (x1 y1 x2 y2 : F)
    (hp : RepT p x1 y1) (hq : RepT q x2 y2) (hb : BasicZ1 q) (h1 : OnCurve cv x1 y1) (h2 : OnCurve cv x2 y2) :
    RepT (Ed.ed_sub_extnd fieldOps cv r p q) (addX cv.d x1 y1 (-x2) y2) (addY cv.a cv.d x1 y1 (-x2) y2) := by
  obtain ⟨d1, d2⟩ := hc.dens h1 (onCurve_neg h2)
  exact (sub_extnd_correct cv r p q x1 y1 x2 y2 hp hq hb d1 d2).1

/-- ed_sub_extnd in the builds without the fourth coordinate -/
theorem sub_extnd_prj (cv : EdC F) (hc : Complete cv) (r p q : EPt F) (x1 y1 x2 y2 : F)
    (hp : RepT p x1 y1) (hq : RepT q x2 y2) (hb : BasicZ1 q) (h1 : OnCurve cv x1 y1) (h2 : OnCurve cv x2 y2) :
    RepT (EdP.ed_sub_extnd fieldOps cv r p q) (addX cv.d x1 y1 (-x2) y2) (addY cv.a cv.d x1 y1 (-x2) y2) := by
  obtain ⟨d1, d2⟩ := hc.dens h1 (onCurve_neg h2)
  exact (sub_extnd_correct_prj cv r p q x1 y1 x2 y2 hp hq hb d1 d2).1

/-- ed_neg_basic of a normalised point: a normalised representation of −P (z is copied from the operand) -/
theorem neg_basic (cv : EdC F) (r p : EPt F) (x y : F) (hc : p.coord = .basic) (hp : Rep p x y) (hb : BasicZ1 p) :
    Rep (Ed.ed_neg_basic fieldOps cv r p) (-x) y ∧ BasicZ1 (Ed.ed_neg_basic fieldOps cv r p) := by
  obtain ⟨t, ht⟩ := neg_basic_eq fieldOps cv r p hc
  obtain ⟨h, hb', _⟩ := neg_projc_correct cv r p x y hp hb
  rw [ht]
  exact ⟨h.with_t t, hb'⟩

/-- ed_norm: affine coordinates of the denoted point, z = 1, T = xy -/
theorem norm (cv : EdC F) (r p : EPt F) (x y : F) (hp : RepT p x y) (hb : BasicZ1 p) :
    let s := Ed.ed_norm fieldOps cv r p
    s.x = x ∧ s.y = y ∧ s.z = 1 ∧ s.t = x * y := by
  obtain ⟨a, b, c, t, _⟩ := norm_correct cv r p x y hp.1 hb
  exact ⟨a, b, c, t hp.2⟩

/-- ed_cmp of two representations: RLC_EQ exactly when they denote the same affine point (cross-multiplication
    = equality of the affine points) -/
theorem cmp (cv : EdC F) (p q : EPt F) (x1 y1 x2 y2 : F) (hp : RepT p x1 y1) (hq : RepT q x2 y2)
    (hbp : BasicZ1 p) (hbq : BasicZ1 q) :
    edCmp fieldOps true (fun a => Ed.ed_norm fieldOps cv a a) p q = true ↔ (x1 = x2 ∧ y1 = y2) :=
  cmp_correct cv true p q x1 y1 x2 y2 hp.1 hq.1 hbp hbq (fun _ _ _ => ⟨hp.2, hq.2⟩)

/-! ### group axioms of the affine law on the curve (all but associativity) -/

theorem law_neutral (cv : EdC F) (x y : F) :
    OnCurve cv 0 1 ∧ addX cv.d x y 0 1 = x ∧ addY cv.a cv.d x y 0 1 = y :=
  ⟨neutral_onCurve cv.a cv.d, (add_neutral cv.a cv.d x y).1, (add_neutral cv.a cv.d x y).2⟩

theorem law_inverse (cv : EdC F) (hc : Complete cv) (x y : F) (h : OnCurve cv x y) :
    addX cv.d x y (-x) y = 0 ∧ addY cv.a cv.d x y (-x) y = 1 :=
  add_neg cv.a cv.d x y h (hc.dens h (onCurve_neg h)).2

theorem law_comm (cv : EdC F) (x1 y1 x2 y2 : F) :
    addX cv.d x1 y1 x2 y2 = addX cv.d x2 y2 x1 y1 ∧ addY cv.a cv.d x1 y1 x2 y2 = addY cv.a cv.d x2 y2 x1 y1 :=
  add_comm_law cv.a cv.d x1 y1 x2 y2

/-! ### scalar multiplications (any additive commutative group) -/
section Mul
open Relic.Model Relic.Model.MulAlg Relic.Model.EdMul

variable {G : Type} [AddCommGroup G]

/-- ed_mul_basic and ed_mul_monty: every integer k, every point (no reduction, recoding sized by the scalar) -/
theorem mul_basic_monty (isO : G → Bool) (hO : IsOSound isO) (p : G) (k : ℤ) :
    mulBasic gops isO p k = some (k • p) ∧ mulMonty gops isO p k = some (k • p) :=
  ⟨mulBasic_correct isO hO p k, mulMonty_correct isO hO p k⟩

/-- ed_mul_lwnaf, ed_mul_slide, ed_mul_lwreg on the prime-order subgroup: total, and [k]P for EVERY integer k (longer than r,
    negative, multiples of r, … included) -/
theorem mul_variable_base (isO : G → Bool) (hO : IsOSound isO) (par : Par) (hok : par.Ok) (hw : 3 ≤ par.width)
    (p : G) (hp : (par.ord : ℤ) • p = 0) (k : ℤ) :
    mulLwnaf gops isO par p k = some (k • p) ∧ EdMul.mulSlide gops isO par p k = some (k • p) ∧
    mulLwreg gops isO par p k = some (k • p) :=
  ⟨mulLwnaf_correct isO hO par hok (by omega) p hp k, mulSlide_correct isO hO par hok (by omega) p hp k,
    mulLwreg_correct isO hO par hok hw p hp k⟩

/-- ed_mul_fix_basic, ed_mul_fix_lwnaf, ed_mul_fix_combs (hence ed_mul_fix / ed_mul_gen of those methods): total, [k]P for every k -/
theorem mul_fixed_base (par : Par) (hok : par.Ok) (hd : 2 ≤ par.depth) (p : G) (hp : (par.ord : ℤ) • p = 0) (k : ℤ) :
    EdMul.mulFixBasic gops par p k = some (k • p) ∧ mulFixLwnaf gops par p k = some (k • p) ∧
    mulFixCombs gops par p k = some (k • p) :=
  ⟨mulFixBasic_correct par hok p hp k, mulFixLwnaf_correct par hok hd p hp k, mulFixCombs_correct par hok (by omega) p hp k⟩

/-- ed_mul_sim_basic / trick / inter / joint and the generator-table branch of ed_mul_sim_gen: total, k·P + m·Q for all k, m
    (`mul` = the configured ed_mul, used by the early exits) -/
theorem mul_sim (isO : G → Bool) (hO : IsOSound isO) (par : Par) (hok : par.Ok) (hw : 2 ≤ par.width) (hd : 2 ≤ par.depth)
    (mul : G → ℤ → Option G) (p : G) (k : ℤ) (q : G) (m : ℤ)
    (hp : (par.ord : ℤ) • p = 0) (hq : (par.ord : ℤ) • q = 0)
    (hmp : mul p k = some (k • p)) (hmq : mul q m = some (m • q)) :
    simBasic gops mul p k q m = some (k • p + m • q) ∧
    EdMul.simTrick gops isO par mul p k q m = some (k • p + m • q) ∧
    EdMul.simInter gops isO par mul p k q m = some (k • p + m • q) ∧
    EdMul.simJoint gops isO par mul p k q m = some (k • p + m • q) ∧
    simPlainGen gops par p k q m = some (k • p + m • q) :=
  ⟨simBasic_correct mul p k q m hmp hmq, simTrick_correct isO hO par hok hw mul p k q m hp hq hmp hmq,
    simInter_correct isO hO par hok hw mul p k q m hp hq hmp hmq, simJoint_correct isO hO par hok mul p k q m hp hq hmp hmq,
    simPlainGen_correct par hok hw hd p k q m hp hq⟩

/-- ed_mul_pre_combd + ed_mul_fix_combd (double-table comb; Model/EdMul.lean `mulFixCombd` = the shared models `tabCombd`,
    `mulCombd` of Model/EpMul.lean with the constants dd = ⌈bits(r)/depth⌉, e = ⌈dd/2⌉ of the C code): total, [k]P for every
    integer k, every depth ≥ 1 — corollary of EpComb.mulCombd_correct, the theorem of ep_mul_fix_combd -/
theorem mul_fix_combd (par : Par) (hok : par.Ok) (hd : 1 ≤ par.depth) (p : G) (hp : (par.ord : ℤ) • p = 0) (k : ℤ) :
    mulFixCombd gops par p k = some (k • p) :=
  mulFixCombd_correct par hok hd p hp k

/-- ed_mul_sim_lot: total and Σ kᵢ • Pᵢ for EVERY list of (point, scalar) pairs: any number of points (also none), scalars of
    any sign and length (the routine does not reduce them, hence no hypothesis on the points) — corollary of
    EpSim.simLotNaf_plain, the theorem of ep_mul_sim_lot_plain, plus the totality of the recoding at capacity max bits + 1 -/
theorem mul_sim_lot (pks : List (G × ℤ)) :
    simLot gops pks = some ((pks.map fun pk => pk.2 • pk.1).sum) := by
  unfold simLot
  simp only
  generalize hl : (pks.map fun pk => Rec.bitLen pk.2.natAbs + 1).foldl max 0 = l
  have hle : ∀ pk ∈ pks, Rec.bitLen pk.2.natAbs + 1 ≤ l := by
    intro pk hpk
    rw [← hl]
    exact (le_foldl_max _ 0).2 _ (List.mem_map.2 ⟨pk, hpk, rfl⟩)
  have hrec : ∀ pk ∈ pks, Rec.recNaf l pk.2.natAbs 2 = some (nafOf pk.2) := fun pk hpk =>
    Rec.recNaf_eq_some.2 ⟨hle pk hpk, rfl⟩
  have hnaf : (pks.map fun pk => Rec.recNaf l pk.2.natAbs 2) = pks.map fun pk => some (nafOf pk.2) :=
    List.map_congr_left hrec
  rw [hnaf]
  have hany : ((pks.map fun pk => some (nafOf pk.2)).any Option.isNone) = false := by
    simp [List.any_map]
  rw [hany]
  simp only [Bool.false_eq_true, if_false, List.map_map]
  congr 1
  have := Relic.Lemmas.EpSim.simLotNaf_plain (pks.map fun pk => (pk.1, pk.2, nafOf pk.2)) l l (by
    intro t ht
    obtain ⟨pk, hpk, rfl⟩ := List.mem_map.1 ht
    exact ⟨hrec pk hpk, (Rec.recNaf_spec l _ 2 (le_refl _) _ (hrec pk hpk)).2.2.2.2⟩)
  simp only [List.map_map] at this
  exact this

/-- ed_mul_dig: total, [k]P for every digit k < 2^w and every point (recoding buffer of w + 1 entries) -/
theorem mul_dig (isO : G → Bool) (hO : IsOSound isO) (w : Nat) (p : G) (k : Nat) (hk : k < 2 ^ w) :
    mulDig gops isO w p k = some ((k : ℤ) • p) := by
  unfold mulDig
  refine exit_some (fun hex => ?_) ?_
  · rcases hex with rfl | h
    · simp
    · rw [hO p h]; simp
  · have hb : Rec.bitLen k ≤ w := Rec.bitLen_le_of_lt hk
    have hds := (Rec.recNaf_eq_some (cap := w + 1) (k := k) (w := 2)).2 ⟨by omega, rfl⟩
    rw [hds, Option.map_some, gops_zero, show [p] = tabOdd gops p (2 ^ (2 - 2)) from rfl,
      mulSigned_naf p _ k 2 (le_refl _) _ hds]

/-- the dispatch of ed_mul_gen and ed_mul_sim_gen (early exits k = 0, m = 0 ∨ Q = O; generator-table branch or ed_mul_sim) is right
    whenever the routines it calls are (those are `mul_variable_base`, `mul_fixed_base`, `mul_fix_combd`, `mul_sim`) -/
theorem mul_gen_dispatch (isO : G → Bool) (hO : IsOSound isO) (mul fix : G → ℤ → Option G) (sim : G → ℤ → G → ℤ → Option G)
    (plain : Option (G → ℤ → G → ℤ → Option G)) (g : G) (k : ℤ) (q : G) (m : ℤ)
    (hmul : mul q m = some (m • q)) (hfix : fix g k = some (k • g)) (hsim : sim g k q m = some (k • g + m • q))
    (hplain : ∀ f, plain = some f → f g k q m = some (k • g + m • q)) :
    mulGen gops fix g k = some (k • g) ∧ simGen gops isO mul fix sim plain g k q m = some (k • g + m • q) :=
  ⟨mulGen_correct fix g k hfix, simGen_correct isO hO mul fix sim plain g k q m hmul hfix hsim hplain⟩

/-- the hypotheses are satisfiable (ℤ/7ℤ is killed by 7 < 2^255) and the routines compute (−153 mod 7 = 1) -/
example : (⟨255, 4, 5, 7⟩ : Par).Ok ∧ ((7 : ℕ) : ℤ) • (1 : ZMod 7) = 0 :=
  ⟨⟨by decide, by norm_num⟩, by decide⟩
example : mulLwnaf (gops : Ops ℤ) (fun x => x == 0) ⟨255, 4, 5, 7⟩ 1 (-153) = some 1 := by decide
example : mulFixCombd (gops : Ops ℤ) ⟨255, 4, 2, 7⟩ 1 (-153) = some 1 := by decide
example : simLot (gops : Ops ℤ) [(1, -153), (10, 7), (100, 0)] = some (-83) := by decide

end Mul

/-! ### encodings (ed_read_bin / ed_write_bin / ed_pck / ed_upk) -/
section Conv
open Relic.Model.EdConv
open Relic.Spec.Edwards (Point onCurve neutral)
open Relic.Lemmas.Codec
open Relic.Model.EpConv (beBytes_length length_comp length_unc pick_sign)

/-- decoding accepts only curve points in canonical form, of the three advertised shapes -/
theorem decode_valid (x : Ctx) (hp : 1 < x.c.p) (bin : Bytes) (P : Point) (h : readBin x bin = some P) :
    onCurve x.c P = true ∧
    (bin.length = 1 ∨ bin.length = x.nb + 1 ∨ bin.length = 2 * x.nb + 1) := by
  rcases readBin_cases h with ⟨rfl, rfl⟩ | ⟨_, _, _, rfl, _, _, hon⟩ | ⟨_, _, _, rfl, hon, rfl⟩
  · exact ⟨neutral_onCurve x.c hp, .inl rfl⟩
  · exact ⟨hon, .inr (.inl (length_comp _ _ _))⟩
  · exact ⟨hon, .inr (.inr (length_unc _ _ _ _))⟩

/-- decode ∘ encode = id on curve points, compressed or not -/
theorem decode_encode (x : Ctx) (hprime : Nat.Prime x.c.p) (hodd : x.c.p % 2 = 1) (hnb : x.c.p ≤ 256 ^ x.nb)
    (hnb0 : 0 < x.nb) (hs : SrtSound x) (hc : SrtComplete x) (hi : InvSound x) (hR : RUnit x) (hden : DenNonzero x)
    (P : Point) (hP : onCurve x.c P = true) (pack : Bool) (b : Bytes)
    (h : writeBin x (sizeBin x P pack) P pack = some b) : readBin x b = some P := by
  obtain ⟨hpx, hpy, _⟩ := onCurve_pair (px := P.1) (py := P.2) hP
  by_cases hn : isNeutral x P = true
  · rw [show sizeBin x P pack = 1 by simp [sizeBin, hn], writeBin_neutral x _ _ hn] at h
    cases h
    rw [(isNeutral_iff _ _).mp hn, readBin_eq, frame_one]
    rfl
  · have hn' : isNeutral x P = false := by simpa using hn
    cases pack
    · rw [show sizeBin x P false = 2 * x.nb + 1 by simp [sizeBin, hn'], writeBin_unpack _ _ hn'] at h
      cases h
      rw [readBin_eq, frame_unc (by omega) _ _ _ (beBytes_length _ _) (beBytes_length _ _), if_pos rfl,
        fpRd_beBytes hnb hpy, fpRd_beBytes hnb hpx]
      exact if_pos hP
    · rw [show sizeBin x P true = x.nb + 1 by simp [sizeBin, hn'], writeBin_pack _ _ hn'] at h
      cases h
      exact readBin_tag x hnb hnb0 P.2 _ P (signBit_le_one x P.1) hpy
        (upk_pck x hprime hodd hs hc hi hR hden P hP) hP

set_option linter.unusedVariables false in
/-- encode ∘ decode = id on the accepted strings, except for the two redundant forms of the format (the neutral element in a long
    form, a point with x = 0 under the tag with sign bit 1: `Relic.Model.EdConv.readBin_x0_malleable`) -/
theorem encode_decode (x : Ctx) (hprime : Nat.Prime x.c.p) (hodd : x.c.p % 2 = 1) (hnb : x.c.p ≤ 256 ^ x.nb)
    (hs : SrtSound x) (hR : RUnit x) (bin : Bytes) (P : Point) (h : readBin x bin = some P)
    (hne : bin.length ≠ 1 → P ≠ neutral x.c) (hx0 : bin.length = x.nb + 1 → P.1 ≠ 0) :
    writeBin x bin.length P (bin.length = x.nb + 1) = some bin := by
  have hnn : bin.length ≠ 1 → isNeutral x P = false := fun hl =>
    Bool.eq_false_iff.mpr fun hn => hne hl ((isNeutral_iff _ _).mp hn)
  rcases readBin_cases h with ⟨rfl, rfl⟩ | ⟨hn, tag, py, rfl, ht, hupk, hon⟩ | ⟨hn, px, py, rfl, hon, rfl⟩
  · exact writeBin_neutral x _ _ ((isNeutral_iff _ _).mpr rfl)
  · have hl := length_comp tag py x.nb
    obtain ⟨_, r, hr, rfl⟩ := upk_eq_some.mp hupk
    have hbit := pick_sign (signBit_neg x hodd hR) (signBit_le_one x) (hs _ _ hr).1 (by omega) (hx0 hl)
    rw [hl, decide_eq_true rfl, writeBin_pack _ _ (hnn (by omega)), hbit, tag_ofNat ht]
  · have hl := length_unc 4 py px x.nb
    rw [hl, decide_eq_false (by omega), writeBin_unpack _ _ (hnn (by omega))]

/-- ed_upk ∘ ed_pck = id on curve points -/
theorem unpack_pack (x : Ctx) (hprime : Nat.Prime x.c.p) (hodd : x.c.p % 2 = 1) (hs : SrtSound x) (hc : SrtComplete x)
    (hi : InvSound x) (hR : RUnit x) (hden : DenNonzero x) (P : Point) (hP : onCurve x.c P = true) :
    upk x (pck x P).2 (pck x P).1 = some P :=
  upk_pck x hprime hodd hs hc hi hR hden P hP

end Conv

end Relic.Props.C17
