/-
C15 — The deterministic random generator follows Hash_DRBG for every call history.
The model (Model/Drbg.lean) mirrors src/rand/relic_rand_hashd.c byte for byte; the specification
(Spec/HashDrbg.lean) is SP 800-90A §10.1.1 over integers mod 2^440. Both are generic in the hash.
Second half: the integer samplers bn_rand, bn_rand_mod, fp_rand, fb_rand over any byte source (Model/RandInt.lean; the driver runs them
over the DRBG model).
-/
import RelicVerif.Lemmas.Drbg
import RelicVerif.Lemmas.RandInt
import RelicVerif.Lemmas.Ret

namespace Relic.Props.C15
open Relic.Model.Drbg Relic.Spec
open Relic.Spec.HashDrbg (Bytes Op Out)

/-- For every hash function with 32-byte output, every seed and every history of generate / reseed
    operations (any sizes, any interleaving), the byte stream of the model equals the Hash_DRBG stream.
    PARTIAL in one respect only: the history is shorter than 2^31 - 257 operations (ctx->counter is a C
    `int`; SP 800-90A allows 2^48 requests between reseeds). -/
theorem drbg_history_partial (hash : Bytes → Bytes) (hlen : ∀ b, (hash b).length = 32)
    (seed : Bytes) (hseed : seed ≠ []) (ops : List Op) (hlen' : ops.length + 258 < 2 ^ 31) :
    run (mcfg hash) init (.seed seed :: ops) = HashDrbg.run (sparams hash) none (.seed seed :: ops) := by
  obtain ⟨h1, s', hs', habs, hc⟩ := first_seed_refines hash hlen seed hseed
  have hr := run_refines hash hlen ops (step (mcfg hash) init (.seed seed)).1 s' habs (by omega)
  simp only [run, HashDrbg.run]
  rw [h1, hs', hr]

/-- requests above the per-call limit are refused and leave the state unchanged -/
theorem drbg_refuses (hash : Bytes → Bytes) (x : Ctx) (n : Nat) (hn : n > 65536) :
    step (mcfg hash) x (.gen n) = (x, .err) := by
  simp [step, randBytes, hn]

/-- an empty seed is refused, the state unchanged -/
theorem drbg_refuses_empty_seed (hash : Bytes → Bytes) (x : Ctx) :
    step (mcfg hash) x (.seed []) = (x, .err) := by
  simp [step, randSeed]

/-! ### integer sampling -/
section RandInt
open Relic.Model.RandInt

/-- integers sampled below a bound are always in [1, bound), for every byte source, every state and every number of redraws -/
theorem bn_rand_mod_range {σ : Type} (draw : σ → Nat → Option (List UInt8 × σ)) (w cap b : Nat) (hb : 0 < b) (fuel : Nat) (s : σ) (r : Nat)
    (h : bnRandMod draw w cap b fuel s = some r) : 1 ≤ r ∧ r < b := by
  revert r
  induction fuel generalizing s with
  | zero => exact Lemmas.Ret.fail
  | succ n ih =>
    unfold bnRandMod
    refine Lemmas.Ret.guard fun _ => ?_
    split
    · exact Lemmas.Ret.fail
    · next dp s' _ =>
      exact Lemmas.Ret.ite (fun _ => ih s') fun hne => Lemmas.Ret.ok ⟨Nat.pos_of_ne_zero hne, Nat.mod_lt _ hb⟩

/-- the sample is a function of the generator state (the model is a function) -/
theorem bn_rand_mod_deterministic {σ : Type} (draw : σ → Nat → Option (List UInt8 × σ)) (w cap b fuel : Nat) (s : σ) (r r' : Nat)
    (h : bnRandMod draw w cap b fuel s = some r) (h' : bnRandMod draw w cap b fuel s = some r') : r = r' := by
  rw [h] at h'; exact Option.some.inj h'


/-- bn_rand: the digit vector returned for a request of `bits` bits has a value below 2^bits — for every requested length (zero, below one
    digit, a multiple of the digit size, any number of digits), every digit size, every byte source and every state -/
theorem bn_rand_bits {σ : Type} (draw : σ → Nat → Option (List UInt8 × σ)) (w cap : Nat) (s s' : σ) (bits : Nat) (dp : List Nat)
    (h : bnRand draw w cap s bits = some (dp, s')) : valDigits w dp < 2 ^ bits := by
  obtain ⟨_, bytes, _, rfl⟩ := bnRand_some draw w cap s s' bits dp h
  exact valDigits_masked_lt bytes w bits

/-- bn_rand: the generator state advances exactly as ONE draw of digits·(w/8) bytes (digits = ⌈bits/w⌉), the digit vector is a function
    of those bytes only (host-order digits, top digit masked to bits mod w) and has exactly `digits` entries -/
theorem bn_rand_state {σ : Type} (draw : σ → Nat → Option (List UInt8 × σ)) (w cap : Nat) (s s' : σ) (bits : Nat) (dp : List Nat)
    (h : bnRand draw w cap s bits = some (dp, s')) :
    ∃ bytes, draw s (digitsFor w bits * (w / 8)) = some (bytes, s') ∧
      dp = maskTop (digitsOf bytes w (digitsFor w bits)) (bits % w) ∧ dp.length = digitsFor w bits ∧ digitsFor w bits ≤ cap := by
  obtain ⟨hcap, bytes, hd, rfl⟩ := bnRand_some draw w cap s s' bits dp h
  exact ⟨bytes, hd, rfl, by rw [maskTop_length, digitsOf_length], hcap⟩

/-- bn_rand refuses exactly when the request exceeds the capacity or the generator refuses the draw (then no state is returned) -/
theorem bn_rand_refuses {σ : Type} (draw : σ → Nat → Option (List UInt8 × σ)) (w cap : Nat) (s : σ) (bits : Nat) :
    bnRand draw w cap s bits = none ↔ (digitsFor w bits > cap ∨ draw s (digitsFor w bits * (w / 8)) = none) := by
  unfold bnRand
  simp only
  split
  · next h => simp [h]
  · next h =>
    split
    · next hd => simp [hd]
    · next bytes s1 hd => simp [h, hd]

/-- bn_rand is a deterministic function of (state, request) -/
theorem bn_rand_deterministic {σ : Type} (draw : σ → Nat → Option (List UInt8 × σ)) (w cap : Nat) (s : σ) (bits : Nat) (r r' : List Nat × σ)
    (h : bnRand draw w cap s bits = some r) (h' : bnRand draw w cap s bits = some r') : r = r' := by
  rw [h] at h'; exact Option.some.inj h'

/-- fp_rand: the result is reduced (below the prime) and equals the masked draw modulo p; the state advances exactly as ONE draw of
    RLC_FP_DIGS·(w/8) bytes — for every modulus p > 0, byte source and state (the subtraction loop is modelled with fuel that is proved sufficient) -/
theorem fp_rand_reduced {σ : Type} (draw : σ → Nat → Option (List UInt8 × σ)) (w fpDigs fpBits p : Nat) (hp : 0 < p) (s s' : σ) (a : Nat)
    (h : fpRand draw w fpDigs fpBits p s = some (a, s')) :
    a < p ∧ ∃ bytes, draw s (fpDigs * (w / 8)) = some (bytes, s') ∧
      a = valDigits w (maskTop (digitsOf bytes w fpDigs) (fpBits % w)) % p := by
  obtain ⟨bytes, hd, rfl⟩ := draw_some h
  rw [subWhile_eq_mod p hp _ _ (Nat.lt_succ_self _)]
  exact ⟨Nat.mod_lt _ hp, bytes, hd, rfl⟩

/-- before the subtraction loop the masked draw of fp_rand is below 2^fpBits when the digit count is ⌈fpBits/w⌉ (so for a prime of exactly
    fpBits bits the loop body runs at most once) -/
theorem fp_rand_masked_bits (bytes : List UInt8) (w fpBits : Nat) :
    valDigits w (maskTop (digitsOf bytes w (digitsFor w fpBits)) (fpBits % w)) < 2 ^ fpBits :=
  valDigits_masked_lt bytes w fpBits

/-- fb_rand: the polynomial has degree below m = RLC_FB_BITS (value of the digit vector below 2^m) when RLC_FB_DIGS = ⌈m/w⌉, it has exactly
    RLC_FB_DIGS digits, and the state advances exactly as ONE draw of RLC_FB_DIGS·(w/8) bytes — for every byte source and state -/
theorem fb_rand_degree {σ : Type} (draw : σ → Nat → Option (List UInt8 × σ)) (w fbBits : Nat) (s s' : σ) (dp : List Nat)
    (h : fbRand draw w (digitsFor w fbBits) fbBits s = some (dp, s')) :
    valDigits w dp < 2 ^ fbBits ∧ dp.length = digitsFor w fbBits ∧
      ∃ bytes, draw s (digitsFor w fbBits * (w / 8)) = some (bytes, s') := by
  obtain ⟨bytes, hd, rfl⟩ := draw_some h
  exact ⟨fp_rand_masked_bits bytes w fbBits, by rw [maskTop_length, digitsOf_length], bytes, hd⟩

-- non-vacuity: a request of 65 bits at w = 64 is served
example : ∃ dp, bnRand (σ := Unit) (fun _ n => some (List.replicate n 255, ())) 64 34 () 65 = some (dp, ()) := ⟨_, rfl⟩


end RandInt

end Relic.Props.C15
