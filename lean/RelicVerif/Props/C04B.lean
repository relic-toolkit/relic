/-
C04, class A part — the final exponentiation, the Miller loops (hand models) and the line functions (generated) as coded.

The definitions `Relic.Gen.PpExp.pp_exp_bn / pp_exp_sm9 / pp_exp_b12 / pp_exp_k12 / fp12_conv_cyc` are regenerated from
src/pp/relic_pp_exp_k12.c and src/fpx/relic_fpx_cyc.c on every run (tools/translate_pp.py); `expCycSps` is the hand model
of fp12_exp_cyc_sps (Model/PpExp.lean).  The driver executes the same definitions with its own Fp12 arithmetic on every
presented line (`fexp`, `fcyc`, `expsps`) and compares with the library.

Setting of the theorems: a commutative group G (the unit group of Fp12), `frb a i = a^(p^i)`, conjugation `a ↦ a^(p^6)`,
and a^(p^12) = a.  `pp_exp_*_field` instantiate G with the units of ANY finite field with p^12 elements.
Statement: chain(f) = f^(c · (p^12 − 1)/r) with c = 2x(6x²+3x+1) (BN), 1 (SM9), 3 (BLS12) and gcd(c, r) = 1 for EVERY x,
so the value is a fixed power, prime to r, of the reduced pairing f^((p^12−1)/r): bilinearity and non-degeneracy carry over
(`pow_coprime_nondegenerate`).
-/
import Mathlib.FieldTheory.Finite.Basic
import Mathlib.RingTheory.Coprime.Lemmas
import RelicVerif.Lemmas.PpExp
import RelicVerif.Lemmas.PpMiller
import RelicVerif.Lemmas.PpLine

namespace Relic.Props.C04B
open Relic.Model.PpExp Relic.Gen.PpExp Relic.Lemmas.PpExp

section group
variable {G : Type} [CommGroup G] {p : ℕ}

/-- fp12_exp_cyc_sps (hand model, loop for loop) raises a cyclotomic element to the integer its sparse form denotes, negated
    for sign = RLC_NEG; no assumption on the list (ascending or not, any signs, empty) -/
theorem exp_cyc_sps_value (a : G) (ha : a ^ (p ^ 6) = a⁻¹) (b : List ℤ) (neg : Bool) :
    expCycSps (grpOps G p) a b neg = a ^ (if neg then -spsVal b else spsVal b) := by
  have := expCycSps_zpow (p := p) ha 1 b neg
  rwa [zpow_one, one_mul] at this

/-- fp12_conv_cyc (generated) is the easy part of the final exponentiation -/
theorem conv_cyc_value (f : G) : fp12_conv_cyc (grpOps G p) f = f ^ (((p : ℤ) ^ 6 - 1) * ((p : ℤ) ^ 2 + 1)) :=
  conv_cyc_eq f

/-- the easy part lands in the cyclotomic subgroup: conjugation inverts it and p^4 − p^2 + 1 kills it -/
theorem easy_part_cyclotomic (f : G) (hf : f ^ (p ^ 12) = f) :
    (fp12_conv_cyc (grpOps G p) f) ^ (p ^ 6) = (fp12_conv_cyc (grpOps G p) f)⁻¹ ∧
    (fp12_conv_cyc (grpOps G p) f) ^ ((p : ℤ) ^ 4 - (p : ℤ) ^ 2 + 1) = 1 := by
  rw [conv_cyc_eq]; exact ⟨easy_cyclotomic f hf, easy_phi12 f hf⟩

/-- (p^12 − 1)/r written with the cofactor h of r in p^4 − p^2 + 1 -/
theorem final_exponent_split (r h : ℤ) (hr0 : r ≠ 0) (hh : h * r = (p : ℤ) ^ 4 - (p : ℤ) ^ 2 + 1) :
    ((p : ℤ) ^ 12 - 1) / r = easyExp p * h := by
  apply Int.ediv_eq_of_eq_mul_left hr0
  rw [mul_assoc, hh]; unfold easyExp; ring

/-- **pp_exp_bn (generated from the C text) = f^(c·(p^12−1)/r)** with c = 2x(6x²+3x+1), for every integer x of either sign -/
theorem pp_exp_bn_value (x r h : ℤ) (hp : (p : ℤ) = 36 * x ^ 4 + 36 * x ^ 3 + 24 * x ^ 2 + 6 * x + 1)
    (hr : r = 36 * x ^ 4 + 36 * x ^ 3 + 18 * x ^ 2 + 6 * x + 1) (hh : h * r = (p : ℤ) ^ 4 - (p : ℤ) ^ 2 + 1)
    (b : List ℤ) (hb : spsVal b = |x|) (f : G) (hf : f ^ (p ^ 12) = f) :
    pp_exp_bn (grpOps G p) (decide (x < 0)) b f = f ^ ((2 * x * (6 * x ^ 2 + 3 * x + 1)) * (((p : ℤ) ^ 12 - 1) / r)) := by
  obtain ⟨m, hm1, hm⟩ := easy_part_power f hf
  unfold pp_exp_bn
  rw [final_exponent_split r h (bn_r_ne_zero hr) hh, conv_cyc_eq, ← hm1]
  rcases sign_cases x with ⟨hd, ha⟩ | ⟨hd, ha⟩ <;>
  simp only [hd, if_true, Bool.false_eq_true, if_false, mul_zpow', sqrCyc_zpow, frb_zpow,
    invCyc_zpow hm, expCycSps_zpow hm, hb, ha] <;>
  refine hard_part hm1 (bn_r_ne_zero hr) _ _ ?_ <;>
  rw [hh, hr, hp] <;>
  ring

/-- **pp_exp_sm9 (generated from the C text) = f^((p^12−1)/r)** (c = 1) for a BN parameter x ≥ 0 (the chain applies the
    conjugations without looking at the sign of x: the dispatcher selects it for SM9_P256 only, whose x is positive) -/
theorem pp_exp_sm9_value (x r h : ℤ) (hx : 0 ≤ x) (hp : (p : ℤ) = 36 * x ^ 4 + 36 * x ^ 3 + 24 * x ^ 2 + 6 * x + 1)
    (hr : r = 36 * x ^ 4 + 36 * x ^ 3 + 18 * x ^ 2 + 6 * x + 1) (hh : h * r = (p : ℤ) ^ 4 - (p : ℤ) ^ 2 + 1)
    (xneg : Bool) (b : List ℤ) (hb : spsVal b = |x|) (f : G) (hf : f ^ (p ^ 12) = f) :
    pp_exp_sm9 (grpOps G p) xneg b f = f ^ (((p : ℤ) ^ 12 - 1) / r) := by
  obtain ⟨m, hm1, hm⟩ := easy_part_power f hf
  unfold pp_exp_sm9
  rw [final_exponent_split r h (bn_r_ne_zero hr) hh, conv_cyc_eq, ← hm1, ← one_mul (easyExp p * h)]
  simp only [Bool.false_eq_true, if_false, mul_zpow', sqrCyc_zpow, frb_zpow,
    invCyc_zpow hm, expCycSps_zpow hm, hb, abs_of_nonneg hx]
  refine hard_part hm1 (bn_r_ne_zero hr) _ _ ?_
  rw [hh, hr, hp]
  ring

/-- **pp_exp_b12 (generated from the C text) = f^(3·(p^12−1)/r)** for every integer x of either sign, both branches
    (odd parameter: b[0] = 0; even parameter: the Ghammam–Fouotsa variant with the halved sparse form `_b`).
    `hbs`: in the even branch the lowered array is read back by fp12_exp_cyc_sps, which cannot tell −0 from +0, so the
    form must not contain the position −1 (nor a 0 after the head).  fp_prime_set_pairf CAN store −1 (6 = 8 − 2 is stored
    as [−1, 3]); no shipped BLS12 parameter is ≡ 6 mod 8 (findings/C04-ext-notes.md, "latent precondition"). -/
theorem pp_exp_b12_value (x r h : ℤ) (hp : 3 * (p : ℤ) = (x - 1) ^ 2 * (x ^ 4 - x ^ 2 + 1) + 3 * x)
    (hr : r = x ^ 4 - x ^ 2 + 1) (hh : h * r = (p : ℤ) ^ 4 - (p : ℤ) ^ 2 + 1)
    (b : List ℤ) (hb : spsVal b = |x|) (hbs : b.head? ≠ some 0 → ∀ bi ∈ b, 1 ≤ bi ∨ bi ≤ -2)
    (f : G) (hf : f ^ (p ^ 12) = f) :
    pp_exp_b12 (grpOps G p) (decide (x < 0)) b f = f ^ (3 * (((p : ℤ) ^ 12 - 1) / r)) := by
  have hr0 : r ≠ 0 := by
    -- x^4 − x^2 + 1 = (x^2 − 1)^2 + x^2 > 0
    have h1 : r = (x ^ 2 - 1) ^ 2 + x ^ 2 := by rw [hr]; ring
    have h2 : 0 ≤ (x ^ 2 - 1) ^ 2 := sq_nonneg _
    have h3 : 0 ≤ x ^ 2 := sq_nonneg _
    intro h0
    have h4 : x ^ 2 = 0 := by omega
    have h5 : (x ^ 2 - 1) ^ 2 = 0 := by omega
    rw [h4] at h5; norm_num at h5
  obtain ⟨m, hm1, hm⟩ := easy_part_power f hf
  unfold pp_exp_b12
  rw [final_exponent_split r h hr0 hh, conv_cyc_eq, ← hm1]
  -- both branches evaluate to the exponent (x−1)²(x+p)(x²+p²−1) + 3
  have key : ∀ E : ℤ, E = (x - 1) ^ 2 * (x + (p : ℤ)) * (x ^ 2 + (p : ℤ) ^ 2 - 1) + 3 →
      m ^ E = f ^ (3 * (easyExp p * h)) := by
    intro E hE
    refine hard_part hm1 hr0 _ _ ?_
    rw [hh, hE, hr]
    linear_combination (-(x + (p : ℤ)) * (x ^ 2 + (p : ℤ) ^ 2 - 1)) * hp
  by_cases h0 : b.head? = some 0
  · simp only [h0, beq_self_eq_true, if_true, mul_zpow', sqrCyc_zpow, frb_zpow,
      invCyc_zpow hm, expCycSps_zpow hm, hb, signed_abs]
    apply key; ring
  · have h0' : (b.head? == some (0 : ℤ)) = false := by simpa using h0
    -- the lowered form denotes |x|/2, with the sign x/2
    have h2 : ∀ v : ℤ, 2 * v = |x| → (if decide (x < 0) = true then -v else v) * 2 = x := by
      intro v hv
      rcases sign_cases x with ⟨hd, ha⟩ | ⟨hd, ha⟩ <;> simp only [hd, if_true, Bool.false_eq_true, if_false] <;> omega
    simp only [h0', Bool.false_eq_true, if_false, mul_zpow', sqrCyc_zpow, frb_zpow,
      invCyc_zpow hm, expCycSps_zpow hm, hb, signed_abs]
    apply key
    linear_combination (x * (x + (p : ℤ)) * (x ^ 2 + (p : ℤ) ^ 2 - 1)) * h2 _ (hb ▸ spsVal_dec b (hbs h0))

omit [CommGroup G] in
/-- the dispatcher pp_exp_k12 (generated): which chain runs for which family / parameter name -/
theorem pp_exp_k12_dispatch (o : CycOps G) (par : String) (xneg : Bool) (b : List ℤ) (f : G) :
    pp_exp_k12 o "EP_BN" "SM9_P256" xneg b f = some (pp_exp_sm9 o xneg b f) ∧
    (par ≠ "SM9_P256" → pp_exp_k12 o "EP_BN" par xneg b f = some (pp_exp_bn o xneg b f)) ∧
    pp_exp_k12 o "EP_B12" par xneg b f = some (pp_exp_b12 o xneg b f) := by
  refine ⟨by simp [pp_exp_k12], fun h => by simp [pp_exp_k12, h], by simp [pp_exp_k12]⟩

/-- a power prime to r of a non-trivial element of order dividing r is non-trivial: the values of the coded chains
    (c-th powers of the reduced pairing, gcd(c, r) = 1) are as non-degenerate as the reduced pairing itself -/
theorem pow_coprime_nondegenerate (g : G) (c r : ℤ) (hc : IsCoprime c r) (hg : g ^ r = 1) (h1 : g ^ c = 1) : g = 1 := by
  obtain ⟨u, v, huv⟩ := hc
  have : g ^ (u * c + v * r) = 1 := by
    rw [zpow_add, mul_comm u c, mul_comm v r, zpow_mul, zpow_mul, h1, hg, one_zpow, one_zpow, one_mul]
  rwa [huv, zpow_one] at this

end group

section constants

/-- the BN constant c = 2x(6x²+3x+1) is prime to r(x) for EVERY integer x -/
theorem bn_c_coprime (x : ℤ) :
    IsCoprime (2 * x * (6 * x ^ 2 + 3 * x + 1)) (36 * x ^ 4 + 36 * x ^ 3 + 18 * x ^ 2 + 6 * x + 1) := by
  have h2 : IsCoprime (2 : ℤ) (36 * x ^ 4 + 36 * x ^ 3 + 18 * x ^ 2 + 6 * x + 1) :=
    ⟨-(18 * x ^ 4 + 18 * x ^ 3 + 9 * x ^ 2 + 3 * x), 1, by ring⟩
  have hx : IsCoprime x (36 * x ^ 4 + 36 * x ^ 3 + 18 * x ^ 2 + 6 * x + 1) :=
    ⟨-(36 * x ^ 3 + 36 * x ^ 2 + 18 * x + 6), 1, by ring⟩
  -- t = 6x²+3x+1:  r = t² − 3x²,  1 = (t − 3(2x²+x)) and 1 = t − x(6x+3): t is prime to 3 and to x, hence to 3x², hence to r
  have ht3 : IsCoprime (6 * x ^ 2 + 3 * x + 1) (3 : ℤ) := ⟨1, -(2 * x ^ 2 + x), by ring⟩
  have htx : IsCoprime (6 * x ^ 2 + 3 * x + 1) x := ⟨1, -(6 * x + 3), by ring⟩
  have ht : IsCoprime (6 * x ^ 2 + 3 * x + 1) (36 * x ^ 4 + 36 * x ^ 3 + 18 * x ^ 2 + 6 * x + 1) := by
    have h3x : IsCoprime (6 * x ^ 2 + 3 * x + 1) (-(3 * x * x)) := ((ht3.mul_right htx).mul_right htx).neg_right
    have := h3x.add_mul_left_right (6 * x ^ 2 + 3 * x + 1)
    have e : 36 * x ^ 4 + 36 * x ^ 3 + 18 * x ^ 2 + 6 * x + 1
        = -(3 * x * x) + (6 * x ^ 2 + 3 * x + 1) * (6 * x ^ 2 + 3 * x + 1) := by ring
    rw [e]; exact this
  exact (h2.mul_left hx).mul_left ht

/-- the BLS12 constant 3 is prime to r(x) = x⁴ − x² + 1 for EVERY integer x -/
theorem b12_c_coprime (x : ℤ) : IsCoprime (3 : ℤ) (x ^ 4 - x ^ 2 + 1) := by
  obtain ⟨q, hq⟩ : ∃ q, x = 3 * q ∨ x = 3 * q + 1 ∨ x = 3 * q + 2 := ⟨x / 3, by omega⟩
  rcases hq with rfl | rfl | rfl
  · exact ⟨-(27 * q ^ 4 - 3 * q ^ 2), 1, by ring⟩
  · exact ⟨-((3 * q + 1) ^ 2 * (3 * q ^ 2 + 2 * q)), 1, by ring⟩
  · exact ⟨-((3 * q + 2) ^ 2 * (3 * q ^ 2 + 4 * q + 1)), 1, by ring⟩

/-- hypothesis `hh` of the BN theorems is satisfiable for every x: r(x) divides p(x)⁴ − p(x)² + 1 in ℤ[x] -/
theorem bn_r_dvd_phi12 (x : ℤ) :
    (36 * x ^ 4 + 36 * x ^ 3 + 18 * x ^ 2 + 6 * x + 1) ∣
      (36 * x ^ 4 + 36 * x ^ 3 + 24 * x ^ 2 + 6 * x + 1) ^ 4 - (36 * x ^ 4 + 36 * x ^ 3 + 24 * x ^ 2 + 6 * x + 1) ^ 2 + 1 :=
  ⟨46656 * x^12 + 139968 * x^11 + 241056 * x^10 + 272160 * x^9 + 225504 * x^8 + 138672 * x^7 + 65448 * x^6 + 23112 * x^5 + 6264 * x^4 + 1188 * x^3 + 174 * x^2 + 6 * x + 1, by ring⟩

end constants

section field
variable {K : Type} [Field K] [Fintype K] {p : ℕ}

theorem units_frob12 (hK : Fintype.card K = p ^ 12) (f : Kˣ) : f ^ (p ^ 12) = f := by
  ext; rw [Units.val_pow_eq_pow_val, ← hK, FiniteField.pow_card]

/-- the value of every chain has order dividing r (any group with a^(p^12) = a) -/
theorem final_power_torsion {G : Type} [CommGroup G] (f : G) (hf : f ^ (p ^ 12) = f) (c r : ℤ) (hdiv : r ∣ (p : ℤ) ^ 12 - 1) :
    (f ^ (c * (((p : ℤ) ^ 12 - 1) / r))) ^ r = 1 := by
  rw [← zpow_mul, mul_assoc, Int.ediv_mul_cancel hdiv, mul_comm, zpow_mul, zpow_frob12 hf, one_zpow]

/-- the easy part of the final exponentiation of ANY non-zero element of a field with p^12 elements is killed by
    p^4 − p^2 + 1 (it lies in the cyclotomic subgroup), by the code as generated -/
theorem easy_part_cyclotomic_field (hK : Fintype.card K = p ^ 12) (f : Kˣ) :
    (fp12_conv_cyc (grpOps Kˣ p) f) ^ ((p : ℤ) ^ 4 - (p : ℤ) ^ 2 + 1) = 1 :=
  (easy_part_cyclotomic f (units_frob12 hK f)).2

theorem pp_exp_bn_field (hK : Fintype.card K = p ^ 12) (x r h : ℤ)
    (hp : (p : ℤ) = 36 * x ^ 4 + 36 * x ^ 3 + 24 * x ^ 2 + 6 * x + 1)
    (hr : r = 36 * x ^ 4 + 36 * x ^ 3 + 18 * x ^ 2 + 6 * x + 1) (hh : h * r = (p : ℤ) ^ 4 - (p : ℤ) ^ 2 + 1)
    (b : List ℤ) (hb : spsVal b = |x|) (f : Kˣ) :
    pp_exp_bn (grpOps Kˣ p) (decide (x < 0)) b f = f ^ ((2 * x * (6 * x ^ 2 + 3 * x + 1)) * (((p : ℤ) ^ 12 - 1) / r)) :=
  pp_exp_bn_value x r h hp hr hh b hb f (units_frob12 hK f)

theorem pp_exp_sm9_field (hK : Fintype.card K = p ^ 12) (x r h : ℤ) (hx : 0 ≤ x)
    (hp : (p : ℤ) = 36 * x ^ 4 + 36 * x ^ 3 + 24 * x ^ 2 + 6 * x + 1)
    (hr : r = 36 * x ^ 4 + 36 * x ^ 3 + 18 * x ^ 2 + 6 * x + 1) (hh : h * r = (p : ℤ) ^ 4 - (p : ℤ) ^ 2 + 1)
    (xneg : Bool) (b : List ℤ) (hb : spsVal b = |x|) (f : Kˣ) :
    pp_exp_sm9 (grpOps Kˣ p) xneg b f = f ^ (((p : ℤ) ^ 12 - 1) / r) :=
  pp_exp_sm9_value x r h hx hp hr hh xneg b hb f (units_frob12 hK f)

theorem pp_exp_b12_field (hK : Fintype.card K = p ^ 12) (x r h : ℤ)
    (hp : 3 * (p : ℤ) = (x - 1) ^ 2 * (x ^ 4 - x ^ 2 + 1) + 3 * x)
    (hr : r = x ^ 4 - x ^ 2 + 1) (hh : h * r = (p : ℤ) ^ 4 - (p : ℤ) ^ 2 + 1)
    (b : List ℤ) (hb : spsVal b = |x|) (hbs : b.head? ≠ some 0 → ∀ bi ∈ b, 1 ≤ bi ∨ bi ≤ -2) (f : Kˣ) :
    pp_exp_b12 (grpOps Kˣ p) (decide (x < 0)) b f = f ^ (3 * (((p : ℤ) ^ 12 - 1) / r)) :=
  pp_exp_b12_value x r h hp hr hh b hb hbs f (units_frob12 hK f)

end field

/-! ### the Miller loops as coded (Model/PpMiller.lean, hand models executed by the driver) over an abstract Miller algebra

`L2 t p` / `L t q p`: tangent / chord line values; the line functions of the code return the line value together with the
doubled / added point (`algOps`).  Proved: loop structure, digit and sign handling, running point.  NOT proved: that the
recurrence's value is the Miller function with divisor s(Q) − ([s]Q) − (s−1)(O) and hence bilinearity (divisor theory). -/
section miller
open Relic.Model.PpMiller Relic.Lemmas.PpMiller
variable {F T P : Type} [CommMonoid F] [AddCommGroup T] (L2 : T → P → F) (L : T → T → P → F)

/-- **pp_mil_k12 as coded** (NAF digits, peeled first iteration, inner loop over the pairs) computes the canonical
    recurrence f ← f²·l_{[n]Q,[n]Q}(P), n ← 2n; digit ±1: f ← f·l_{[n]Q,±Q}(P), n ← n ± 1 from (1, 1), with the lines taken at
    the integer multiples, and leaves every running point at [s]Q, s the integer the digits denote -/
theorem mil_k12_recurrence (pairs : List (T × P)) (hp : pairs ≠ []) (naf : List ℤ) (d1 : ℤ) (ds : List ℤ)
    (hn : naf.reverse = 1 :: d1 :: ds) (hd : ∀ d ∈ naf, d = -1 ∨ d = 0 ∨ d = 1) :
    milK12 (algOps L2 L) pairs naf
      = some ((fRecM L2 L pairs (d1 :: ds) (1, 1)).1, atIndex pairs (Relic.Model.Rec.eval 1 naf)) := by
  rw [milK12_alg L2 L pairs hp naf 1 d1 ds hn]
  have hd' : ∀ d ∈ d1 :: ds, d = -1 ∨ d = 0 ∨ d = 1 := by
    intro d hmem
    apply hd d
    have : d ∈ naf.reverse := by rw [hn]; exact List.mem_cons_of_mem _ hmem
    exact List.mem_reverse.mp this
  rw [fRecM_index L2 L pairs (d1 :: ds) hd' 1 1]
  have := eval_reverse naf
  rw [hn] at this
  simp only [List.foldl_cons, mul_zero, zero_add] at this
  rw [List.foldl_cons, this]

/-- **pp_mil_lit_k12 as coded** (plain bits below the top bit) computes the same recurrence from (r, 1) and leaves the running
    points at [a]P -/
theorem mil_lit_recurrence (pairs : List (T × P)) (r : F) (a : ℕ) (ha : a ≠ 0) :
    ∃ bits : List ℤ, (∀ d ∈ bits, d = 0 ∨ d = 1) ∧ bits.foldl (fun acc d => 2 * acc + d) 1 = (a : ℤ) ∧
      milLit (algOps L2 L) pairs r a = ((fRecM L2 L pairs bits (r, 1)).1, atIndex pairs (a : ℤ)) := by
  have hbits (l : List ℕ) : ∀ d ∈ l.map fun i => if a.testBit i then (1 : ℤ) else 0, d = 0 ∨ d = 1 := by
    intro d hmem
    obtain ⟨i, _, rfl⟩ := List.mem_map.mp hmem
    split <;> simp
  refine ⟨_, hbits _, bits_index a ha, ?_⟩
  rw [milLit_alg, fRecM_index _ _ _ _ fun d hd => Or.inr (hbits _ d hd), bits_index a ha]

/-- **the multi-pairing Miller loop is the product of the single-pair loops** (same digits): with `final_exp_mul` of
    Props/C04.lean, one final exponentiation of the shared loop = the product of the pairings -/
theorem mil_multi_is_product (pairs : List (T × P)) (ds : List ℤ) :
    (fRecM L2 L pairs ds (1, 1)).1 = (pairs.map fun qp => (fRecM L2 L [qp] ds (1, 1)).1).prod := by
  have := (fRecM_prod L2 L pairs ds (fun _ => 1) 1).1
  simpa using this

end miller

/-! ### the line functions as coded (generated from the C text: Gen/PpLine.lean), general-b branch, over any field K ⊇ Fp

Each theorem: the three written slots of the sparse element are s × (the coefficients of the affine tangent / chord through the
running point evaluated at the other argument) with an explicit s ≠ 0 in the field of the running point's coordinates, the
fourth slot stays the caller's zero, and the updated running point (homogeneous projective) is the tangent / chord point of
the affine law (`tangX`/`tangY`/`chordX`/`chordY` of Lemmas/EpFormulas.lean, a = 0).  Hypotheses: characteristic ≠ 2, the running
point finite with y ≠ 0 and on its curve (doubling) resp. not sharing its x-coordinate with the added point (addition). -/
section lines
open Relic.Gen.PpLine Relic.Lemmas.PpLine Relic.Lemmas.EpFormulas
variable {K : Type} [Field K] [DecidableEq K]
/-- pp_dbl_k12_projc_lazyr (running point T = (X : Y : Z) on the twist, evaluated at P = (xP, yP) given precomputed as (3xP, −yP)) -/
theorem pp_dbl_k12_projc_lazyr_line (b X Y Z xP yP : K) (h2 : (2 : K) ≠ 0) (hY : Y ≠ 0) (hZ : Z ≠ 0) (hc : Y ^ 2 * Z = X ^ 3 + b * Z ^ 3) :
    let o := pp_dbl_k12_projc_lazyr fieldOps b X Y Z (3 * xP) (-yP)
    let lam := 3 * (X / Z) ^ 2 / (2 * (Y / Z))
    let s := -(2 * Y * Z)
    s ≠ 0 ∧ o.l00 = s * yP ∧ o.l10 = s * (-(lam * xP)) ∧ o.l11 = s * (lam * (X / Z) - Y / Z) ∧ o.l01 = 0 ∧
      o.z ≠ 0 ∧ o.x / o.z = tangX 0 (X / Z) (Y / Z) ∧ o.y / o.z = tangY 0 (X / Z) (Y / Z) := by
  rw [fieldOps_eq, pp_dbl_k12_projc_lazyr_closed]
  exact tangentStep_spec b X Y Z xP yP h2 hY hZ hc
/-- pp_dbl_k12_projc_basic (running point T = (X : Y : Z) on the twist, evaluated at P = (xP, yP) given precomputed as (3xP, −yP)) -/
theorem pp_dbl_k12_projc_basic_line (b X Y Z xP yP : K) (h2 : (2 : K) ≠ 0) (hY : Y ≠ 0) (hZ : Z ≠ 0) (hc : Y ^ 2 * Z = X ^ 3 + b * Z ^ 3) :
    let o := pp_dbl_k12_projc_basic fieldOps b X Y Z (3 * xP) (-yP)
    let lam := 3 * (X / Z) ^ 2 / (2 * (Y / Z))
    let s := -(2 * Y * Z)
    s ≠ 0 ∧ o.l00 = s * yP ∧ o.l10 = s * (-(lam * xP)) ∧ o.l11 = s * (lam * (X / Z) - Y / Z) ∧ o.l01 = 0 ∧
      o.z ≠ 0 ∧ o.x / o.z = tangX 0 (X / Z) (Y / Z) ∧ o.y / o.z = tangY 0 (X / Z) (Y / Z) := by
  rw [fieldOps_eq, pp_dbl_k12_projc_basic_closed]
  exact tangentStep_spec b X Y Z xP yP h2 hY hZ hc
/-- pp_add_k12_projc_lazyr (running point T = (X : Y : Z) on the twist, Q = (x₂, y₂) affine, evaluated at P = (xP, yP)) -/
theorem pp_add_k12_projc_lazyr_line (X Y Z x2 y2 xP yP : K) (hZ : Z ≠ 0) (hv : X - Z * x2 ≠ 0) :
    let o := pp_add_k12_projc_lazyr fieldOps X Y Z x2 y2 xP yP
    let lam := (y2 - Y / Z) / (x2 - X / Z)
    let s := X - Z * x2
    s ≠ 0 ∧ o.l00 = s * yP ∧ o.l10 = s * (-(lam * xP)) ∧ o.l11 = s * (lam * x2 - y2) ∧ o.l01 = 0 ∧
      o.z ≠ 0 ∧ o.x / o.z = chordX (X / Z) (Y / Z) x2 y2 ∧ o.y / o.z = chordY (X / Z) (Y / Z) x2 y2 := by
  rw [fieldOps_eq, pp_add_k12_projc_lazyr_closed]
  exact chordStep_spec X Y Z x2 y2 xP yP hZ hv
/-- pp_add_k12_projc_basic (running point T = (X : Y : Z) on the twist, Q = (x₂, y₂) affine, evaluated at P = (xP, yP)) -/
theorem pp_add_k12_projc_basic_line (X Y Z x2 y2 xP yP : K) (hZ : Z ≠ 0) (hv : X - Z * x2 ≠ 0) :
    let o := pp_add_k12_projc_basic fieldOps X Y Z x2 y2 xP yP
    let lam := (y2 - Y / Z) / (x2 - X / Z)
    let s := X - Z * x2
    s ≠ 0 ∧ o.l00 = s * yP ∧ o.l10 = s * (-(lam * xP)) ∧ o.l11 = s * (lam * x2 - y2) ∧ o.l01 = 0 ∧
      o.z ≠ 0 ∧ o.x / o.z = chordX (X / Z) (Y / Z) x2 y2 ∧ o.y / o.z = chordY (X / Z) (Y / Z) x2 y2 := by
  rw [fieldOps_eq, pp_add_k12_projc_basic_closed]
  exact chordStep_spec X Y Z x2 y2 xP yP hZ hv
/-- pp_dbl_lit_k12 (running point T = (X : Y : Z) in G1, evaluated at Q = (xe, ye) on the twist, passed negated as the loop does) -/
theorem pp_dbl_lit_k12_line (b X Y Z xe ye : K) (h2 : (2 : K) ≠ 0) (hY : Y ≠ 0) (hZ : Z ≠ 0) (hc : Y ^ 2 * Z = X ^ 3 + b * Z ^ 3) :
    let o := pp_dbl_lit_k12 fieldOps b X Y Z xe (-ye)
    let lam := 3 * (X / Z) ^ 2 / (2 * (Y / Z))
    let s := -(2 * Y * Z)
    s ≠ 0 ∧ o.l00 = s * (lam * (X / Z) - Y / Z) ∧ o.l01 = s * (-(lam * xe)) ∧ o.l11 = s * ye ∧ o.l10 = 0 ∧
      o.z ≠ 0 ∧ o.x / o.z = tangX 0 (X / Z) (Y / Z) ∧ o.y / o.z = tangY 0 (X / Z) (Y / Z) := by
  rw [fieldOps_eq, pp_dbl_lit_k12_closed]
  -- `flipSlots`: l00 ↔ l11, l01 ↔ l10
  obtain ⟨hs, h00, h10, h11, h01, hp⟩ := tangentStep_spec b X Y Z xe ye h2 hY hZ hc
  exact ⟨hs, h11, h10, h00, h01, hp⟩

/-- pp_add_lit_k12 (running point T = (X : Y : Z) in G1, P = (x₂, y₂) affine in G1, evaluated at Q = (xe, ye) on the twist) -/
theorem pp_add_lit_k12_line (X Y Z x2 y2 xe ye : K) (hZ : Z ≠ 0) (hv : X - Z * x2 ≠ 0) :
    let o := pp_add_lit_k12 fieldOps X Y Z x2 y2 xe ye
    let lam := (y2 - Y / Z) / (x2 - X / Z)
    let s := X - Z * x2
    s ≠ 0 ∧ o.l00 = s * (lam * x2 - y2) ∧ o.l01 = s * (-(lam * xe)) ∧ o.l11 = s * ye ∧ o.l10 = 0 ∧
      o.z ≠ 0 ∧ o.x / o.z = chordX (X / Z) (Y / Z) x2 y2 ∧ o.y / o.z = chordY (X / Z) (Y / Z) x2 y2 := by
  rw [fieldOps_eq, pp_add_lit_k12_closed]
  obtain ⟨hs, h00, h10, h11, h01, hp⟩ := chordStep_spec X Y Z x2 y2 xe ye hZ hv
  exact ⟨hs, h11, h10, h00, h01, hp⟩

end lines

/-! ### the hypotheses are satisfiable: the shipped parameters (x, sparse form as stored by fp_prime_set_pairf) -/

-- BN-P254 (BN_254): x = −(2^62 + 2^55 + 1)
example : spsVal [0, 55, 62] = |(-(2 ^ 62 + 2 ^ 55 + 1) : ℤ)| := by decide +kernel
-- BLS12-381: x = −0xd201000000010000, even: the lowered form is used
example : spsVal [16, 48, 57, 60, -62, 64] = |(-0xd201000000010000 : ℤ)| := by decide +kernel
example : ∀ bi ∈ ([16, 48, 57, 60, -62, 64] : List ℤ), 1 ≤ bi ∨ bi ≤ -2 := by decide
example : ∃ p : ℕ, 3 * (p : ℤ) = ((-0xd201000000010000 : ℤ) - 1) ^ 2 * ((-0xd201000000010000 : ℤ) ^ 4 - (-0xd201000000010000 : ℤ) ^ 2 + 1) + 3 * (-0xd201000000010000 : ℤ) :=
  ⟨0x1a0111ea397fe69a4b1ba7b6434bacd764774b84f38512bf6730d2a0f6b0f6241eabfffeb153ffffb9feffffffffaaab, by norm_num⟩

end Relic.Props.C04B
