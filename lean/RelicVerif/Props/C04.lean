/-
C04 — The pairing is bilinear, non-degenerate and maps into the order-r target group.

What is proved here is the algebra AROUND the pairing computation; bilinearity of the Miller-loop pairings themselves
is not proved (it rests on the theory of divisors / Weil reciprocity, absent from Mathlib) and is decided per presented
line by the correspondence run (see tools/props/c04.py).  The theorems:
 * `final_exp_order`: in a finite field with q elements, x ↦ x^((q−1)/r) sends every non-zero x to an element killed by
   r — "every pairing value has order dividing r";
 * `final_exp_mul` / `multi_pairing_is_product`: the final exponentiation is multiplicative, so one final exponentiation
   of the product of the Miller values is the product of the individual pairings;
 * `bilinear_of_generators`: if e(a•g₁, b•g₂) = e(g₁, g₂)^(a·b) for all integers a, b (what the driver checks on the
   presented a, b) then e is additive in each argument on the cyclic groups generated by g₁, g₂;
 * `nondegenerate_of_generators`: with r prime, e(g₁,g₂) ≠ 1 of order r, a pairing of two non-identity elements of the
   order-r groups is non-trivial.
-/
import Mathlib.FieldTheory.Finite.Basic
import Mathlib.Algebra.BigOperators.Group.List.Basic
import Mathlib.GroupTheory.OrderOfElement
import Mathlib.RingTheory.Int.Basic
import RelicVerif.Props.C04B   -- class A part: final exponentiation, Miller loops, line functions as coded (tools/props/c04.py counts its theorems: EXTRA_THEOREM_MODULES)

namespace Relic.Props.C04

section FinalExp
variable {K : Type} [Field K] [Fintype K]

theorem final_exp_order (r : ℕ) (hr : r ∣ Fintype.card K - 1) (x : K) (hx : x ≠ 0) :
    (x ^ ((Fintype.card K - 1) / r)) ^ r = 1 := by
  rw [← pow_mul, Nat.div_mul_cancel hr]
  exact FiniteField.pow_card_sub_one_eq_one x hx

theorem final_exp_mul (e : ℕ) (x y : K) : (x * y) ^ e = x ^ e * y ^ e := mul_pow x y e

theorem multi_pairing_is_product (e : ℕ) (fs : List K) : fs.prod ^ e = (fs.map (· ^ e)).prod :=
  (List.prod_hom fs (powMonoidHom e)).symm

end FinalExp

section Bilinear
variable {G1 G2 GT : Type} [AddCommGroup G1] [AddCommGroup G2] [CommGroup GT]

theorem bilinear_of_generators (e : G1 → G2 → GT) (g1 : G1) (g2 : G2)
    (h : ∀ a b : ℤ, e (a • g1) (b • g2) = e g1 g2 ^ (a * b)) (a a' b : ℤ) :
    e (a • g1 + a' • g1) (b • g2) = e (a • g1) (b • g2) * e (a' • g1) (b • g2) ∧
    e (b • g1) (a • g2 + a' • g2) = e (b • g1) (a • g2) * e (b • g1) (a' • g2) := by
  constructor
  · rw [← add_zsmul, h, h, h, ← zpow_add, add_mul]
  · rw [← add_zsmul, h, h, h, ← zpow_add, mul_add]

/-- the identity in either slot pairs to the identity of the target group -/
theorem identity_slot (e : G1 → G2 → GT) (g1 : G1) (g2 : G2)
    (h : ∀ a b : ℤ, e (a • g1) (b • g2) = e g1 g2 ^ (a * b)) (a : ℤ) :
    e 0 (a • g2) = 1 ∧ e (a • g1) 0 = 1 := by
  constructor
  · have := h 0 a; rwa [zero_zsmul, zero_mul, zpow_zero] at this
  · have := h a 0; rwa [zero_zsmul, mul_zero, zpow_zero] at this

theorem nondegenerate_of_generators (e : G1 → G2 → GT) (g1 : G1) (g2 : G2) (r : ℕ) (hr : r.Prime)
    (h : ∀ a b : ℤ, e (a • g1) (b • g2) = e g1 g2 ^ (a * b)) (hord : orderOf (e g1 g2) = r) (a b : ℤ)
    (h1 : e (a • g1) (b • g2) = 1) : (r : ℤ) ∣ a ∨ (r : ℤ) ∣ b := by
  rw [h] at h1
  have hd : (orderOf (e g1 g2) : ℤ) ∣ a * b := orderOf_dvd_iff_zpow_eq_one.mpr h1
  rw [hord] at hd
  exact (Nat.prime_iff_prime_int.mp hr).dvd_or_dvd hd

end Bilinear

end Relic.Props.C04
