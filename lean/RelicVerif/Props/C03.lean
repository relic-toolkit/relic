/-
C03 — every scalar multiplication equals [k]P (algorithm level).  The loops of Model/MulAlg.lean and Model/EpMul.lean mirror the
ep_mul_* routines (variable base, fixed base with combs, GLV paths, many points).  Over an arbitrary additive commutative group they
compute the integer their recoding denotes times the base point; with the recoding theorems of C09 this is k • P for every integer k
and every point of a group killed by n.  The coordinate-system formulas (add/dbl in affine, projective, Jacobian coordinates) are
regenerated from the C text and shown to compute the chord-and-tangent law in Lemmas/EpFormulas.lean (translator tie: DESIGN.md).
-/
import RelicVerif.Lemmas.MulAlg
import RelicVerif.Lemmas.EpFormulas
import RelicVerif.Lemmas.EpComb
import RelicVerif.Lemmas.EpSim

namespace Relic.Props.C03
open Relic.Model Relic.Model.MulAlg Relic.Model.EpMul
open Relic.Model.EbMul (tabCombs)

variable {G : Type} [AddCommGroup G]

/-- ep_mul_lwnaf / ep_mul_fix_lwnaf on plain curves: reduce k modulo n, recode in width-w NAF, table of odd
    multiples, signed left-to-right loop, final negation for k < 0 is inside `k % n`. Any integer k. -/
theorem mul_lwnaf_correct (p : G) (n : Nat) (hn0 : 0 < n) (hn : (n : ℤ) • p = 0) (k : ℤ) (w : Nat) (hw : 2 ≤ w)
    (cap : Nat) (ds : List Int) (h : Rec.recNaf cap (k % n).toNat w = some ds) :
    mulSigned gops (tabOdd gops p (2 ^ (w - 2))) 0 ds = k • p := by
  rw [mulSigned_naf p cap _ w hw ds h, toNat_emod_zsmul p n hn0 hn]

/-- ep_mul_basic: binary NAF (w = 2) with the one-entry table [P], sign applied at the end -/
theorem mul_basic_correct (p : G) (k : ℤ) (cap : Nat) (ds : List Int) (h : Rec.recNaf cap k.natAbs 2 = some ds) :
    (if k < 0 then -(mulSigned gops [p] 0 ds) else mulSigned gops [p] 0 ds) = k • p :=
  mulSigned_naf_signed p k 2 (le_refl _) cap ds h

/-- ep_mul_slide: reduce modulo n, sliding windows of width w, table of odd multiples up to 2^w - 1 -/
theorem mul_slide_correct (p : G) (n : Nat) (hn0 : 0 < n) (hn : (n : ℤ) • p = 0) (k : ℤ) (w : Nat) (hw : 1 ≤ w)
    (cap : Nat) (win : List Int) (h : Rec.recSlw cap (k % n).toNat w = some win) :
    mulSlide gops (tabOdd gops p (2 ^ (w - 1))) 0 win = k • p := by
  rw [mulSlide_slw p cap _ w hw win h, toNat_emod_zsmul p n hn0 hn]

/-- ep_mul_monty: l = (k mod n) + n or + 2n, whichever has exactly bits(n) + 1 bits; ladder over its lower bits -/
theorem mul_monty_correct (p : G) (n : Nat) (hn : (n : ℤ) • p = 0) (k : ℤ) (l : Nat) (hl : (l : ℤ) % n = k % n)
    (bits : List Bool) (hbits : (2 ^ bits.length + bitsVal bits : ℤ) = l) :
    mulLadder gops p bits = k • p := by
  rw [mulLadder_spec, hbits, ← zsmul_emod p n hn l, hl, zsmul_emod p n hn k]

/-- ep_mul_lwreg on plain curves: regular recoding of (|k| mod n) | 1, parity correction,
    sign applied at the end -/
theorem mul_lwreg_correct (p : G) (n : Nat) (hn0 : 0 < n) (hn : (n : ℤ) • p = 0) (k : ℤ) (w nb : Nat) (hw : 3 ≤ w)
    (hnb : n < 2 ^ nb) (cap : Nat) (reg : List Int)
    (h : Rec.recReg cap ((k.natAbs % n) ||| 1) nb w = some reg) :
    let r := mulReg gops (tabOdd gops p (2 ^ (w - 2))) 0 w reg ((k.natAbs % n) % 2 = 0) p
    (if k < 0 then -r else r) = k • p := by
  intro r
  have hlt : k.natAbs % n < n := Nat.mod_lt _ hn0
  rw [show r = ((k.natAbs % n : ℕ) : ℤ) • p from mulReg_reg p cap _ nb w (by omega) (by omega) reg h]
  exact natAbs_mod_zsmul p n hn k

/-- ep_mul_fix_basic: precomputed 2^i·P, one addition per set bit of k mod n -/
theorem mul_fix_basic_correct (p : G) (n : Nat) (hn0 : 0 < n) (hn : (n : ℤ) • p = 0) (k : ℤ) (nb : Nat) (hnb : n < 2 ^ nb) :
    mulFixBasic gops (tabPow2 gops p nb) 0 (k % n).toNat = k • p := by
  rw [mulFixBasic_spec p nb _ _, toNat_emod_zsmul p n hn0 hn]
  exact Nat.lt_trans (toNat_emod_lt n hn0 k) hnb

/-- ep_mul_sim_trick: both scalars reduced modulo n, fixed windows of width w, table of i·P + j·Q -/
theorem mul_sim_trick_correct (p q : G) (n : Nat) (hn0 : 0 < n) (hp : (n : ℤ) • p = 0) (hq : (n : ℤ) • q = 0) (k m : ℤ) (w : Nat) (hw : 0 < w)
    (cap : Nat) (w0 w1 : List Int) (hk : 0 < (k % n).toNat) (hm : 0 < (m % n).toNat)
    (h0 : Rec.recWin cap (k % n).toNat w = some w0) (h1 : Rec.recWin cap (m % n).toNat w = some w1) :
    simTrick gops (tabTrick gops p q w) 0 w w0 w1 = k • p + m • q := by
  have _ := hk
  have _ := hm
  rw [simTrick_win p q cap _ _ w hw w0 w1 h0 h1, toNat_emod_zsmul p n hn0 hp, toNat_emod_zsmul q n hn0 hq]

/-- ep_mul_sim_inter (plain curves): two width-w NAFs interleaved -/
theorem mul_sim_inter_correct (p q : G) (n : Nat) (hn0 : 0 < n) (hp : (n : ℤ) • p = 0) (hq : (n : ℤ) • q = 0) (k m : ℤ) (w : Nat) (hw : 2 ≤ w)
    (cap : Nat) (n0 n1 : List Int)
    (h0 : Rec.recNaf cap (k % n).toNat w = some n0) (h1 : Rec.recNaf cap (m % n).toNat w = some n1) :
    simInter gops (tabOdd gops p (2 ^ (w - 2))) (tabOdd gops q (2 ^ (w - 2))) 0 n0 n1 = k • p + m • q := by
  rw [simInter_naf p q cap _ _ w w hw hw n0 n1 h0 h1, toNat_emod_zsmul p n hn0 hp, toNat_emod_zsmul q n hn0 hq]

/-- ep_mul_sim_joint: joint sparse form of (k mod n, m mod n) -/
theorem mul_sim_joint_correct (p q : G) (n : Nat) (hn0 : 0 < n) (hp : (n : ℤ) • p = 0) (hq : (n : ℤ) • q = 0) (k m : ℤ)
    (cap : Nat) (j0 j1 : List Int) (h : Rec.recJsf cap (k % n).toNat (m % n).toNat = some (j0, j1)) :
    simJoint gops p q j0 j1 = k • p + m • q := by
  rw [simJoint_jsf p q cap _ _ j0 j1 h, toNat_emod_zsmul p n hn0 hp, toNat_emod_zsmul q n hn0 hq]

/-! ### comb methods, GLV paths, many-point routines (Model/EpMul.lean) -/

/-- the comb with l = ⌈bits(n)/d⌉ columns covers the order: n < 2^(l·d) -/
theorem comb_cover (n d : Nat) (hd : 0 < d) : n < 2 ^ (((Rec.bitLen n + d - 1) / d) * d) :=
  Rec.lt_two_pow_ceil n d hd

/-- the digit bound in the form the loops with 2^(w-2) table entries need -/
theorem naf_digits (cap k w : Nat) (hw : 2 ≤ w) (ds : List Int) (h : Rec.recNaf cap k w = some ds) :
    Rec.eval 1 ds = k ∧ ∀ d ∈ ds, d = 0 ∨ (d % 2 ≠ 0 ∧ d.natAbs < 2 * 2 ^ (w - 2)) := by
  obtain ⟨hv, hd, _⟩ := Rec.recNaf_spec cap k w hw ds h
  rw [← two_pow_pred w hw]
  exact ⟨hv, hd⟩

/-- the sign-magnitude form in which the code carries a sub-scalar -/
theorem sg_natAbs (a : ℤ) : sg (decide (a < 0)) * (a.natAbs : ℤ) = a := by
  unfold sg
  rcases lt_or_ge a 0 with h | h
  · rw [if_pos (by simpa using h)]; omega
  · rw [if_neg (by simpa using h)]; omega

/-- the same written with `if`, as the comb routines have it -/
theorem sign_natAbs (a : ℤ) : (if decide (a < 0) then -(a.natAbs : ℤ) else (a.natAbs : ℤ)) = a :=
  (ite_neg_int _ _).trans (sg_natAbs a)

/-- ep_mul_pre_combs + ep_mul_fix_combs on plain curves (also ep_mul_gen / ep_mul_fix where EP_FIX = COMBS): table
    t[Σ b_j 2^j] = Σ b_j 2^(j·l)·P, scalar reduced modulo n, l columns read from the top.  Every integer k; any l, d with
    n ≤ 2^(l·d) (`comb_cover`: l = ⌈bits(n)/d⌉ qualifies). -/
theorem mul_fix_combs_plain_correct (p : G) (n : Nat) (hn0 : 0 < n) (hn : (n : ℤ) • p = 0) (k : ℤ) (l d : Nat) (hl : 0 < l)
    (hld : n ≤ 2 ^ (l * d)) :
    mulCombsPlain gops (tabCombs gops p l d) (k % n).toNat l d = k • p := by
  rw [Relic.Lemmas.EpComb.mulCombsPlain_spec p _ l d hl (Nat.lt_of_lt_of_le (toNat_emod_lt n hn0 k) hld),
    toNat_emod_zsmul p n hn0 hn]

/-- bn_rec_glv: for lattice rows that annihilate (1, λ) modulo n the pair (k0, k1) computed from k mod n satisfies
    k0 + k1·λ ≡ k (mod n), whatever the rounding -/
theorem rec_glv_congr (n : Nat) (hn0 : 0 < n) (v1 v2 : ℤ × ℤ × ℤ) (lam : ℤ)
    (h1 : (n : ℤ) ∣ v1.2.1 + v1.2.2 * lam) (h2 : (n : ℤ) ∣ v2.2.1 + v2.2.2 * lam) (k : ℤ) :
    (n : ℤ) ∣ (recGlv (k % n).toNat n v1 v2).1 + (recGlv (k % n).toNat n v1 v2).2 * lam - k := by
  have h := Relic.Lemmas.EpComb.recGlv_congr (k % n).toNat n v1 v2 lam h1 h2
  rw [toNat_emod n hn0 k] at h
  exact dvd_sub_of_dvd_sub_emod _ _ _ h

theorem glv_pair_zsmul (ψ : G →+ G) (p : G) (n : Nat) (hn : (n : ℤ) • p = 0) (lam : ℤ) (hψ : ψ p = lam • p)
    (k k0 k1 : ℤ) (hk : (n : ℤ) ∣ k0 + k1 * lam - k) : k0 • p + k1 • ψ p = k • p := by
  rw [hψ, ← mul_zsmul, ← add_zsmul]
  exact zsmul_of_dvd_sub p n hn _ k hk

/-- ep_mul_combs_endom (ep_mul_fix_combs / ep_mul_gen on endomorphism curves): the half-length comb read for both sub-scalars,
    ψ applied to the table entry.  Sub-scalars of at most l·d + 1 bits; the code ignores the sign of a sub-scalar on the
    top-bit path, hence the hypotheses hs0, hs1 (no sub-scalar of the 256-bit endomorphism curves reaches l·d + 1 bits). -/
theorem mul_fix_combs_endom_correct (ψ : G →+ G) (p : G) (n : Nat) (hn : (n : ℤ) • p = 0) (lam : ℤ) (hψ : ψ p = lam • p)
    (k k0 k1 : ℤ) (hk : (n : ℤ) ∣ k0 + k1 * lam - k) (l d : Nat) (hl : 0 < l) (hd : 0 < d)
    (h0 : k0.natAbs < 2 ^ (l * d + 1)) (h1 : k1.natAbs < 2 ^ (l * d + 1))
    (hs0 : d * l < Rec.bitLen k0.natAbs → 0 ≤ k0) (hs1 : d * l < Rec.bitLen k1.natAbs → 0 ≤ k1) :
    mulCombsEndom gops ψ (tabCombs gops p l d) l d k0.natAbs (decide (k0 < 0)) k1.natAbs (decide (k1 < 0)) = k • p := by
  have _ := hl
  rw [Relic.Lemmas.EpComb.mulCombsEndom_spec ψ p l d _ _ _ _ hd h0 h1
    (fun h => by have := hs0 h; simp; omega) (fun h => by have := hs1 h; simp; omega),
    sign_natAbs, sign_natAbs]
  exact glv_pair_zsmul ψ p n hn lam hψ k k0 k1 hk

/-- ep_mul_pre_combd + ep_mul_fix_combd: two tables (the second holds the first doubled e times), e = ⌈dd/2⌉ iterations, two
    columns per iteration.  Every integer k. -/
theorem mul_fix_combd_correct (p : G) (n : Nat) (hn0 : 0 < n) (hn : (n : ℤ) • p = 0) (k : ℤ) (dd e d : Nat) (he : 0 < e)
    (hle : e ≤ dd) (h2 : dd ≤ 2 * e) (hld : n ≤ 2 ^ (dd * d)) :
    mulCombd gops (tabCombd gops p dd e d) (k % n).toNat dd e d = k • p :=
  Relic.Lemmas.EpComb.mulCombd_correct p n hn0 hn k dd e d he hle h2 hld

/-- ep_mul_glv_imp (ep_mul_lwnaf / ep_mul on endomorphism curves): table of odd multiples of ±P, two interleaved width-w NAFs,
    ψ of the table entry negated when the signs differ -/
theorem mul_glv_correct (ψ : G →+ G) (p : G) (n : Nat) (hn : (n : ℤ) • p = 0) (lam : ℤ) (hψ : ψ p = lam • p)
    (k k0 k1 : ℤ) (hk : (n : ℤ) ∣ k0 + k1 * lam - k) (w : Nat) (hw : 2 ≤ w) (cap : Nat) (n0 n1 : List Int)
    (h0 : Rec.recNaf cap k0.natAbs w = some n0) (h1 : Rec.recNaf cap k1.natAbs w = some n1) :
    mulGlv gops ψ p (2 ^ (w - 2)) (decide (k0 < 0)) (decide (k1 < 0)) n0 n1 = k • p := by
  obtain ⟨hv0, hd0⟩ := naf_digits cap _ w hw n0 h0
  obtain ⟨hv1, hd1⟩ := naf_digits cap _ w hw n1 h1
  rw [Relic.Lemmas.EpSim.mulGlv_spec ψ p _ _ _ n0 n1 hd0 hd1, hv0, hv1, sg_natAbs, sg_natAbs]
  exact glv_pair_zsmul ψ p n hn lam hψ k k0 k1 hk

/-- ep_mul_sim_endom (ep_mul_sim_inter, ep_mul_sim, ep_mul_sim_gen on endomorphism curves): four interleaved width-w NAFs -/
theorem mul_sim_endom_correct (ψ : G →+ G) (p q : G) (n : Nat) (hp : (n : ℤ) • p = 0) (hq : (n : ℤ) • q = 0) (lam : ℤ)
    (hψp : ψ p = lam • p) (hψq : ψ q = lam • q) (k k0 k1 m m0 m1 : ℤ)
    (hk : (n : ℤ) ∣ k0 + k1 * lam - k) (hm : (n : ℤ) ∣ m0 + m1 * lam - m) (w : Nat) (hw : 2 ≤ w) (cap : Nat)
    (a0 a1 a2 a3 : List Int)
    (h0 : Rec.recNaf cap k0.natAbs w = some a0) (h1 : Rec.recNaf cap k1.natAbs w = some a1)
    (h2 : Rec.recNaf cap m0.natAbs w = some a2) (h3 : Rec.recNaf cap m1.natAbs w = some a3) :
    simEndom gops ψ (tabOdd gops p (2 ^ (w - 2))) (tabOdd gops q (2 ^ (w - 2)))
      (decide (k0 < 0)) (decide (k1 < 0)) (decide (m0 < 0)) (decide (m1 < 0)) a0 a1 a2 a3 = k • p + m • q := by
  obtain ⟨hv0, hd0⟩ := naf_digits cap _ w hw a0 h0
  obtain ⟨hv1, hd1⟩ := naf_digits cap _ w hw a1 h1
  obtain ⟨hv2, hd2⟩ := naf_digits cap _ w hw a2 h2
  obtain ⟨hv3, hd3⟩ := naf_digits cap _ w hw a3 h3
  rw [Relic.Lemmas.EpSim.simEndom_spec ψ p q _ _ _ _ _ a0 a1 a2 a3
    (forall_mem_four hd0 hd1 hd2 hd3),
    hv0, hv1, hv2, hv3, sg_natAbs, sg_natAbs, sg_natAbs, sg_natAbs,
    glv_pair_zsmul ψ p n hp lam hψp k k0 k1 hk, add_assoc, glv_pair_zsmul ψ q n hq lam hψq m m0 m1 hm]

/-- ep_mul_sim_lot_plain: every list of (point, scalar) pairs, scalars of any sign and length (no reduction modulo the order):
    negative scalars negate the point, binary NAFs interleaved over l ≥ every NAF length iterations.
    An entry is (P, k, NAF of |k|). -/
theorem mul_sim_lot_plain_correct (L : List (G × ℤ × List ℤ)) (cap l : Nat)
    (h : ∀ t ∈ L, Rec.recNaf cap t.2.1.natAbs 2 = some t.2.2 ∧ t.2.2.length ≤ l) :
    simLotNaf gops (L.map fun t => if t.2.1 < 0 then -t.1 else t.1) (L.map fun t => t.2.2) l
      = (L.map fun t => t.2.1 • t.1).sum :=
  Relic.Lemmas.EpSim.simLotNaf_plain L cap l h

/-- ep_mul_sim_dig: every list of (point, single-digit scalar) pairs -/
theorem mul_sim_dig_correct (ps : List G) (ks : List Nat) (mx : Nat) (hk : ∀ k ∈ ks, k < 2 ^ mx) :
    simDig gops ps ks mx = ((ps.zip ks).map fun pk => ((pk.2 : ℕ) : ℤ) • pk.1).sum := by
  refine (interleave_sum (ps.zip ks) Prod.fst (fun pk i => (((pk.2 >>> i) % 2 : ℕ) : ℤ))
    (fun pk i r => if (pk.2 >>> i) % 2 = 1 then gops.add r pk.1 else r) (fun pk _ i r => ?_) mx).trans ?_
  · rcases Nat.mod_two_eq_zero_or_one (pk.2 >>> i) with h | h <;> simp [h]
  · apply congrArg; apply List.map_congr_left
    intro pk hpk
    obtain ⟨a, b⟩ := pk
    rw [bits_sum, Nat.mod_eq_of_lt (hk b (List.of_mem_zip hpk).2)]

/-- ep_mul_sim_lot_endom, bucket branch (more than ten points): every list of entries (P, k, k0, k1, NAF of k0, NAF of k1) with
    signed width-w NAFs (the code negates the digit string of a negative sub-scalar), ψ(P) = λ•P, k0 + k1·λ ≡ k (mod n):
    Σ k•P -/
theorem mul_sim_lot_bucket_correct (ψ : G →+ G) (n : Nat) (lam : ℤ) (c l : Nat)
    (L : List (G × ℤ × (ℤ × ℤ) × (List ℤ × List ℤ)))
    (hP : ∀ t ∈ L, (n : ℤ) • t.1 = 0 ∧ ψ t.1 = lam • t.1 ∧ (n : ℤ) ∣ t.2.2.1.1 + t.2.2.1.2 * lam - t.2.1)
    (hv : ∀ t ∈ L, Rec.eval 1 t.2.2.2.1 = t.2.2.1.1 ∧ Rec.eval 1 t.2.2.2.2 = t.2.2.1.2)
    (hd : ∀ t ∈ L, (∀ d ∈ t.2.2.2.1, d = 0 ∨ (d % 2 ≠ 0 ∧ d.natAbs < 2 * c)) ∧ (∀ d ∈ t.2.2.2.2, d = 0 ∨ (d % 2 ≠ 0 ∧ d.natAbs < 2 * c)))
    (hl : ∀ t ∈ L, t.2.2.2.1.length ≤ l ∧ t.2.2.2.2.length ≤ l) :
    simLotBucket gops ψ (L.map fun t => t.1) (L.map fun t => t.2.2.2) c l = (L.map fun t => t.2.1 • t.1).sum := by
  rw [Relic.Lemmas.EpSim.simLotBucket_spec ψ _ _ c l
    (by intro nf hnf; obtain ⟨t, ht, rfl⟩ := List.mem_map.1 hnf; exact hd t ht)
    (by intro nf hnf; obtain ⟨t, ht, rfl⟩ := List.mem_map.1 hnf; exact hl t ht), List.zip_map', List.map_map]
  congr 1
  apply List.map_congr_left
  intro t ht
  obtain ⟨hn, hψ, hk⟩ := hP t ht
  simp only [Function.comp]
  rw [(hv t ht).1, (hv t ht).2]
  exact glv_pair_zsmul ψ t.1 n hn lam hψ _ _ _ hk

/-- the eigenvalue hypothesis ψ(P) = λ•P of the endomorphism theorems, on ℤ with ψ = multiplication by 2 (the hypothesis
    n • P = 0 is not covered: no n > 0 kills 1 ∈ ℤ) -/
example : ∃ (ψ : ℤ →+ ℤ), ψ 1 = 2 • (1 : ℤ) := ⟨(2 : ℤ) • AddMonoidHom.id ℤ, by simp⟩

/-- non-vacuity: the comb on the integers, n = 13, l = 2 columns, d = 2 rows -/
example : mulCombsPlain (gops : Ops ℤ) (tabCombs gops 1 2 2) 11 2 2 = 11 := by decide
example : mulCombd (gops : Ops ℤ) (tabCombd gops 1 2 1 2) 11 2 1 2 = 11 := by decide

/-- non-vacuity: the loops run on the integers (an additive commutative group) -/
example : mulSigned (gops : Ops ℤ) (tabOdd gops 1 4) 0 [7, 0, 0, 0, 0, -5] = -153 := by decide

end Relic.Props.C03
