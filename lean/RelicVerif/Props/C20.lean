/-
C20 — Masked selection and regular exponentiation do not branch on secrets.

Part 1 (primitives): the C text of dv_copy_sec, dv_swap_sec, dv_cmp_sec, util_cmp_sec is translated on every run
into the branch-free language of Model/CtLang.lean (Gen/Ct.lean); the programs pass the syntactic discipline, and by
the non-interference theorem their trace (loop counts and every array index, in order) is the same whatever the
data and the selection bit.  Part 2 (algorithms): the instrumented ladder and regular-recoding models compute the
values of the C03 models (proved there to be k•P) and emit an operation log that depends only on public lengths.
-/
import RelicVerif.Lemmas.CtLang
import RelicVerif.Lemmas.CtAlg
import RelicVerif.Gen.Ct

namespace Relic.Props.C20
open Relic.Model.CtLang Relic.Model.CtAlg Relic.Model.MulAlg Relic.Gen

/-- every generated primitive is inside the discipline: loop bounds and array indices are public expressions,
    no conditional statement exists in the language -/
theorem primitives_in_discipline (w : Nat) : (Ct.all w).all isCT = true := by rfl

/-- … hence two runs that agree on the public length produce the same trace, whatever the arrays and the bit -/
theorem primitive_trace_independent (w : Nat) (p : Prog) (hp : p ∈ Ct.all w) (s t : St)
    (hpub : pubEq p.pub s t) (htr : s.trace = t.trace) : (run p s).trace = (run p t).trace := by
  have h := List.all_eq_true.mp (primitives_in_discipline w) p hp
  exact run_trace_independent p h s t hpub htr

/-- two different data/bit states with the same length satisfy the hypotheses of `primitive_trace_independent` -/
example : pubEq (Ct.dv_copy_sec 64).pub
    ({ vars := [("digits", 4), ("bit", 0)], arrs := [("c", [1, 2, 3, 4]), ("a", [5, 6, 7, 8])] } : St)
    ({ vars := [("digits", 4), ("bit", 1)], arrs := [("c", [9, 9, 9, 9]), ("a", [0, 0, 0, 0])] } : St) := by
  intro x hx
  simp [Ct.dv_copy_sec] at hx
  subst hx
  rfl

variable {G : Type}

/-- the instrumented Montgomery ladder computes the ladder of C03 (which returns k•P there) … -/
theorem ladder_value (o : Ops G) (hc : ∀ a b, o.add a b = o.add b a) (coords : Nat) (p : G) (bs : List Bool) :
    (ladderI o coords p bs).1 = mulLadder o p bs := by
  rw [ladderI_eq, mulLadder]
  refine congrArg (fun f => (bs.foldl f (p, o.dbl p)).1) (funext fun t => funext fun b => ?_)
  cases b
  · simp [cswap, hc t.2 t.1]
  · simp [cswap]

/-- … and its sequence of group-level operations depends only on the number of scalar bits -/
theorem ladder_ops_depend_on_length_only (o : Ops G) (coords : Nat) (p p' : G) (bs bs' : List Bool)
    (h : bs.length = bs'.length) : (ladderI o coords p bs).2 = (ladderI o coords p' bs').2 := by
  rw [ladderI_eq, ladderI_eq, h]

/-- regular recoding: same value as the C03 model … -/
theorem reg_value (o : Ops G) (tab : List G) (dflt : G) (w cpe : Nat) (reg : List Int) (even : Bool) (p : G) :
    (regI o tab dflt w cpe reg even p).1 = mulReg o tab dflt w reg even p := by
  rw [regI_eq]

/-- … and the operations depend only on the window width, the table size and the number of digits (public) -/
theorem reg_ops_depend_on_length_only (o : Ops G) (tab tab' : List G) (dflt : G) (w cpe : Nat) (reg reg' : List Int)
    (even even' : Bool) (p p' : G) (hl : reg.length = reg'.length) (ht : tab.length = tab'.length) :
    (regI o tab dflt w cpe reg even p).2 = (regI o tab' dflt w cpe reg' even' p').2 := by
  rw [regI_eq, regI_eq, hl, ht]

/-- exponentiation ladder (bn_mxp_monty, fp_exp_monty, fb_exp_monty): operations depend only on the exponent length -/
theorem exp_ladder_ops_depend_on_length_only (mul : G → G → G) (one a a' : G) (bs bs' : List Bool) (perBit : Log)
    (h : bs.length = bs'.length) : (expLadderI mul one a bs perBit).2 = (expLadderI mul one a' bs' perBit).2 := by
  rw [expLadderI_log, expLadderI_log, h]

end Relic.Props.C20
