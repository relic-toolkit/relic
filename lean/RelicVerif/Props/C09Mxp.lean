/- C09, bn_mxp family: theorems model = specification for the modular exponentiations of src/bn/relic_bn_mxp.c
   and for bn_smb_leg (models in Model/NtMxp.lean, the loops and the frame in Lemmas/NtMxp*.lean).

   `MxpSpec a b m r` (Lemmas/NtMxp.lean) is the complete input/output behaviour on ALL integers a, b, m, in the order the code decides:
     m = 1                      → r = some 0            (before anything else, also for b = 0)
     b = 0                      → r = some 1            (also for even / zero / negative m)
     m even or m ≤ 0            → r = none              (ERR_NO_VALID of bn_mod_pre_monty; BN_MOD = MONTY)
     b > 0  (m odd > 1)         → r = some (a^b mod m)  (canonical, Int.emod)
     b < 0, gcd(a, m) = 1       → r = some x with 0 ≤ x < m and x·a^|b| mod m = 1   (unique)
     b < 0, gcd(a, m) ≠ 1       → r = none              (ERR_NO_VALID of bn_mod_inv)                                        -/
import RelicVerif.Lemmas.NtMxpLeg
import RelicVerif.Lemmas.NtMxpFew
import RelicVerif.Lemmas.NumC06

namespace Relic.Props.C09
open Relic.Model Relic.Model.NtMxp

/-- bn_mxp_basic (left-to-right square and multiply in Montgomery form) on all integers, any digit width w -/
theorem mxp_basic_exact (w : Nat) (a b m : Int) : MxpSpec a b m (mxpBasic w a b m) := by
  have := frame_spec a b m (some (basicCore w a b.natAbs m))
    (fun hm hodd hb => by rw [basicCore_eq w a _ m hm hodd (Int.natAbs_pos.mpr hb)])
  simpa [mxpBasic] using this

/-- bn_mxp_slide = bn_mxp (window width from the bit length, table of odd powers, bn_rec_slw scanning) on all integers -/
theorem mxp_slide_exact (w : Nat) (a b m : Int) : MxpSpec a b m (mxpSlide w a b m) := mxpSlide_spec w a b m

/-- bn_mxp_monty (Montgomery ladder) on all integers -/
theorem mxp_monty_exact (w : Nat) (a b m : Int) : MxpSpec a b m (mxpMonty w a b m) := by
  have := frame_spec a b m (some (montyCore w a b.natAbs m))
    (fun hm hodd _ => by rw [montyCore_eq w a _ m hm hodd])
  simpa [mxpMonty] using this

/-- bn_mxp_dig (unsigned digit exponent): m = 1 → 0; b = 0 → 1; even or non-positive m → error; otherwise a^b mod m -/
theorem mxp_dig_exact (w : Nat) (a : Int) (b : Nat) (m : Int) : MxpDigSpec a b m (mxpDig w a b m) := by
  rw [mxpDigSpec_iff, mxpDig_eq_basic]
  exact mxp_basic_exact w a b m

/-- plain reading for the main case -/
theorem mxp_slide_nonneg (w : Nat) (a b m : Int) (hm : 1 < m) (hodd : m % 2 = 1) (hb : 0 ≤ b) :
    mxpSlide w a b m = some (a ^ b.toNat % m) := mxpSlide_nonneg w a b m hm hodd hb

/-- the sliding-window recoding inside bn_mxp_slide never runs out of buffer: the model's error branch for it is unreachable
    (for an odd modulus > 1 the core always returns a value) -/
theorem mxp_slide_core_total (w : Nat) (a : Int) (b : Nat) (m : Int) (hm : 1 < m) (hodd : m % 2 = 1) :
    slideCore w a b m = some (a ^ b % m) := slideCore_eq w a b m hm hodd

/-- bn_mod_inv as used for negative exponents (cofactor loop of bn_gcd_ext_basic, + m when negative): for m > 1 it returns
    the x in [0, m) with x·r ≡ 1 when gcd(r, m) = 1 and reports an error otherwise (bn_mxp passes a canonical residue, r ≥ 0; the
    conclusion does not depend on it) -/
theorem mxp_mod_inv_exact (r m : Int) (hm : 1 < m) (hr : 0 ≤ r) :
    (Int.gcd r m = 1 → ∃ x, modInv r m = some x ∧ 0 ≤ x ∧ x < m ∧ x * r ≡ 1 [ZMOD m]) ∧
    (Int.gcd r m ≠ 1 → modInv r m = none) := modInv_spec r m hm

/-- bn_mxp_crt, sqr = 0: for odd p, q > 1, exponents ≥ 0 and ANY qi with qi·q ≡ 1 (mod p) the result lies in [0, pq) and is
    ≡ a^b (mod p) and ≡ a^c (mod q) — hence it is the CRT lift of the two half exponentiations -/
theorem mxp_crt_exact (w : Nat) (a b c p q dp dq qi : Int) (hp : 1 < p) (hpo : p % 2 = 1) (hq : 1 < q) (hqo : q % 2 = 1)
    (hb : 0 ≤ b) (hc : 0 ≤ c) (hqi : qi * q ≡ 1 [ZMOD p]) :
    ∃ r, mxpCrt w a b c p q dp dq qi false = some r ∧ 0 ≤ r ∧ r < p * q ∧
      r ≡ a ^ b.toNat [ZMOD p] ∧ r ≡ a ^ c.toNat [ZMOD q] := by
  unfold mxpCrt
  simp only [Bool.not_false, if_true, mxpSlide_nonneg w a b p hp hpo hb, mxpSlide_nonneg w a c q hq hqo hc, Option.bind_some]
  obtain ⟨r0, r1, r2, r3⟩ := crtTail_spec p q qi (a ^ b.toNat % p) (a ^ c.toNat % q) (by omega) (by omega) hqi
    (Int.emod_nonneg _ (by omega)) (Int.emod_lt_of_pos _ (by omega))
  exact ⟨_, rfl, r0, r1, r2.trans (Int.mod_modEq _ _), r3.trans (Int.mod_modEq _ _)⟩

/-- the same with qi computed by bn_mod_inv as the harness (and relic_cp_rsa.c) does, for coprime p, q -/
theorem mxp_crt_op_exact (w : Nat) (a dp dq p q : Int) (hp : 1 < p) (hpo : p % 2 = 1) (hq : 1 < q) (hqo : q % 2 = 1)
    (hdp : 0 ≤ dp) (hdq : 0 ≤ dq) (hg : Int.gcd q p = 1) :
    ∃ r, mxpCrtOp w a dp dq p q false = some r ∧ 0 ≤ r ∧ r < p * q ∧
      r ≡ a ^ dp.toNat [ZMOD p] ∧ r ≡ a ^ dq.toNat [ZMOD q] := by
  obtain ⟨x, hx, _, _, hx2⟩ := (modInv_spec q p hp).1 hg
  unfold mxpCrtOp
  rw [hx, Option.bind_some]
  exact mxp_crt_exact w a dp dq p q dp dq x hp hpo hq hqo hdp hdq hx2

/-- the loop `while (d < 0) d += p` of bn_mxp_crt ends within the fuel the model supplies (|d| additions) -/
theorem mxp_crt_addloop_total (p : Int) (hp : 0 < p) (d : Int) : 0 ≤ addLoop p d.natAbs d :=
  addLoop_nonneg p hp _ d (by omega)

/-- bn_smb_leg: for every integer a (negative, ≥ p, multiples of p included) and every odd prime p the result is the Legendre symbol -/
theorem smb_leg_exact (w : Nat) (p : Nat) [Fact p.Prime] (hp2 : p ≠ 2) (a : Int) :
    smbLeg w a (p : Int) = some (legendreSym p a) := by
  have hodd : p % 2 = 1 := (Fact.out : p.Prime).mod_two_eq_one_iff_ne_two.2 hp2
  have hp1 : (1 : Int) < p := by exact_mod_cast (Fact.out : p.Prime).one_lt
  unfold smbLeg
  rw [if_neg (Int.natCast_nonneg p).not_gt]
  by_cases hab : a = (p : Int)
  · rw [if_pos hab, hab, (legendreSym.eq_zero_iff p p).2 (by simp)]
  rw [if_neg hab, show Int.tdiv ((p : Int) - 1) 2 = ((p / 2 : Nat) : Int) by rw [Int.tdiv_eq_ediv_of_nonneg (by omega)]; omega]
  dsimp only
  rw [mxpSlide_nonneg w a _ (p : Int) hp1 (by omega) (Int.natCast_nonneg _), Int.toNat_natCast, Option.map_some, pow_half_emod]
  rcases legendreSym_cases p a with h | h | h <;> rw [h]
  · rw [Int.zero_emod, sub_zero, if_neg hp1.ne', if_neg (by decide)]
  · rw [Int.emod_eq_of_lt zero_le_one hp1, if_neg (by omega), if_pos rfl]
  · rw [neg_one_emod hp1, sub_sub_cancel, if_pos rfl]

/-- bn_mxp_sim (= bn_mxp_sim_few unrolled at n = 2: table {1, a, d, d·a}, one squaring per bit of the longer exponent, one
    multiplication by t[parities]) on ALL integers: m = 1 → 0; m even or ≤ 0 → error (also when both exponents are 0 — there is no
    zero-exponent exit); otherwise (a^|b| · d^|e|) mod m, canonical — the signs of the exponents are ignored by the code -/
theorem mxp_sim_exact (w : Nat) (a b d e m : Int) : SimSpec a b d e m (mxpSim w a b d e m) := by
  have h := mxpSimFew_spec w 0 [(a, b), (d, e)] m
  rwa [← mxpSim_eq_few, FewSpec, if_neg (show ¬ [(a, b), (d, e)].length = 0 from Nat.succ_ne_zero 1),
    if_neg (show ¬ [(a, b), (d, e)].length > 8 from (by decide : ¬ 2 > 8)), prodPow, prodPow, prodPow, mul_one] at h

/-- plain reading for the main case -/
theorem mxp_sim_nonneg (w : Nat) (a b d e m : Int) (hm : 1 < m) (hodd : m % 2 = 1) (hb : 0 ≤ b) (he : 0 ≤ e) :
    mxpSim w a b d e m = some (a ^ b.toNat * d ^ e.toNat % m) := by
  have h := mxp_sim_exact w a b d e m
  unfold SimSpec at h
  rw [if_neg (by omega), if_neg (by omega)] at h
  rw [h, show b.natAbs = b.toNat by omega, show e.natAbs = e.toNat by omega]

/-- bn_mxp_crt, sqr = 1: with crtHalf a b p dp = ((a^b mod p² − 1) / p · dp) mod p (floor division) the result r lies in [0, pq),
    r ≡ crtHalf a b p dp (mod p) and r mod q = crtHalf a c q dq — the CRT lift of the two Paillier-type halves -/
theorem mxp_crt_sqr_exact (w : Nat) (a b c p q dp dq qi : Int) (hp : 1 < p) (hpo : p % 2 = 1) (hq : 1 < q) (hqo : q % 2 = 1)
    (hb : 0 ≤ b) (hc : 0 ≤ c) (hqi : qi * q ≡ 1 [ZMOD p]) :
    ∃ r, mxpCrt w a b c p q dp dq qi true = some r ∧ 0 ≤ r ∧ r < p * q ∧
      r ≡ crtHalf a b p dp [ZMOD p] ∧ r ≡ crtHalf a c q dq [ZMOD q] ∧ r % q = crtHalf a c q dq := by
  have hu0 : 0 ≤ crtHalf a c q dq := Int.emod_nonneg _ (by omega)
  have hu1 : crtHalf a c q dq < q := Int.emod_lt_of_pos _ (by omega)
  obtain ⟨r0, r1, r2, r3⟩ := crtTail_spec p q qi (crtHalf a b p dp) (crtHalf a c q dq) (by omega) (by omega) hqi hu0 hu1
  unfold mxpCrt
  rw [Bool.not_true, if_neg Bool.false_ne_true, mxpSlide_nonneg w a b (p * p) (one_lt_mul_self hp) (by rw [Int.mul_emod, hpo]; rfl) hb,
    mxpSlide_nonneg w a c (q * q) (one_lt_mul_self hq) (by rw [Int.mul_emod, hqo]; rfl) hc, Option.bind_some, Option.bind_some]
  exact ⟨_, rfl, r0, r1, r2, r3, r3.trans (Int.emod_eq_of_lt hu0 hu1)⟩

/-- RSA: distinct odd primes p, q, EVERY integer a (no coprimality), exponents ≥ 1 with dp ≡ d (mod p−1), dq ≡ d (mod q−1):
    bn_mxp_crt (qi by bn_mod_inv) returns a^d mod pq -/
theorem mxp_crt_rsa (w : Nat) (p q : Nat) [Fact p.Prime] [Fact q.Prime] (hp2 : p ≠ 2) (hq2 : q ≠ 2) (hpq : p ≠ q)
    (a : Int) (d dp dq : Nat) (hd : 1 ≤ d) (hdp : 1 ≤ dp) (hdq : 1 ≤ dq)
    (h1 : dp ≡ d [MOD p - 1]) (h2 : dq ≡ d [MOD q - 1]) :
    mxpCrtOp w a dp dq p q false = some (a ^ d % ((p : Int) * q)) := by
  have hpo : p % 2 = 1 := (Fact.out : p.Prime).mod_two_eq_one_iff_ne_two.2 hp2
  have hqo : q % 2 = 1 := (Fact.out : q.Prime).mod_two_eq_one_iff_ne_two.2 hq2
  have hp1 := (Fact.out : p.Prime).one_lt
  have hq1 := (Fact.out : q.Prime).one_lt
  have hcop : Nat.Coprime q p := (Nat.coprime_primes (Fact.out : q.Prime) (Fact.out : p.Prime)).2 (Ne.symm hpq)
  obtain ⟨r, hr, r0, r1, r2, r3⟩ := mxp_crt_op_exact w a dp dq p q (by exact_mod_cast hp1) (by exact_mod_cast hpo)
    (by exact_mod_cast hq1) (by exact_mod_cast hqo) (Int.natCast_nonneg dp) (Int.natCast_nonneg dq)
    (by rw [Int.gcd_natCast_natCast]; exact hcop)
  rw [Int.toNat_natCast] at r2 r3
  have c1 : r ≡ a ^ d [ZMOD p] := r2.trans (Lemmas.NumC06.int_pow_congr p a dp d hdp hd h1)
  have c2 : r ≡ a ^ d [ZMOD q] := r3.trans (Lemmas.NumC06.int_pow_congr q a dq d hdq hd h2)
  have c3 : r ≡ a ^ d [ZMOD (p : Int) * q] :=
    (Int.modEq_and_modEq_iff_modEq_mul (by rw [Int.natAbs_natCast, Int.natAbs_natCast]; exact hcop.symm)).1 ⟨c1, c2⟩
  rw [hr]
  exact congrArg some (eq_emod_of_modEq r0 r1 c3)

/-- bn_mxp_sim_few for every n, on ALL integers (c0 = the value c holds before the call, ps = [(a_0, b_0), …]): m = 1 → 0; n = 0 → c untouched;
    n > 8 → error; m even or ≤ 0 → error; otherwise (Π a_i^|b_i|) mod m, canonical. The 2^n table is proved right on every index whose
    bits select only bases with a non-zero exponent (`TabOK`), and only such indices are read (`parity_live`) -/
theorem mxp_sim_few_exact (w : Nat) (c0 : Int) (ps : List (Int × Int)) (m : Int) :
    FewSpec c0 ps m (mxpSimFew w c0 ps m) := mxpSimFew_spec w c0 ps m

/-- bn_mxp_sim_lot (blocks of XP_WIDTH = 8 pairs through bn_mxp_sim_few, a single leftover pair through bn_mxp, several leftovers through
    bn_mxp_sim_few, every product reduced by bn_mod_basic): for an odd modulus > 1 and exponents ≥ 0, any number of pairs,
    the result is (Π a_i^b_i) mod m, canonical -/
theorem mxp_sim_lot_exact (w : Nat) (ps : List (Int × Int)) (m : Int) (hm : 1 < m) (hodd : m % 2 = 1) (hnn : ∀ p ∈ ps, 0 ≤ p.2) :
    mxpSimLot w ps m = some (prodPow ps % m) := by
  obtain ⟨c', rest, e, hr, hsuf, hc, hrange⟩ := lotBlocks_spec w m hm hodd ps.length ps 1 (by omega)
  obtain ⟨hc0, hc1⟩ := hrange ⟨by omega, hm⟩
  rw [one_mul] at hc
  unfold mxpSimLot
  rw [if_neg (by omega), e, Option.bind_some]
  -- whatever handles the leftover pairs returns t ≡ Π rest, and the last bn_mod_basic makes c'·t canonical
  have fin : ∀ t : Int, t ≡ prodPow rest [ZMOD m] → modB (c' * t) m = some (prodPow ps % m) := fun t ht => by
    rw [modB_pos _ _ (by omega)]
    exact congrArg some ((ht.mul_left c').trans hc)
  match rest, hr, hsuf, hc, fin with
  | [], _, _, hc, _ =>
    rw [prodPow, mul_one] at hc
    exact congrArg some (eq_emod_of_modEq hc0 hc1 hc)
  | [p], _, hsuf, _, fin =>
    have hp : 0 ≤ p.2 := hnn p (hsuf.subset List.mem_cons_self)
    dsimp only
    rw [mxpSlide_nonneg w p.1 p.2 m hm hodd hp, Option.bind_some]
    apply fin
    rw [prodPow, prodPow, mul_one, show p.2.natAbs = p.2.toNat by omega]
    exact Int.mod_modEq _ _
  | p :: q :: r, hr, _, _, fin =>
    dsimp only
    rw [few_val w (p :: q :: r) m hm hodd (by simp) (by omega), Option.bind_some]
    exact fin _ (Int.mod_modEq _ _)

-- the hypotheses are satisfiable
example : ∃ r, mxpCrtOp 64 5 3 3 7 11 false = some r ∧ 0 ≤ r ∧ r < 7 * 11 ∧ r ≡ 5 ^ 3 [ZMOD 7] ∧ r ≡ 5 ^ 3 [ZMOD 11] :=
  mxp_crt_op_exact 64 5 3 3 7 11 (by decide) (by decide) (by decide) (by decide) (by decide) (by decide) (by decide)

end Relic.Props.C09
