/- C09, reductions and square root: theorems model = specification for bn_srt and the reductions bn_mod_barrt / _monty / _pmers. -/
import RelicVerif.Lemmas.NtMod
import RelicVerif.Lemmas.NtModBarrt
import RelicVerif.Lemmas.NtModMonty
import RelicVerif.Lemmas.NtModPmers

namespace Relic.Props.C09
open Relic.Model.NtMod

/-! ## bn_srt -/

/-- bn_srt (binary search as coded, Model.NtMod.bnSrt): for every a ≥ 0 the loop terminates within the fuel the model supplies
    (the result is `some`, never the fuel-exhausted `none`) and returns the floor square root. -/
theorem srt_exact (a : Nat) : bnSrt (a : Int) = some (Nat.sqrt a) := Relic.Lemmas.NtMod.bnSrt_eq_sqrt a

/-- the same in the defining form r² ≤ a < (r+1)² -/
theorem srt_bounds (a : Nat) : ∃ r, bnSrt (a : Int) = some r ∧ r * r ≤ a ∧ a < (r + 1) * (r + 1) :=
  Relic.Lemmas.NtMod.bnSrt_spec a

/-- negative argument: ERR_NO_VALID -/
theorem srt_neg_err (a : Int) (h : a < 0) : bnSrt a = none := by
  simp [bnSrt, h]

/-! ## bn_mod_pre_barrt + bn_mod_barrt -/

/-- Barrett reduction as coded (early exit with `+ m` for a negative operand, long-operand fallback, truncated
    difference with wrap-around, correction loop, `m − r` for a negative operand unless r = 0), with the reciprocal of
    bn_mod_pre_barrt: for EVERY integer a and every m > 0 (any digit width w ≥ 2) the result is a mod m, in [0, m). -/
theorem mod_barrt_exact (w : Nat) (hw : 2 ≤ w) (a m : Int) (hm : 0 < m) :
    ∃ p, modBarrtFull w a m = some (a % m, p) ∧ 0 ≤ a % m ∧ a % m < m := by
  obtain ⟨p, h, _⟩ := Relic.Lemmas.NtMod.modBarrtFull_spec w hw a m hm
  exact ⟨p, h, Int.emod_nonneg _ (ne_of_gt hm), Int.emod_lt_of_pos _ hm⟩

/-- the correction loop `while (t >= m) t -= m` of bn_mod_barrt runs at most twice (q3 ≤ q ≤ q3 + 2), and the supplied fuel is
    never exhausted — for every integer a -/
theorem mod_barrt_corrections_le (w : Nat) (hw : 2 ≤ w) (a m : Int) (hm : 0 < m) (wr : Bool) (n : Nat) (v : Int)
    (h : modBarrtFull w a m = some (v, BarrtPath.main wr n)) : n ≤ 2 := by
  obtain ⟨p, h', hn⟩ := Relic.Lemmas.NtMod.modBarrtFull_spec w hw a m hm
  rw [h'] at h
  injection h with h
  injection h with _ hp
  exact hn wr n hp

/-- the arithmetic core (HAC 14.42): B^(k-1) ≤ m < B^k, 0 ≤ c < B^(2k) -/
theorem mod_barrt_core (w k : Nat) (hw : 2 ≤ w) (hk : 1 ≤ k) (c m : Int)
    (hm1 : ((2 : Int) ^ w) ^ (k - 1) ≤ m) (hm2 : m < ((2 : Int) ^ w) ^ k) (hc1 : 0 ≤ c) (hc2 : c < ((2 : Int) ^ w) ^ (2 * k)) :
    (barrtCore w k c m ((2 : Int) ^ (2 * k * w) / m)).1 = c % m ∧ (barrtCore w k c m ((2 : Int) ^ (2 * k * w) / m)).2.2 ≤ 2 :=
  Relic.Lemmas.NtMod.barrtCore_spec w k hw hk c m hm1 hm2 hc1 hc2

example : ∃ p, modBarrtFull 8 1000 7 = some (1000 % 7, p) ∧ (0 : Int) ≤ 1000 % 7 ∧ (1000 : Int) % 7 < 7 := mod_barrt_exact 8 (by omega) 1000 7 (by omega)
example : (modBarrtFull 8 (-5) 5).map (·.1) = some 0 ∧ (modBarrtFull 8 (-3) 5).map (·.1) = some 2 := by decide

/-! ## bn_mod_pre_monty, bn_mod_monty_basic / _comba, bn_mod_monty_back, bn_mod_monty_conv -/

/-- the Newton iteration of bn_mod_pre_monty (start value correct modulo 2^4, 1 + [w>8] + [w>16] + [w>32] doubling steps in digit
    arithmetic): for digit widths 4 ≤ w ≤ 64 and odd m > 0 the digit u satisfies u·m ≡ -1 mod 2^w -/
theorem pre_monty_exact (w : Nat) (hw4 : 4 ≤ w) (hw : w ≤ 64) (m : Int) (hm : 0 < m) (hodd : m % 2 = 1) :
    ∃ u, preMonty w m = some u ∧ 0 ≤ u ∧ u < (2 : Int) ^ w ∧ (u * m + 1) % (2 : Int) ^ w = 0 := by
  have hB0 : (0 : Int) < (2 : Int) ^ w := by positivity
  have h16 : (16 : Int) ∣ (2 : Int) ^ w := by
    have : (16 : Int) = 2 ^ 4 := by norm_num
    rw [this]; exact pow_dvd_pow 2 hw4
  have h2B : (2 : Int) ∣ (2 : Int) ^ w := dvd_trans (by norm_num) h16
  have hb : (m % (2 : Int) ^ w) % 2 = 1 := by rw [Int.emod_emod_of_dvd _ h2B]; exact hodd
  have hcond : ¬ (m % 2 = 0 ∨ m ≤ 0) := by omega
  have hpre : preMonty w m = some ((-(newtonIter ((2 : Int) ^ w) (m % (2 : Int) ^ w) (montySteps w)
      (newtonStart ((2 : Int) ^ w) (m % (2 : Int) ^ w)))) % (2 : Int) ^ w) := by
    simp only [preMonty, hcond, if_false]
  refine ⟨_, hpre, Int.emod_nonneg _ hB0.ne', Int.emod_lt_of_pos _ hB0, ?_⟩
  clear hpre
  generalize hBd : (2 : Int) ^ w = B at *
  generalize hbd : m % B = b at *
  have h0 := Relic.Lemmas.NtMod.newtonStart_inv B b h16 hb
  have h0' : (2 : Int) ^ (min 4 w) ∣ newtonStart B b * b - 1 := by
    rw [Nat.min_eq_left hw4]; norm_num; exact h0
  have h1 := Relic.Lemmas.NtMod.newtonIter_inv B b w hBd.symm (montySteps w) 4 _ h0'
  rw [Nat.min_eq_right (Relic.Lemmas.NtMod.montySteps_enough w hw), hBd] at h1
  generalize newtonIter B b (montySteps w) (newtonStart B b) = x at h1
  -- (-x mod B)·m + 1 ≡ -(x·b - 1) mod B
  apply Int.emod_eq_zero_of_dvd
  have e2 := Int.emod_def m B
  rw [hbd] at e2
  rw [Int.emod_def (-x) B, show (-x - B * (-x / B)) * m + 1 = -(x * b - 1) + B * (-(x * (m / B)) - (-x / B) * m) by
    linear_combination x * e2]
  exact dvd_add (Dvd.dvd.neg_right h1) (Dvd.intro _ rfl)

/-- even or non-positive modulus: ERR_NO_VALID -/
theorem pre_monty_err (w : Nat) (m : Int) (h : m % 2 = 0 ∨ m ≤ 0) : preMonty w m = none := by
  simp [preMonty, h]

/-- REDC as coded (k rounds, high half, carry subtraction on k digits, final conditional subtraction) for odd m > 0 with k digits and
    0 ≤ a < m·B^k, u·m ≡ -1 mod B: the result r is canonical and r·B^k ≡ a (mod m), i.e. r = a·R⁻¹ mod m.
    `redc` is what bn_mod_monty_basic and bn_mod_monty_comba both compute for a ≥ 0 (Model/NtMod: modMontyBasic, modMontyComba); for
    a < 0 the two differ and neither is covered here. -/
theorem mod_monty_exact (w : Nat) (hw : 0 < w) (a m u : Int) (hm : 0 < m) (hu : (u * m + 1) % (2 : Int) ^ w = 0)
    (ha0 : 0 ≤ a) (ha : a < m * ((2 : Int) ^ w) ^ used w m.toNat) :
    0 ≤ (redc w a m u).1 ∧ (redc w a m u).1 < m ∧ ((redc w a m u).1 * ((2 : Int) ^ w) ^ used w m.toNat) % m = a % m := by
  have hB : (0 : Int) < (2 : Int) ^ w := by positivity
  have hmR := Relic.Lemmas.NtMod.lt_pow_used w hw m hm.le
  generalize hk : used w m.toNat = k at *
  generalize hBd : (2 : Int) ^ w = B at *
  have hR : 0 < B ^ k := by positivity
  have hRR : B ^ (2 * k) = B ^ k * B ^ k := by rw [two_mul, pow_add]
  have haRR : a < B ^ (2 * k) := by
    rw [hRR]
    calc a < m * B ^ k := ha
      _ ≤ B ^ k * B ^ k := mul_le_mul_of_nonneg_right hmR.le hR.le
  have ha' : a % B ^ (2 * k) = a := Int.emod_eq_of_lt ha0 haRR
  obtain ⟨Q, hQ0, hQ1, hval, hd⟩ := Relic.Lemmas.NtMod.redcRounds_inv B m u hB hu k 0 a (by simp)
  simp only [Nat.zero_add, pow_zero, mul_one] at hval hd
  -- the high half T satisfies R·T = a + Q·m with 0 ≤ Q < R = B^k, hence 0 ≤ T < 2m
  obtain ⟨T, hT⟩ := hd
  have hTdiv : redcRounds B m u k 0 a / B ^ k = T := by rw [hT]; exact Int.mul_ediv_cancel_left _ hR.ne'
  have hRT : B ^ k * T = a + Q * m := by rw [← hT, hval]
  have hQm := Int.mul_nonneg hQ0 hm.le
  have hT0 : 0 ≤ T := nonneg_of_mul_nonneg_right (by rw [hRT]; exact Int.add_nonneg ha0 hQm) hR
  have hT2 : T < 2 * m := by
    have h1 : Q * m < B ^ k * m := mul_lt_mul_of_pos_right hQ1 hm
    exact lt_of_mul_lt_mul_left (by rw [hRT]; linarith) hR.le
  -- both T and T − m represent a·R⁻¹ modulo m
  have hkeep : T * B ^ k % m = a % m := by
    rw [show T * B ^ k = a + Q * m by linear_combination hRT, Int.add_mul_emod_self_right]
  have hsub : (T - m) * B ^ k % m = a % m := by
    rw [show (T - m) * B ^ k = a + (Q - B ^ k) * m by linear_combination hRT, Int.add_mul_emod_self_right]
  -- the carry correction `T = (T − m) mod R` and the final `if (T ≥ m) T −= m` together subtract m at most once
  simp only [redc, hBd, hk, ha', hTdiv]
  by_cases hc : T ≥ B ^ k
  · rw [if_pos hc, Int.emod_eq_of_lt (by omega) (by omega), if_neg (by omega)]
    exact ⟨by omega, by omega, hsub⟩
  · rw [if_neg hc]
    split
    · exact ⟨by omega, by omega, hsub⟩
    · exact ⟨hT0, by omega, hkeep⟩

/-- bn_mod_monty_back (= bn_mod_pre_monty + bn_mod_monty_comba): for 4 ≤ w ≤ 64, odd m > 0 and 0 ≤ a < m·B^k the result r is in
    [0, m) with r·B^k ≡ a -/
theorem monty_back_exact (w : Nat) (hw4 : 4 ≤ w) (hw : w ≤ 64) (a m : Int) (hm : 0 < m) (hodd : m % 2 = 1)
    (ha0 : 0 ≤ a) (ha : a < m * ((2 : Int) ^ w) ^ used w m.toNat) :
    ∃ r c f, montyBack w a m = some (r, c, f) ∧ 0 ≤ r ∧ r < m ∧ (r * ((2 : Int) ^ w) ^ used w m.toNat) % m = a % m := by
  obtain ⟨u, hu, _, _, hinv⟩ := pre_monty_exact w hw4 hw m hm hodd
  have hcond : ¬ (m % 2 = 0 ∨ m ≤ 0) := by omega
  have haa : (a.natAbs : Int) = a := Int.natAbs_of_nonneg ha0
  obtain ⟨h1, h2, h3⟩ := mod_monty_exact w (by omega) a m u hm hinv ha0 ha
  exact ⟨(redc w a m u).1, (redc w a m u).2.1, (redc w a m u).2.2, by simp [montyBack, hu, modMontyComba, hcond, haa], h1, h2, h3⟩

/-- bn_mod_monty_conv: a·B^k mod m for every a (odd m > 0) -/
theorem monty_conv_exact (w : Nat) (a m : Int) (hm : 0 < m) (hodd : m % 2 = 1) :
    montyConv w a m = some ((a * ((2 : Int) ^ w) ^ used w m.toNat) % m) := by
  have hcond : ¬ (m % 2 = 0 ∨ m ≤ 0) := by omega
  simp only [montyConv, hcond, if_false]
  have hX : (2 : Int) ^ (used w m.toNat * w) = ((2 : Int) ^ w) ^ used w m.toNat := by rw [← pow_mul, mul_comm]
  congr 1
  rw [hX, Int.mul_emod (a % m), Int.emod_emod, ← Int.mul_emod]

example : ∃ u, preMonty 8 7 = some u ∧ 0 ≤ u ∧ u < (2 : Int) ^ 8 ∧ (u * 7 + 1) % (2 : Int) ^ 8 = 0 :=
  pre_monty_exact 8 (by omega) (by omega) 7 (by omega) (by omega)

/-! ## bn_mod_pre_pmers + bn_mod_pmers -/

/-- pseudo-Mersenne reduction as coded, for EVERY integer a and EVERY modulus m > 0 (u = 2^bits(m) - m ≤ 2^(bits-1),
    so the folding loop halves q in every round and ends within the bitLen(q) + 1 rounds the model supplies): the result is a mod m, in [0, m) -/
theorem mod_pmers_exact (a m : Int) (hm : 0 < m) : ∃ r n, modPmersFull a m = some (a % m, r, n) ∧ 0 ≤ a % m ∧ a % m < m := by
  obtain ⟨r, n, h⟩ := Relic.Lemmas.NtMod.modPmersFull_spec a m hm
  exact ⟨r, n, h, Int.emod_nonneg _ (ne_of_gt hm), Int.emod_lt_of_pos _ hm⟩

/-- the negative case spelled out (`m − c` is skipped when c = 0): for a < 0 the value is
    0 when m | a and m − ((−a) mod m) otherwise — which is a mod m -/
theorem mod_pmers_neg (a m : Int) (hm : 0 < m) (_ha : a < 0) :
    ∃ r n, modPmersFull a m = some ((if (-a) % m = 0 then 0 else m - (-a) % m), r, n) := by
  obtain ⟨r, n, h⟩ := Relic.Lemmas.NtMod.modPmersFull_spec a m hm
  rw [Relic.Lemmas.NtMod.neg_residue a m hm] at h
  exact ⟨r, n, h⟩

example : (modPmersFull (-7) 7).map (·.1) = some 0 ∧ (modPmersFull (-5) 7).map (·.1) = some 2 := by decide

/-- the folding loop terminates (never `none`) for every modulus and operand -/
theorem mod_pmers_fold_terminates (a m : Int) (hm : 0 < m) : (modPmersFull a m).isSome = true := by
  obtain ⟨r, n, h⟩ := Relic.Lemmas.NtMod.modPmersFull_spec a m hm
  rw [h]; rfl

end Relic.Props.C09
