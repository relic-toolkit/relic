/-
C06 — Encryption, key agreement and sharing invert correctly; bad input is rejected.

Specification (executable, written from the standards / original papers): Spec/Cp.lean.  Code-shaped models of the C
functions: Model/Cp.lean.  The theorems below are the unbounded statements (every key satisfying the key equations, every
plaintext / residue / exponent / list of shares).
What the theorems do NOT cover is compared with the specification on every run only (class C, listed in tools/props/c06.py):
in particular "decryption rejects bad input" is decided by the specification's decoders — whose acceptance sets are
characterised here (`*_accepts_only_*`, `rabin_block`) — on each crafted / mutated ciphertext, it is not a theorem about the C text.
-/
import RelicVerif.Lemmas.RsaC06
import RelicVerif.Lemmas.PaillierC06
import RelicVerif.Lemmas.ShareC06
import RelicVerif.Lemmas.SssC06
import RelicVerif.Lemmas.PadC06
import RelicVerif.Lemmas.PadModelC06
import RelicVerif.Lemmas.OaepModelC06

namespace Relic.Props.C06
open Relic.Spec.Cp Relic.Model.Cp
open Relic.Spec.Mac (Hash)
open Relic.Lemmas

/-- RSADP ∘ RSAEP = id for EVERY representative m < n (also when gcd(m, n) ≠ 1), for every key with n = p·q, p ≠ q prime and
    e·d ≡ 1 (mod lcm(p−1, q−1)) -/
theorem rsa_roundtrip (p q e d m : Nat) (hp : p.Prime) (hq : q.Prime) (hpq : p ≠ q)
    (hed : (e * d) % Nat.lcm (p - 1) (q - 1) = 1 % Nat.lcm (p - 1) (q - 1)) (hed0 : 0 < e * d) (hm : m < p * q) :
    rsadp (p * q) d (rsaep (p * q) e m) = m := by
  rw [rsadp, rsaep, (NumC06.powMod_roundtrip hp hq hpq hed hed0 m).2, Nat.mod_eq_of_lt hm]

/-- the model of `bn_mxp_crt(d, a, dP, dQ, crt, 0)` (two half-size exponentiations + Garner) is a^d mod n for every base -/
theorem rsa_crt_eq_plain (p q d qi c : Nat) (hp : p.Prime) (hq : q.Prime) (hpq : p ≠ q) (hqi : qi * q % p = 1)
    (hdp : 0 < d % (p - 1)) (hdq : 0 < d % (q - 1)) :
    mxpCrt c (d % (p - 1)) (d % (q - 1)) p q qi = c ^ d % (p * q) :=
  have _ := hpq
  RsaC06.mxpCrt_eq_mod _ _ _ p q qi _ hp.one_lt hq.pos hqi (NumC06.pow_mod_pred hp hdp c) (NumC06.pow_mod_pred hq hdq c)

/-- the CRT private-key path inverts encryption for every representative m < n -/
theorem rsa_crt_roundtrip (p q e d qi m : Nat) (hp : p.Prime) (hq : q.Prime) (hpq : p ≠ q) (hp2 : 2 < p) (hq2 : 2 < q)
    (hed : (e * d) % Nat.lcm (p - 1) (q - 1) = 1) (hqi : qi * q % p = 1) (hm : m < p * q) :
    mxpCrt (rsaep (p * q) e m) (d % (p - 1)) (d % (q - 1)) p q qi = m := by
  obtain ⟨hed1, hed0⟩ := NumC06.modEq_one_of_mod_eq_one hed
  rw [rsa_crt_eq_plain p q d qi _ hp hq hpq hqi (RsaC06.red_exp_pos p e d _ hp2 (Nat.dvd_lcm_left _ _) hed)
      (RsaC06.red_exp_pos q e d _ hq2 (Nat.dvd_lcm_right _ _) hed),
    ← Relic.Spec.Curve.powMod_eq]
  exact rsa_roundtrip p q e d m hp hq hpq hed1 hed0 hm

/-- EME-PKCS1-v1_5: decoding inverts encoding for every message and every admissible padding string … -/
theorem pkcs1_roundtrip (ps m : Bytes) (hps : ∀ b ∈ ps, b ≠ 0) (hlen : 8 ≤ ps.length) :
    pkcs1Unpad (pkcs1Pad ps m) = some m := (PadC06.pkcs1Unpad_eq_some_iff _ m).2 ⟨ps, rfl, hps, hlen⟩

/-- … and accepts ONLY 00 ‖ 02 ‖ PS ‖ 00 ‖ M with PS non-zero, |PS| ≥ 8 -/
theorem pkcs1_accepts_only_layout (em m : Bytes) (h : pkcs1Unpad em = some m) :
    ∃ ps, em = pkcs1Pad ps m ∧ (∀ b ∈ ps, b ≠ 0) ∧ 8 ≤ ps.length := (PadC06.pkcs1Unpad_eq_some_iff em m).1 h

/-- EME-OAEP: decoding inverts encoding for every seed of hash length and every message that fits the modulus … -/
theorem oaep_roundtrip (H : Hash) (hout : ∀ b, (H.h b).length = H.outLen) (hpos : 0 < H.outLen) (k : Nat) (seed m : Bytes)
    (hs : seed.length = H.outLen) (hm : m.length + 2 * H.outLen + 2 ≤ k) :
    oaepDecode H k (oaepEncode H k seed m) = some m := (PadC06.oaepDecode_eq_some_iff H hout hpos k _ m).2 ⟨seed, hs, hm, rfl⟩

/-- … and accepts ONLY OAEP encodings (first octet 00, label hash, zero padding, 01 separator) -/
theorem oaep_accepts_only_encodings (H : Hash) (hout : ∀ b, (H.h b).length = H.outLen) (hpos : 0 < H.outLen) (k : Nat)
    (em m : Bytes) (h : oaepDecode H k em = some m) :
    ∃ seed, seed.length = H.outLen ∧ m.length + 2 * H.outLen + 2 ≤ k ∧ em = oaepEncode H k seed m :=
  (PadC06.oaepDecode_eq_some_iff H hout hpos k em m).1 h

/-- the library's basic layout: round trip and acceptance set -/
theorem basic_roundtrip (k : Nat) (m : Bytes) (h : m.length + 2 ≤ k) : basicUnpad (basicPad k m) = some m :=
  (PadC06.basicUnpad_eq_some_iff _ m).2 ⟨k - 1 - m.length, by omega, rfl⟩

theorem basic_accepts_only_layout (em m : Bytes) (h : basicUnpad em = some m) :
    ∃ z, 1 ≤ z ∧ em = List.replicate z 0 ++ [0xFF] ++ m := (PadC06.basicUnpad_eq_some_iff em m).1 h

/-- I2OSP / OS2IP are mutually inverse (leading zero octets preserved) -/
theorem octet_string_roundtrip (b : Bytes) (n len : Nat) (h : n < 256 ^ len) :
    i2osp (os2ip b) b.length = b ∧ os2ip (i2osp n len) = n := ⟨PadC06.i2osp_os2ip b, by rw [PadC06.os2ip_i2osp, Nat.mod_eq_of_lt h]⟩

/-- model = specification for the padding removers of cp_rsa_dec: the integer-level scan of pad_basic decides and returns
    exactly what the byte-level decoder does, for every k-octet encoded message -/
theorem pad_basic_model_eq_spec (k : Nat) (em : Bytes) (hk : 2 ≤ k) (hlen : em.length = k) :
    (padBasicDec (os2ip em) k).map (fun r => i2osp r.1 (k - r.2)) = basicUnpad em := by
  subst hlen
  exact PadModelC06.padBasicDec_eq em hk

/-- pad_pkcs1 (RSA_DEC) = EME-PKCS1-v1_5 decoding of RFC 8017 §7.2.2 (|PS| ≥ 8 included), restricted to non-empty messages
    (the encryption side admits no empty message), for every k-octet encoded message -/
theorem pad_pkcs1_model_eq_spec (k : Nat) (em : Bytes) (hk : 3 ≤ k) (hlen : em.length = k) :
    (padPkcs1Dec (os2ip em) k).map (fun r => i2osp r.1 (k - r.2))
      = (pkcs1Unpad em).bind fun m => if m.isEmpty then none else some m := by
  subst hlen
  exact PadModelC06.padPkcs1Dec_eq em hk

/-- accept/reject agree in both directions: the standard's decoder returns the non-empty message m iff pad_pkcs1 does -/
theorem pad_pkcs1_accepts_iff (k : Nat) (em m : Bytes) (hk : 3 ≤ k) (hlen : em.length = k) (hm : m ≠ []) :
    pkcs1Unpad em = some m ↔ (padPkcs1Dec (os2ip em) k).map (fun r => i2osp r.1 (k - r.2)) = some m := by
  rw [pad_pkcs1_model_eq_spec k em hk hlen]
  cases pkcs1Unpad em with
  | none => simp
  | some m' =>
    rw [Option.bind_some]
    cases m' with
    | nil => exact ⟨fun h => absurd (Option.some.inj h).symm hm, fun h => by simp at h⟩
    | cons a b => simp

/-- pad_pkcs2 (RSA_DEC) = EME-OAEP decoding of RFC 8017 §7.1.2 for every k-octet encoded message, k ≥ 2·hLen + 2: the shifts,
    the xor of the mask as integers and the bn_size_bin search for the 01 separator decide and return what the byte-level
    decoder does (any hash with fixed output length) -/
theorem pad_pkcs2_model_eq_spec (H : Hash) (hout : ∀ b, (H.h b).length = H.outLen) (hpos : 0 < H.outLen) (k : Nat) (em : Bytes)
    (hk : 2 * H.outLen + 2 ≤ k) (hlen : em.length = k) :
    (padPkcs2Dec H (os2ip em) k).map (fun r => i2osp r.1 (k - r.2)) = oaepDecode H k em := by
  subst hlen
  exact OaepModelC06.padPkcs2Dec_eq H hout hpos em hk

/-- for Blum primes the exponentiation of cp_rabin_dec yields a square root of every quadratic residue -/
theorem rabin_blum_sqrt (p c : Nat) (hp : p.Prime) (h3 : p % 4 = 3) (hc : ∃ x, x ^ 2 % p = c % p) :
    (c ^ ((p + 1) / 4)) ^ 2 % p = c % p := by
  have : Fact p.Prime := ⟨hp⟩
  obtain ⟨x, hx⟩ := hc
  have hx' : (x : ZMod p) ^ 2 = c := by
    simpa using (ZMod.natCast_eq_natCast_iff' (x ^ 2) c p).2 hx
  rw [← ZMod.natCast_eq_natCast_iff']
  push_cast
  -- c = x², and x^(p+1) = x^p · x = x² by Fermat
  have hj : 2 * ((p + 1) / 4 * 2) = p + 1 := by omega
  rw [← hx', ← pow_mul, ← pow_mul, hj, pow_succ, ZMod.pow_card, sq]

/-- the four CRT combinations are square roots of c, and the plaintext block is one of them -/
theorem rabin_roots (p q c r m rp rq : Nat) (hp : p.Prime) (hq : q.Prime) (hpq : p ≠ q)
    (hrp : rp ^ 2 % p = c % p) (hrq : rq ^ 2 % q = c % q)
    (h1 : r % p = rp % p ∨ (r + rp) % p = 0) (h2 : r % q = rq % q ∨ (r + rq) % q = 0)
    (hm : m ^ 2 % (p * q) = c % (p * q)) :
    r ^ 2 % (p * q) = c % (p * q) ∧
    ((m % p = rp % p ∨ (m + rp) % p = 0) ∧ (m % q = rq % q ∨ (m + rq) % q = 0)) := by
  have hrp' : rp ^ 2 ≡ c [MOD p] := hrp
  have hrq' : rq ^ 2 ≡ c [MOD q] := hrq
  have hm' : m ^ 2 ≡ c [MOD p * q] := hm
  exact ⟨NumC06.modEq_mul_of_primes hp hq hpq (((RsaC06.sq_modEq_sq_iff hp r rp).2 h1).trans hrp')
      (((RsaC06.sq_modEq_sq_iff hq r rq).2 h2).trans hrq'),
    (RsaC06.sq_modEq_sq_iff hp m rp).1 ((hm'.of_mul_right q).trans hrp'.symm),
    (RsaC06.sq_modEq_sq_iff hq m rq).1 ((hm'.of_mul_left p).trans hrq'.symm)⟩

/-- the redundancy block determines the message and is recognised: parse ∘ block = id, and parse accepts only blocks -/
theorem rabin_block (m : Bytes) (r : Nat) :
    rabinParse (rabinBlock m) = some m ∧ (rabinParse r = some m → r = rabinBlock m) :=
  ⟨(PadC06.rabinParse_eq_some_iff _ m).2 rfl, (PadC06.rabinParse_eq_some_iff r m).1⟩

theorem paillier_binomial (n m : Nat) : (1 + n) ^ m % (n * n) = (1 + m * n) % (n * n) := by
  simpa [Nat.ModEq] using PaillierC06.one_add_mul_pow_modEq n 1 m

/-- decryption returns the plaintext for every m < n and every unit r -/
theorem paillier_roundtrip (p q m r : Nat) (hp : p.Prime) (hq : q.Prime) (hpq : p ≠ q)
    (hg : Nat.Coprime (p * q) ((p - 1) * (q - 1))) (hr : Nat.Coprime r (p * q)) (hm : m < p * q) :
    paillierDecrypt (p * q) p q (paillierEncrypt (p * q) m r) = m := by
  rw [PaillierC06.paillier_decrypt p q m r _ hp hq hpq hg hr, Nat.mod_eq_of_lt hm]
  rw [PaillierC06.paillierEncrypt_eq, Nat.mod_mod]

/-- what cp_phpe_add computes decrypts to m₁ + m₂ mod n — sums that wrap the plaintext modulus included -/
theorem paillier_homomorphic (p q m1 m2 r1 r2 : Nat) (hp : p.Prime) (hq : q.Prime) (hpq : p ≠ q)
    (hg : Nat.Coprime (p * q) ((p - 1) * (q - 1))) (hr1 : Nat.Coprime r1 (p * q)) (hr2 : Nat.Coprime r2 (p * q)) :
    paillierDecrypt (p * q) p q
        (paillierEncrypt (p * q) m1 r1 * paillierEncrypt (p * q) m2 r2 % (p * q * (p * q))) = (m1 + m2) % (p * q) := by
  -- the product of the ciphertexts of m₁, m₂ under r₁, r₂ is a ciphertext of m₁ + m₂ under r₁·r₂
  apply PaillierC06.paillier_decrypt p q (m1 + m2) (r1 * r2) _ hp hq hpq hg (Nat.Coprime.mul_left hr1 hr2)
  rw [PaillierC06.paillierEncrypt_eq, PaillierC06.paillierEncrypt_eq, Nat.mod_mod, ← Nat.mul_mod]
  congr 1
  ring

/-- both branches of cp_phpe_dec — CRT with the L-functions modulo p², q² and the constants of cp_phpe_gen, and the plain one
    with φ(n) — return the plaintext of every well-formed ciphertext (any representative, any exponent m) -/
theorem paillier_models_correct (p q m r c dp dq qi : Nat) (hp : p.Prime) (hq : q.Prime) (hpq : p ≠ q)
    (hg : Nat.Coprime (p * q) ((p - 1) * (q - 1))) (hr : Nat.Coprime r (p * q))
    (hdp : dp * ((p - 1) * q % p) % p = 1) (hdq : dq * ((q - 1) * p % q) % q = 1) (hqi : qi * q % p = 1)
    (hc : c % (p * q * (p * q)) = (1 + p * q) ^ m * r ^ (p * q) % (p * q * (p * q))) :
    phpeDecCrt p q dp dq qi c = m % (p * q) ∧ phpeDecPlain (p * q) p q c = m % (p * q) :=
  ⟨PaillierC06.phpeDecCrt_eq p q m r c dp dq qi hp hq hr hdp hdq hqi hc,
   PaillierC06.phpeDecPlain_eq p q m r c hp hq hpq hg hr hc⟩

/-- Benaloh: the search returns the plaintext for every m < t; products of ciphertexts add plaintexts modulo t -/
theorem benaloh_correct (p q y t m1 m2 u1 u2 : Nat) (hp : p.Prime) (hq : q.Prime) (hpq : p ≠ q) (ht : t.Prime)
    (htp : t ∣ p - 1) (hy : Nat.Coprime y (p * q)) (hu1 : Nat.Coprime u1 (p * q)) (hu2 : Nat.Coprime u2 (p * q))
    (hy1 : y ^ ((p - 1) * (q - 1) / t) % (p * q) ≠ 1) (hm : m1 < t) :
    bdpeDecrypt (p * q) p q y t (y ^ m1 * u1 ^ t % (p * q)) = some m1 ∧
    bdpeDecrypt (p * q) p q y t ((y ^ m1 * u1 ^ t % (p * q)) * (y ^ m2 * u2 ^ t % (p * q)) % (p * q)) = some ((m1 + m2) % t) := by
  refine ⟨?_, ?_⟩
  · rw [PaillierC06.benaloh_decrypt p q y t m1 u1 _ hp hq hpq ht htp hy hu1 hy1 (Nat.mod_mod _ _), Nat.mod_eq_of_lt hm]
  · apply PaillierC06.benaloh_decrypt p q y t (m1 + m2) (u1 * u2) _ hp hq hpq ht htp hy (Nat.Coprime.mul_left hu1 hu2) hy1
    rw [Nat.mod_mod, ← Nat.mul_mod]
    congr 1
    ring

section
open Polynomial

/-- Shamir: ANY set of pairwise distinct abscissae larger than deg f reconstructs f(0) by the formula mpc_sss_key evaluates -/
theorem shamir_reconstruct {F : Type*} [Field F] [DecidableEq F] (f : F[X]) (s : Finset F) (hdeg : f.degree < s.card) :
    (∑ i ∈ s, f.eval i * ((∏ m ∈ s.erase i, m) / (∏ m ∈ s.erase i, (m - i)))) = f.eval 0 := by
  simpa using ShareC06.shamir_reconstruct_indexed f s (fun a : F => a) (Set.injOn_id _) hdeg

/-- the executable model of mpc_sss_key and the specification's interpolation return f(0) (as the canonical residue) on the
    shares of any f over Z_q of degree below the number of presented shares, q prime, distinct abscissae, any order -/
theorem sss_key_reconstructs (q : Nat) [Fact q.Prime] (f : (ZMod q)[X]) (xs : List Nat)
    (hnd : (xs.map (fun x : Nat => (x : ZMod q))).Nodup) (hdeg : f.degree < xs.length) :
    ((sssKey q (SssC06.sharesOf q f xs) : Nat) : ZMod q) = f.eval 0 ∧
    sssKey q (SssC06.sharesOf q f xs) = lagrangeAt q (SssC06.sharesOf q f xs) 0 :=
  ⟨(SssC06.sssKey_reconstruct q f xs hnd hdeg).1, SssC06.sssKey_eq_lagrangeAt q f xs hnd hdeg⟩

/-- fewer than t shares do not determine the secret: every candidate secret is consistent with them -/
theorem shamir_threshold {F : Type*} [Field F] [DecidableEq F] (s : Finset F) (y : F → F) (h0 : (0 : F) ∉ s) (secret : F) :
    ∃ g : F[X], g.degree < s.card + 1 ∧ g.eval 0 = secret ∧ ∀ i ∈ s, g.eval i = y i := by
  classical
  -- interpolate through the presented points and (0, secret)
  have hinj : Set.InjOn (fun a : F => a) (insert 0 s : Finset F) := fun _ _ _ _ h => h
  have node := fun i (hi : i ∈ insert 0 s) => Lagrange.eval_interpolate_at_node (s := insert 0 s) (v := fun a : F => a)
    (fun i => if i = 0 then secret else y i) hinj hi
  refine ⟨Lagrange.interpolate (insert 0 s) (fun a : F => a) (fun i => if i = 0 then secret else y i), ?_, ?_, ?_⟩
  · have h := Lagrange.degree_interpolate_lt (s := insert 0 s) (v := fun a : F => a)
      (fun i => if i = 0 then secret else y i) hinj
    rwa [Finset.card_insert_of_notMem h0, Nat.cast_add, Nat.cast_one] at h
  · simpa using node 0 (Finset.mem_insert_self 0 s)
  · intro i hi
    have hi0 : i ≠ 0 := fun h => h0 (h ▸ hi)
    simpa [hi0] using node i (Finset.mem_insert_of_mem hi)

end

/-- Beaver triples: the result shares of mpc_mt_mul add up to x·y for every valid triple -/
theorem beaver_reconstruct {R : Type*} [CommRing R] (a0 a1 b0 b1 c0 c1 x y : R) (hc : c0 + c1 = (a0 + a1) * (b0 + b1)) :
    (a0 * (y - (b0 + b1)) + (b0 + (y - (b0 + b1))) * (x - (a0 + a1)) + c0) + (a1 * (y - (b0 + b1)) + b1 * (x - (a0 + a1)) + c1) = x * y := by
  linear_combination hc

/-! ### key agreement, commitments (abstract commutative group) -/

/-- (cofactor) Diffie–Hellman: both parties compute the same group element -/
theorem ecdh_symmetric {G : Type*} [AddCommGroup G] (g : G) (h dA dB : ℕ) : dA • (h • (dB • g)) = dB • (h • (dA • g)) := by
  rw [smul_smul, smul_smul, smul_smul, smul_smul]
  congr 1
  ring

/-- MQV: both parties compute (s_A·s_B)•G from their own secrets and the other's public keys -/
theorem ecmqv_symmetric {G : Type*} [AddCommGroup G] (g : G) (n : ℕ) (hn : n • g = 0) (d1A d2A d1B d2B aA aB : ℕ) :
    ((d2A + aA * d1A) % n) • ((d2B • g) + aB • (d1B • g)) = ((d2B + aB * d1B) % n) • ((d2A • g) + aA • (d1A • g)) := by
  -- both sides are ((d2A + aA·d1A)·(d2B + aB·d1B)) • g; the reduction modulo n does not matter since n kills every multiple of g
  have hk : ∀ a k : ℕ, (a % n) • (k • g) = a • (k • g) := fun a k =>
    (nsmul_eq_mod_nsmul a (by rw [smul_comm, hn, smul_zero])).symm
  have hs : ∀ a b c : ℕ, b • g + a • c • g = (b + a * c) • g := fun a b c => by rw [add_smul, mul_smul]
  rw [hs, hs, hk, hk, smul_smul, smul_smul, mul_comm]

theorem pedersen_homomorphic {G : Type*} [AddCommGroup G] (g h : G) (x1 r1 x2 r2 : ℕ) :
    (x1 • g + r1 • h) + (x2 • g + r2 • h) = (x1 + x2) • g + (r1 + r2) • h := by
  rw [add_smul, add_smul]
  abel

/-! ### the hypotheses are satisfiable -/

example : Nat.Prime 11 ∧ Nat.Prime 7 ∧ (11 : Nat) ≠ 7 ∧ (7 * 13) % Nat.lcm (11 - 1) (7 - 1) = 1 ∧ 2 * 7 % 11 = 3 ∧ 8 * 7 % 11 = 1 := by
  refine ⟨by decide, by decide, by decide, by decide, by decide, by decide⟩

example : rsadp 77 13 (rsaep 77 7 22) = 22 := by decide     -- gcd(22, 77) = 11
example : Nat.Coprime (11 * 7) ((11 - 1) * (7 - 1)) ∧ paillierDecrypt 77 11 7 (paillierEncrypt 77 76 5) = 76 := by decide
example : pkcs1Unpad (pkcs1Pad [1, 2, 3, 4, 5, 6, 7, 8] [0, 9]) = some [0, 9] ∧ pkcs1Unpad (pkcs1Pad [1, 2, 3, 4, 5, 6, 7] [9]) = none := by decide
example : basicUnpad (basicPad 6 [0, 1]) = some [0, 1] ∧ rabinParse (rabinBlock [0, 7]) = some [0, 7] := by decide

end Relic.Props.C06
