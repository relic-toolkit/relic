/-
C18 — Every built-in parameter set is internally consistent.
The tables `Params.fields`, `Params.curves` are regenerated from src/fp/relic_fp_param.c and
src/ep/relic_ep_param.c on every run (exactly the sets selectable in the configuration); the predicates are
evaluated by the kernel on the extracted literals; primality comes from Pratt certificates (found by an
untrusted search, checked here line by line) through Mathlib's Lucas test.
-/
import Mathlib.Tactic.Ring
import RelicVerif.Lemmas.Pratt
import RelicVerif.Model.ParamBase
import RelicVerif.Gen.Params
import RelicVerif.Gen.Certs

namespace Relic.Props.C18
open Relic.Model.Param Relic.Model.Pratt Relic.Gen

/-- every selectable field: the sparse form evaluates to the prime, a modulus given by a family polynomial is a BN or an (integral) BLS12 one -/
theorem fields_consistent : Params.fields.all fieldOk = true := by decide +kernel

/-- every line of the certificate chain is accepted (the one evaluation of the Lucas conditions): what the chain certifies is
    the moduli of its lines on top of the leaves -/
theorem certs_accepted : certified Certs.lines = (Certs.lines.map (·.n)).reverse ++ smallPrimes := by
  rw [certified_eq]; decide +kernel

theorem prime_of_certified {α : Type} {l : List α} {f : α → Nat}
    (h : l.all (fun x => (certified Certs.lines).contains (f x)) = true) : ∀ x ∈ l, Nat.Prime (f x) := by
  intro x hx
  exact certified_prime Certs.lines (f x) (by simpa using List.all_eq_true.mp h x hx)

/-- every selectable field modulus carries a valid Pratt certificate … -/
theorem field_moduli_certified :
    Params.fields.all (fun f => (certified Certs.lines).contains f.prime) = true := by
  rw [certs_accepted]; decide +kernel

/-- … hence is prime -/
theorem field_moduli_prime : ∀ f ∈ Params.fields, Nat.Prime f.prime := prime_of_certified field_moduli_certified

/-- every selectable curve: field exists, generator on the curve with canonical coordinates, r·G = O,
    h·r in the Hasse interval and the only multiple of r there, non-singular -/
theorem curves_consistent :
    Params.curves.all (fun c => match lookupField Params.fields c.field with
      | some f => curveOk f.prime c
      | none => false) = true := by decide +kernel

theorem curve_orders_certified :
    Params.curves.all (fun c => (certified Certs.lines).contains c.r) = true := by
  rw [certs_accepted]; decide +kernel

/-- the stated group order of every selectable curve is prime -/
theorem curve_orders_prime : ∀ c ∈ Params.curves, Nat.Prime c.r := prime_of_certified curve_orders_certified

/-- pairing-friendly sets: declared family = the field's family, the order is the family's r(x) at the extracted x, the cofactor the
    family's (1 for BN), embedding degree 12 -/
theorem pairing_sets_consistent :
    Params.curves.all (fun c => c.pairf == "" || match lookupField Params.fields c.field with
      | some f => bnOk f c
      | none => false) = true := by decide +kernel

/-- the declared family / embedding degree matches the parameters in both directions: the order of p modulo r is 12 (resp.
    the family's degree) exactly for the sets declared pairing-friendly, and exceeds 60 for all others -/
theorem embedding_degrees_consistent :
    Params.curves.all (fun c => match lookupField Params.fields c.field with
      | some f => embedConsistent f.prime c
      | none => false) = true := by decide +kernel

/-- the advertised security level matches the parameters (generic-group bound, and equal levels for parameter sets of the same
    family and sizes) -/
theorem security_levels_consistent :
    let all := Params.curves.filterMap (fun c => (lookupField Params.fields c.field).map (fun f => (f.prime, c)))
    all.all (fun pc => levelConsistent all pc.1 pc.2) = true := by decide +kernel

/-- every twist table entry is consistent with its base curve: field extension, generator on the twist, same order, and
    h·r is one of the six possible twist orders over Fp2 -/
theorem twists_consistent :
    Params.curves.all (fun c => match c.twist, lookupField Params.fields c.field with
      | none, _ => c.pairf == ""
      | some t, some f => twistOk f.prime c t
      | some _, none => false) = true := by decide +kernel

/-- the table is not empty (the theorems above are not vacuous) -/
theorem tables_nonempty : Params.fields.length ≥ 1 ∧ Params.curves.length ≥ 1 := by decide +kernel

/-! ### The other verified configurations (255-bit and 381-bit field sizes)

`Params.extraFields` / `Params.extraCurves` are extracted from the same two switch statements preprocessed with the `relic_conf.h` of the
p255 and p381 configurations (Curve25519 in Weierstrass form, Tweedledum, BLS12-381).  The same predicates, evaluated by the kernel. -/

theorem extra_fields_consistent : Params.extraFields.all fieldOk = true := by decide +kernel

theorem extra_field_moduli_certified :
    Params.extraFields.all (fun f => (certified Certs.lines).contains f.prime) = true := by
  rw [certs_accepted]; decide +kernel

/-- 2^255 − 19, the Tweedledum base field and the 381-bit BLS12 characteristic (x−1)²(x⁴−x²+1)/3 + x are prime -/
theorem extra_field_moduli_prime : ∀ f ∈ Params.extraFields, Nat.Prime f.prime := prime_of_certified extra_field_moduli_certified

theorem extra_curves_consistent :
    Params.extraCurves.all (fun c => match lookupField Params.extraFields c.field with
      | some f => curveOk f.prime c
      | none => false) = true := by decide +kernel

theorem extra_curve_orders_certified :
    Params.extraCurves.all (fun c => (certified Certs.lines).contains c.r) = true := by
  rw [certs_accepted]; decide +kernel

theorem extra_curve_orders_prime : ∀ c ∈ Params.extraCurves, Nat.Prime c.r := prime_of_certified extra_curve_orders_certified

/-- BLS12-381: declared family = the field's family, r = x⁴ − x² + 1, cofactor (x − 1)²/3, embedding degree 12 -/
theorem extra_pairing_sets_consistent :
    Params.extraCurves.all (fun c => c.pairf == "" || match lookupField Params.extraFields c.field with
      | some f => bnOk f c
      | none => false) = true := by decide +kernel

theorem extra_embedding_degrees_consistent :
    Params.extraCurves.all (fun c => match lookupField Params.extraFields c.field with
      | some f => embedConsistent f.prime c
      | none => false) = true := by decide +kernel

theorem extra_security_levels_consistent :
    let all := Params.extraCurves.filterMap (fun c => (lookupField Params.extraFields c.field).map (fun f => (f.prime, c)))
    all.all (fun pc => levelConsistent all pc.1 pc.2) = true := by decide +kernel

theorem extra_twists_consistent :
    Params.extraCurves.all (fun c => match c.twist, lookupField Params.extraFields c.field with
      | none, _ => c.pairf == ""
      | some t, some f => twistOk f.prime c t
      | some _, none => false) = true := by decide +kernel

/-- the extra tables are not empty and contain a pairing-friendly set of the BLS12 family (so the family branch of `bnOk` is exercised) -/
theorem extra_tables_nonempty :
    Params.extraFields.length ≥ 1 ∧ Params.extraCurves.any (fun c => c.pairf == "EP_B12") = true := by decide +kernel

/-- Barreto–Naehrig, every integer x: r(x) divides Φ₁₂(p(x)) = p⁴ − p² + 1, so the embedding degree of every BN parameter set divides 12
    (p ≡ 6x² mod r and Φ₁₂(6x²) = r(x)·r(−x)) -/
theorem bn_family_embedding (x : Int) : bnR x ∣ (bnP x) ^ 4 - (bnP x) ^ 2 + 1 := by
  have hp : bnP x = bnR x + 6 * x ^ 2 := by unfold bnP bnR; ring
  refine ⟨(bnR x) ^ 3 + 4 * (bnR x) ^ 2 * (6 * x ^ 2) + 6 * (bnR x) * (6 * x ^ 2) ^ 2 + 4 * (6 * x ^ 2) ^ 3 - (bnR x) - 2 * (6 * x ^ 2)
      + (36 * x ^ 4 - 36 * x ^ 3 + 18 * x ^ 2 - 6 * x + 1), ?_⟩
  rw [hp]; unfold bnR; ring

/-- BLS12, every integer x for which the family polynomial is integral: r(x) = Φ₁₂(x) divides 81·Φ₁₂(p(x)) (3p ≡ 3x mod r), so for
    3 ∤ r the embedding degree divides 12 -/
theorem b12_family_embedding (x : Int) (h3 : (x - 1) ^ 2 * b12R x % 3 = 0) :
    b12R x ∣ 81 * ((b12P x) ^ 4 - (b12P x) ^ 2 + 1) := by
  have h : 3 * b12P x = 3 * x + (x - 1) ^ 2 * b12R x := by
    unfold b12P
    have := Int.ediv_mul_cancel (Int.dvd_of_emod_eq_zero h3)
    omega
  have e : 81 * ((b12P x) ^ 4 - (b12P x) ^ 2 + 1) = (3 * b12P x) ^ 4 - 9 * (3 * b12P x) ^ 2 + 81 := by ring
  rw [e, h]
  refine ⟨81 + (x - 1) ^ 2 * ((3 * x + (x - 1) ^ 2 * b12R x) ^ 3 + (3 * x + (x - 1) ^ 2 * b12R x) ^ 2 * (3 * x)
      + (3 * x + (x - 1) ^ 2 * b12R x) * (3 * x) ^ 2 + (3 * x) ^ 3) - 9 * (x - 1) ^ 2 * ((3 * x + (x - 1) ^ 2 * b12R x) + 3 * x), ?_⟩
  unfold b12R; ring

/-! ### Twisted Edwards parameter sets (src/ed/relic_ed_param.c) -/

/-- every selectable Edwards set: canonical constants over an extracted field, complete addition law (a a non-zero square, d a non-square),
    generator on the curve and not neutral, r·G = O, h·r in the Hasse interval and the only multiple of r there, 4 ∣ h -/
theorem edwards_sets_consistent :
    Params.edCurves.all (fun c => match lookupField (Params.fields ++ Params.extraFields) c.field with
      | some f => edOk f.prime c
      | none => false) = true := by decide +kernel

theorem edwards_orders_certified :
    Params.edCurves.all (fun c => (certified Certs.lines).contains c.r) = true := by
  rw [certs_accepted]; decide +kernel

/-- the stated order of every selectable Edwards group is prime -/
theorem edwards_orders_prime : ∀ c ∈ Params.edCurves, Nat.Prime c.r := prime_of_certified edwards_orders_certified

theorem edwards_table_nonempty : Params.edCurves.length ≥ 1 := by decide +kernel

end Relic.Props.C18
