/-
C09, polynomials: bn_evl and bn_lag of src/bn/relic_bn_lag.c (Model/NtPoly.lean mirrors the two loops; executed by the
driver on every presented line) return the mathematically defined values for all inputs.
-/
import RelicVerif.Lemmas.NtPoly

namespace Relic.Props.C09
open Relic.Model.NtPoly Relic.Lemmas.NtPoly

/-- bn_evl: Horner's loop with a reduction after every multiplication and addition = (Σ a_j·x^j) mod b, in [0, b), for every
coefficient list (any signs, any sizes), every x and every modulus b > 0 -/
theorem evl_exact (as : List Int) (x b : Int) (hb : 0 < b) : evl as x b = evalP as x % b := by
  have h := evl_modEq as x b hb
  have r := evl_range as x b hb
  unfold Int.ModEq at h
  rw [← h, Int.emod_eq_of_lt r.1 r.2]

/-- bn_lag: for every list of roots (repeated, negative, ≥ b allowed) and every modulus b > 1: n + 1 coefficients, each in [0, b),
and the polynomial they define equals Π (X − a_i) modulo b at EVERY integer X -/
theorem lag_exact (as : List Int) (b : Int) (hb : 1 < b) :
    (lag as b).length = as.length + 1 ∧ (∀ c ∈ lag as b, 0 ≤ c ∧ c < b) ∧
    ∀ X, evalP (lag as b) X ≡ (as.map (fun a => X - a)).prod [ZMOD b] := by
  have hb0 : 0 < b := by omega
  cases as with
  | nil =>
    refine ⟨rfl, ?_, fun X => modEq_of_eq (by simp [lag, evalP])⟩
    intro c hc; simp [lag] at hc; omega
  | cons a0 rest =>
    have base : IsPoly b (fun X => X - a0) 2 [Int.fmod (b - a0) b, 1] := by
      refine ⟨rfl, ?_, fun X => ?_⟩
      · intro c hc
        simp only [List.mem_cons, List.mem_nil_iff, or_false] at hc
        rcases hc with h | h
        · rw [h]; exact fmod_range _ b hb0
        · rw [h]; omega
      · have h1 : Int.fmod (b - a0) b ≡ -a0 [ZMOD b] :=
          (fmod_modEq _ b hb0).trans (by rw [Int.modEq_iff_dvd]; exact ⟨-1, by ring⟩)
        exact (modEq_of_eq (by simp [evalP])).trans ((h1.add_right X).trans (modEq_of_eq (by ring)))
    obtain ⟨h1, h2, h3⟩ := base.fold hb0 rest
    exact ⟨by simp only [lag, List.length_cons]; omega, h2, h3⟩

example : lag [1, 2, 3] 7 = [1, 4, 1, 1] := by decide
example : evl [1, 4, 1, 1] 3 7 = 0 := by decide

end Relic.Props.C09
