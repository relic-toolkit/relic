/-
C10 — extension-field towers compute in the quotient rings they denote.

Specification: Spec/Tower.lean (generic layer K[X]/(X^k − c): schoolbook product, folding modulo X^k − c).
Model: Model/Fpx.lean (the formulas of src/fpx, statement by statement, over the operation record of the level below);
45 of its functions are regenerated from the C text on every run (Gen/Fpx.lean, tools/translate_fpx.py) and proved equal to
the model definitions in Lemmas/FpxGen.lean (counted as obligations of this property).
All statements are for arbitrary commutative rings / fields and arbitrary elements (no bounds); the non-residues are
parameters.

§1  the specification's layer is the quotient ring;
§2  every multiplication / squaring / inversion formula of the model returns the product / square / inverse of the
    quotient ring, coefficient by coefficient (hence equals the specification `Poly.mulMod`);
§3  the specialised forms equal the generic operation under their precondition (sparse operands; cyclotomic subgroup:
    Granger–Scott squaring, Karabina compressed squaring and decompression in all three cases, conjugation as inverse);
    also what the decompression formula of /repo before commits ebef3ca / 62d0ef0 (findings C10-8, C10-3) computes;
§4  the stacked model as the driver executes it is carried to ring operations by evaluation at the adjoined roots;
§5  loops (square-and-multiply, the signed-digit loop of the cyclotomic exponentiations, simultaneous inversion).

Not covered by theorems (class C, compared with the specification on the presented lines only): the digit-level lazy
reduction (double-precision accumulators, fp_addc_low/fp_subc_low corrections), Frobenius through the precomputed
constant tables, the table construction / recoding glue and the sparse / compressed-squaring / GLS paths of the cyclotomic
exponentiations (the signed-digit loop itself is §5), square roots, serialisation, the compressed forms of fp18 / fp24 /
fp48 / fp54 (same formulas over larger block fields; specification only).
-/
import Mathlib.Algebra.Group.TypeTags.Basic
import Mathlib.Algebra.BigOperators.Group.List.Basic
import Mathlib.Algebra.BigOperators.Ring.List
import RelicVerif.Lemmas.Tower
import RelicVerif.Lemmas.MulAlg
import RelicVerif.Lemmas.Fpx
import RelicVerif.Lemmas.FpxGen

namespace Relic.Props.C10
open Relic.Spec.Tower Relic.Model.Fpx Relic.Model.Formula
open Relic.Lemmas.Tower Relic.Lemmas.Fpx

variable {R S : Type} [CommRing R] [CommRing S]

/-! ## §1 the generic layer of the specification is R[X]/(X^k − c) -/

/-- evaluation of coefficient lists at any x with x^k = φ c sends the layer's product to the product of S -/
theorem spec_layer_mul (φ : R →+* S) (x : S) (k : Nat) (c : R) (hx : x ^ k = φ c) (a b : List R) :
    eval φ x ((layer ringOps k c).mul a b) = eval φ x a * eval φ x b := by
  show eval φ x (Poly.mulMod ringOps k c a b) = _
  simp only [Poly.mulMod, eval_pad, eval_reduce φ x k c hx, eval_mul]

theorem spec_layer_add (φ : R →+* S) (x : S) (k : Nat) (c : R) (a b : List R) :
    eval φ x ((layer ringOps k c).add a b) = eval φ x a + eval φ x b := eval_add φ x a b

theorem spec_layer_neg (φ : R →+* S) (x : S) (k : Nat) (c : R) (a : List R) :
    eval φ x ((layer ringOps k c).neg a) = - eval φ x a := eval_neg φ x a

theorem spec_layer_zero_one (φ : R →+* S) (x : S) (k : Nat) (c : R) :
    eval φ x ((layer (ringOps (R := R)) k c).zero) = 0 ∧ eval φ x ((layer (ringOps (R := R)) k c).one) = 1 :=
  ⟨eval_replicate_zero φ x k, by simp only [layer, eval_pad, eval_cons, eval_nil, ringOps_one, map_one]; ring⟩

open Polynomial in
/-- in particular in the quotient ring itself, x the class of X -/
theorem spec_layer_mul_adjoinRoot (k : Nat) (c : R) (a b : List R) :
    eval (AdjoinRoot.of (X ^ k - C c : R[X])) (AdjoinRoot.root _) (Poly.mulMod ringOps k c a b) =
      eval (AdjoinRoot.of (X ^ k - C c)) (AdjoinRoot.root _) a * eval (AdjoinRoot.of (X ^ k - C c)) (AdjoinRoot.root _) b :=
  spec_layer_mul _ _ k c (adjoinRoot_root_pow k c) a b

theorem spec_layer_mul_length (k : Nat) (hk : 0 < k) (c : R) (a b : List R) : (Poly.mulMod ringOps k c a b).length = k := by
  have h := length_reduce k hk c (a.length + b.length) (Poly.mul ringOps a b) (by have := length_mul_le a b; omega)
  simp only [Poly.mulMod, Poly.pad, List.length_append, List.length_replicate]
  omega

/-- the p-power map expands over the coefficients (what `frobeniusVia` evaluates) -/
theorem spec_frobenius_expand (p : Nat) [Fact p.Prime] [CharP S p] (φ : R →+* S) (x : S) (l : List R) :
    (eval φ x l) ^ p = eval ((frobenius S p).comp φ) (x ^ p) l := by
  induction l with
  | nil => simp [(Fact.out : p.Prime).ne_zero]
  | cons a as ih => simp only [eval_cons, add_pow_char, mul_pow, ih, RingHom.comp_apply, frobenius_def]

/-! ## §2 formulas of the model = products / squares / inverses of the quotient ring -/

/-- the closed forms used below are the specification -/
theorem quad_closed_form_is_spec (ν : R) (a b : V2 R) :
    toList2 (quadProd ν a b) = Poly.mulMod ringOps 2 ν (toList2 a) (toList2 b) := by
  simp [quadProd, toList2, Poly.mulMod, Poly.mul, Poly.add, Poly.scale, Poly.reduce, Poly.pad]

theorem cub_closed_form_is_spec (ν : R) (a b : V3 R) :
    toList3 (cubProd ν a b) = Poly.mulMod ringOps 3 ν (toList3 a) (toList3 b) := by
  simp [cubProd, toList3, Poly.mulMod, Poly.mul, Poly.add, Poly.scale, Poly.reduce, Poly.pad]
  ring

section formulas
variable (inv : R → R) (hf : R) (isZero : R → Bool)
local notation "o" => rOps inv (fun x : R => hf * x) isZero

/-! #### every quadratic level (fp4, fp8, fp12, fp16, fp18, fp48) over its sub-level R, ν the adjoined square -/

variable (ν : R)

theorem quad_mul (a b : V2 R) : quadMul o (fun t => ν * t) a b = quadProd ν a b :=
  (rOps_hom inv hf isZero).map_quadMul _ ν (fun _ => rfl) a b

theorem quad_sqr (a : V2 R) : quadSqr o (fun t => ν * t) a = quadProd ν a a :=
  (rOps_hom inv hf isZero).map_quadSqr _ ν (fun _ => rfl) a

theorem quad_sqr_unr (a : V2 R) : quadSqrUnr o (fun t => ν * t) a = quadProd ν a a := by
  apply V2.ext' <;> simp only [quadSqrUnr, quadProd, rOps_add, rOps_sub, rOps_sqr] <;> ring

theorem quad_mul_art (a : V2 R) : quadArt (fun t => ν * t) a = quadProd ν a ⟨0, 1⟩ := by
  apply V2.ext' <;> simp only [quadArt, quadProd] <;> ring

theorem quad_inv (a : V2 R) (hinv : inv (quadNorm ν a) * quadNorm ν a = 1) :
    quadProd ν a (quadInv o (fun t => ν * t) a) = ⟨1, 0⟩ := by
  simp only [quadInv, rOps_sub, rOps_mul, rOps_neg, rOps_sqr, rOps_inv, neg_mul]
  exact quadProd_conj ν a _ hinv

/-! #### every cubic level (fp6, fp9, fp24, fp54) -/

theorem cub_mul (a b : V3 R) : cubMul o (fun t => ν * t) a b = cubProd ν a b :=
  (rOps_hom inv hf isZero).map_cubMul _ ν (fun _ => rfl) a b

theorem cub_sqr (hh : 2 * hf = 1) (a : V3 R) : cubSqr o (fun t => ν * t) a = cubProd ν a a :=
  (rOps_hom inv hf isZero).map_cubSqr _ ν (fun _ => rfl) hh a

theorem cub_mul_art (a : V3 R) : cubArt (fun t => ν * t) a = cubProd ν a ⟨0, 1, 0⟩ := by
  apply V3.ext' <;> simp only [cubArt, cubProd] <;> ring

theorem cub_inv (a : V3 R) (hinv : inv (cubNorm ν a) * cubNorm ν a = 1) :
    cubProd ν a (cubInv o (fun t => ν * t) a) = ⟨1, 0, 0⟩ :=
  cubProd_adj ν a _ hinv

/-! #### fp2

`hq : q ≤ −1`: fp_prime_set never selects another qnr; for q ≥ 1 the loops of fp2_mul_basic and fp2_sqr_basic would
compute with q − 2 (dead code). The theorems proved by `(rOps_hom …).map_…` (here, for fp3, and `quad_mul`, `quad_sqr`,
`cub_mul`, `cub_sqr` above) are the case `ev = id` of the lemmas `OpsHom.map_…` of Lemmas/Fpx.lean. -/

theorem fp2_mul_basic (q : Int) (hq : q ≤ -1) (a b : V2 R) : fp2Mul o q a b = quadProd (q : R) a b :=
  (rOps_hom inv hf isZero).map_fp2Mul q hq a b

theorem fp2_mul_integ (q : Int) (hq : q ≤ -1) (a b : V2 R) : fp2MulInteg o q a b = quadProd (q : R) a b := by
  -- for q ≤ 1 the loop that fp2_muln_low leaves out does not run
  rw [← fp2_mul_basic inv hf isZero q hq]
  unfold fp2MulInteg fp2Mul
  rw [posLoop_zero (hq.trans (by decide))]
  rfl

theorem fp2_sqr_basic (q : Int) (hq : q ≤ -1) (a : V2 R) : fp2Sqr o q a = quadProd (q : R) a a :=
  (rOps_hom inv hf isZero).map_fp2Sqr q hq a

theorem fp2_sqr_integ (q : Int) (hq : q ≤ -1) (a : V2 R) : fp2SqrInteg o q a = quadProd (q : R) a a := by
  -- for q ≤ 1 the loop in which fp2_sqrn_low subtracts does not run
  rw [← fp2_sqr_basic inv hf isZero q hq]
  unfold fp2SqrInteg fp2Sqr
  rw [posLoop_zero (hq.trans (by decide))]
  rfl

theorem fp2_mul_art (q : Int) (hq : q ≤ -1) (a : V2 R) : fp2MulArt o q a = quadProd (q : R) a ⟨0, 1⟩ :=
  (rOps_hom inv hf isZero).map_fp2MulArt q a

/-- every branch of the switch in fp2_mul_nor multiplies by the constant `fp2NorConst` -/
theorem fp2_mul_nor (q : Int) (hq : q ≤ -1) (mod8 qnr2 : Nat) (a r : V2 R)
    (h : fp2MulNor o q mod8 qnr2 a = some r) (h3 : mod8 = 3 → qnr2 = 1 → q = -1) :
    r = quadProd (q : R) a (fp2NorConst mod8 qnr2) :=
  (rOps_hom inv hf isZero).map_fp2MulNor q mod8 qnr2 a r h h3

/-- fp2_inv: a · result = 1 whenever the base-field inversion inverts the norm a0² − q·a1² -/
theorem fp2_inv (q : Int) (a : V2 R) (hinv : inv (fp2Norm q a) * fp2Norm q a = 1) :
    quadProd (q : R) a (fp2Inv o q a) = ⟨1, 0⟩ := by
  -- the switch over q accumulates the norm a0² − q·a1² in every branch
  have hn : ∀ t0 : R, t0 = fp2Norm q a → quadProd (q : R) a ⟨a.c0 * inv t0, -(a.c1 * inv t0)⟩ = ⟨1, 0⟩ :=
    fun t0 ht => quadProd_conj (q : R) a _ (ht ▸ hinv)
  unfold fp2Inv
  simp only [rOps_add, rOps_sub, rOps_mul, rOps_neg, rOps_sqr, rOps_dbl, rOps_inv, mulSmall, rOps_ofNat]
  apply hn
  unfold fp2Norm
  by_cases h1 : q = -1
  · subst h1; simp
  · simp only [ne_eq, h1, not_false_eq_true, if_true]
    by_cases h2 : q = -2
    · subst h2; simp; ring
    · simp only [h2, if_false]
      by_cases h3 : q < 0
      · simp only [h3, if_true]
        rw [toNat_cast (by omega)]; push_cast; ring
      · simp only [h3, if_false]
        rw [toNat_cast (by omega)]; ring

/-! #### fp3 (cnr = c, any sign) -/

theorem fp3_mul (c : Int) (a b : V3 R) : fp3Mul o c a b = cubProd (c : R) a b :=
  (rOps_hom inv hf isZero).map_fp3Mul c a b

theorem fp3_sqr (c : Int) (hh : 2 * hf = 1) (a : V3 R) : fp3Sqr o c a = cubProd (c : R) a a :=
  (rOps_hom inv hf isZero).map_fp3Sqr c hh a

theorem fp3_mul_art (c : Int) (a : V3 R) : fp3MulArt o c a = cubProd (c : R) a ⟨0, 1, 0⟩ := by
  -- fp3_mul_art (and fp3_inv below) is the cubic-level formula with the cnr loops as `nor`
  show cubArt (fun t => mulCnr o c t t) a = _
  rw [mulCnr_self]
  exact cub_mul_art (c : R) a

theorem fp3_inv (c : Int) (a : V3 R) (hinv : inv (cubNorm (c : R) a) * cubNorm (c : R) a = 1) :
    cubProd (c : R) a (fp3Inv o c a) = ⟨1, 0, 0⟩ := by
  show cubProd (c : R) a (cubInv o (fun t => mulCnr o c t t) a) = _
  rw [mulCnr_self]
  exact cubProd_adj (c : R) a _ hinv

/-! ## §3 specialised forms under their precondition -/

/-- fp6_mul_dxs / fp9_mul_dxs -/
theorem cub_mul_dxs (a b : V3 R) (hb : b.c2 = 0) : cubMulDxs o (fun t => ν * t) a b = cubProd ν a b := by
  apply V3.ext' <;> simp only [cubMulDxs, cubProd, rOps_add, rOps_sub, rOps_mul, hb] <;> ring

/-- fpN_inv_cyc: the conjugate inverts a unitary element (a0² − ν·a1² = 1, i.e. a^(p^{n/2}+1) = 1 in the field case) -/
theorem quad_inv_cyc (a : V2 R) (hu : quadNorm ν a = 1) : quadProd ν a (quadConj o a) = ⟨1, 0⟩ := by
  have := quadProd_conj ν a 1 (by rw [one_mul, hu])
  rwa [mul_one, mul_one] at this

example : quadNorm (2 : ℤ) ⟨3, 2⟩ = 1 := by norm_num [quadNorm]

/-- fp8_sqr_cyc / fp16_sqr_cyc -/
theorem quad_sqr_cyc (a : V2 R) (hu : quadNorm ν a = 1) : quadSqrCyc o (fun t => ν * t) a = quadProd ν a a := by
  unfold quadNorm at hu
  apply V2.ext' <;> simp only [quadSqrCyc, quadProd, rOps_add, rOps_sub, rOps_sqr, rOps_dbl, rOps_one]
  · linear_combination (-1 : R) * hu
  · linear_combination hu

/-! #### fp12 over K = R (fp2 abstractly), ξ the constant of fp2_mul_nor -/

variable (ξ : R)

/-- the model's generic fp12 multiplication (Karatsuba over Karatsuba) is the product of the tower -/
theorem fp12_mul (a b : Fp12 R) :
    quadMul (cubOps o (fun t => ξ * t)) (cubArt (fun t => ξ * t)) a b = fp12Prod ξ a b := by
  simp only [quadMul, cubOps_add, cubOps_sub, show (cubOps o (fun t => ξ * t)).mul = cubMul o (fun t => ξ * t) from rfl,
    cub_mul, cub_mul_art, cubProd_karatsuba]
  rfl

/-- fp12_mul_dxs, D-type and M-type twists -/
theorem fp12_mul_dxs_dtype (a b : Fp12 R) (hb : SparseD b) : fp12MulDxs o (fun t => ξ * t) .dtype a b = fp12Prod ξ a b := by
  obtain ⟨h1, h2, h3⟩ := hb
  simp only [fp12MulDxs, cubOps_add, cubOps_sub, cubMulDxs, cubArt, fp12Prod, v3add, cubProd, v3Add, v3Sub, rOps_add, rOps_sub,
    rOps_mul, h1, h2, h3, V2.mk.injEq, V3.mk.injEq]
  refine ⟨⟨?_, ?_, ?_⟩, ?_, ?_, ?_⟩ <;> ring

theorem fp12_mul_dxs_mtype (a b : Fp12 R) (hb : SparseM b) : fp12MulDxs o (fun t => ξ * t) .mtype a b = fp12Prod ξ a b := by
  obtain ⟨h1, h2, h3⟩ := hb
  simp only [fp12MulDxs, cubOps_add, cubOps_sub, cubMulDxs, cubArt, fp12Prod, v3add, cubProd, v3Add, v3Sub, rOps_add, rOps_sub,
    rOps_mul, h1, h2, h3, V2.mk.injEq, V3.mk.injEq]
  refine ⟨⟨?_, ?_, ?_⟩, ?_, ?_, ?_⟩ <;> ring

example : SparseD (⟨⟨(5 : ℤ), 0, 0⟩, ⟨7, 11, 0⟩⟩ : Fp12 ℤ) := ⟨rfl, rfl, rfl⟩

example : SparseM (⟨⟨(5 : ℤ), 7, 0⟩, ⟨0, 11, 0⟩⟩ : Fp12 ℤ) := ⟨rfl, rfl, rfl⟩

/-- Granger–Scott squaring on the cyclotomic subgroup (`IsCyc12`: the six relations equivalent to
    α^(p⁴ − p² + 1) = 1, see `cyclotomic_relations`) -/
theorem fp12_sqr_cyc (a : Fp12 R) (h : IsCyc12 ξ a) : fp12SqrCyc o (fun t => ξ * t) a = fp12Prod ξ a a := by
  simp only [fp12SqrCyc, fp12Prod, v3add, cubProd, rOps_add, rOps_sub, rOps_sqr, rOps_dbl, V2.mk.injEq, V3.mk.injEq]
  refine ⟨⟨?_, ?_, ?_⟩, ?_, ?_, ?_⟩
  · linear_combination (-2 : R) * h.r1a
  · linear_combination (-2 : R) * h.r3a
  · linear_combination (-2 : R) * h.r2b
  · linear_combination (-2 : R) * h.r2a
  · linear_combination (-2 : R) * h.r1b
  · linear_combination (-2 : R) * h.r3b

example : IsCyc12 (7 : ℤ) ⟨⟨1, 0, 0⟩, ⟨0, 0, 0⟩⟩ := by constructor <;> norm_num

/-- Karabina compressed squaring: the four retained coefficients of the square, the other two untouched; only the
    retained coefficients of the operand are read -/
theorem fp12_sqr_pck (c a : Fp12 R) (h : IsCyc12 ξ a) :
    (fp12SqrPck o (fun t => ξ * t) c a).c0.c1 = (fp12Prod ξ a a).c0.c1 ∧
    (fp12SqrPck o (fun t => ξ * t) c a).c0.c2 = (fp12Prod ξ a a).c0.c2 ∧
    (fp12SqrPck o (fun t => ξ * t) c a).c1.c0 = (fp12Prod ξ a a).c1.c0 ∧
    (fp12SqrPck o (fun t => ξ * t) c a).c1.c2 = (fp12Prod ξ a a).c1.c2 ∧
    (fp12SqrPck o (fun t => ξ * t) c a).c0.c0 = c.c0.c0 ∧ (fp12SqrPck o (fun t => ξ * t) c a).c1.c1 = c.c1.c1 :=
  -- the statements of fp12_sqr_pck are the second half of the Granger–Scott squaring
  have hs := fp12_sqr_cyc inv hf isZero ξ a h
  ⟨congrArg (·.c0.c1) hs, congrArg (·.c0.c2) hs, congrArg (·.c1.c0) hs, congrArg (·.c1.c2) hs, rfl, rfl⟩

theorem fp12_sqr_pck_reads_compressed (c a a' : Fp12 R) (h01 : a.c0.c1 = a'.c0.c1) (h02 : a.c0.c2 = a'.c0.c2)
    (h10 : a.c1.c0 = a'.c1.c0) (h12 : a.c1.c2 = a'.c1.c2) :
    fp12SqrPck o (fun t => ξ * t) c a = fp12SqrPck o (fun t => ξ * t) c a' := by
  simp only [fp12SqrPck, h01, h02, h10, h12]

end formulas

/-! #### §3 continued: the cyclotomic relations and decompression -/

/-- the relations `IsCyc12` are the condition α·α^(p⁴) = α^(p²) of the cyclotomic subgroup, stated over an abstract
    fp4 = K with conjugation `conj`, s = w³, and γ = ξ^((p²−1)/6) a primitive sixth root of unity fixed by conj -/
theorem cyclotomic_relations {K : Type} [CommRing K] (conj : K →+* K) (s γ : K) (hinv : ∀ z, conj (conj z) = z)
    (hγ : γ ^ 2 - γ + 1 = 0) (hcγ : conj γ = γ) (x : V3 K) :
    cubProd s x (frobQ conj γ (frobQ conj γ x)) = frobQ conj γ x ↔
      (x.c1 * x.c2 * s = x.c0 ^ 2 - conj x.c0 ∧ x.c0 * x.c1 = x.c2 ^ 2 * s + conj x.c1 ∧ x.c0 * x.c2 = x.c1 ^ 2 - conj x.c2) := by
  -- α·φ(φ(α)) has the coefficients A − s·…, γ·(…), γ²·(…) (γ⁴ + γ² + 1 = 0 = γ³ + 1), and γ is a unit
  have hc : cubProd s x (frobQ conj γ (frobQ conj γ x)) =
      ⟨x.c0 ^ 2 - s * (x.c1 * x.c2), γ * (x.c0 * x.c1 - s * x.c2 ^ 2), γ ^ 2 * (x.c1 ^ 2 - x.c0 * x.c2)⟩ := by
    apply V3.ext' <;> simp only [cubProd, frobQ, map_mul, map_pow, hinv, hcγ]
    · linear_combination (s * x.c1 * x.c2 * (γ ^ 2 + γ + 1)) * hγ
    · linear_combination (x.c0 * x.c1 + s * x.c2 ^ 2 * γ * (γ + 1)) * hγ
    · linear_combination (x.c0 * x.c2 * (γ ^ 2 + γ + 1)) * hγ
  have hU : IsUnit γ := IsUnit.of_mul_eq_one (1 - γ) (by linear_combination -hγ)
  rw [hc]
  simp only [frobQ, V3.mk.injEq, hU.mul_right_inj, (hU.pow 2).mul_right_inj]
  constructor
  · rintro ⟨h0, h1, h2⟩
    exact ⟨by linear_combination -h0, by linear_combination h1, by linear_combination -h2⟩
  · rintro ⟨h0, h1, h2⟩
    exact ⟨by linear_combination -h0, by linear_combination h1, by linear_combination -h2⟩

section decompression
variable {F : Type} [Field F] [DecidableEq F] (hf ξ : F)

/-- the equations by which the four retained coefficients determine g1 (when g2 ≠ 0 or g3 ≠ 0) and then g0 of a non-zero
    solution of the relations: what the specification's judgement of decompression rests on -/
theorem decompression_unique_g1 (a : Fp12 F) (h : IsCyc12 ξ a) :
    4 * a.c1.c0 * a.c1.c1 = ξ * a.c1.c2 ^ 2 + 3 * a.c0.c1 ^ 2 - 2 * a.c0.c2 := cyc_g1 ξ a h

theorem decompression_unique_g1_exc (a : Fp12 F) (h : IsCyc12 ξ a) (hg2 : a.c1.c0 = 0) (hg3 : a.c0.c2 ≠ 0) :
    a.c1.c1 = 2 * a.c0.c1 * a.c1.c2 * (a.c0.c2)⁻¹ := by
  rw [eq_mul_inv_iff_mul_eq₀ hg3]
  linear_combination cyc_g1_exc ξ a h hg2

theorem decompression_unique_g0 (a : Fp12 F) (h : IsCyc12 ξ a) (hne : NonZero12 a) :
    a.c0.c0 = ξ * (2 * a.c1.c1 ^ 2 + a.c1.c0 * a.c1.c2 - 3 * a.c0.c2 * a.c0.c1) + 1 := cyc_g0 ξ a h hne

/-- **decompression** (fp12_back_cyc, regenerated from the C text):
    from any operand carrying the four retained coefficients of an element a of the cyclotomic subgroup it returns a — in
    the regular case g2 ≠ 0, in the exceptional case g2 = 0 (g1 = 2·g4·g5/g3) and for the identity (compressed form zero).
    Field hypotheses: 2, 3 ≠ 0, ξ not a square, −3 a square (true in fp2 for the towers the library builds). -/
theorem fp12_back_cyc (h2 : (2 : F) ≠ 0) (h3 : (3 : F) ≠ 0) (hns : ∀ y : F, y ^ 2 ≠ ξ) (ω : F) (hω : ω ^ 2 = -3)
    (a x : Fp12 F) (h : IsCyc12 ξ a) (hne : NonZero12 a)
    (h01 : x.c0.c1 = a.c0.c1) (h02 : x.c0.c2 = a.c0.c2) (h10 : x.c1.c0 = a.c1.c0) (h12 : x.c1.c2 = a.c1.c2) :
    fp12BackCyc (fieldOps hf) (fun t => ξ * t) x = a := by
  -- g1 first, case by case; g0 then follows in every case from `fp12BackCyc_c00` and Karabina's second relation
  have h11 : (fp12BackCyc (fieldOps hf) (fun t => ξ * t) x).c1.c1 = a.c1.c1 := by
    simp only [fp12BackCyc, fieldOps, rOps_isZero, rOps_add, rOps_sub, rOps_mul, rOps_sqr, rOps_dbl, rOps_inv, rOps_one, h01, h02,
      h10, h12]
    by_cases hg2 : a.c1.c0 = 0
    · by_cases hg3 : a.c0.c2 = 0
      · -- the identity
        obtain ⟨z4, z5⟩ := cyc_g2g3_zero ξ h3 hns ω hω a h hg2 hg3
        simp [hg2, hg3, z4, z5, (cyc_compressed_zero ξ h2 hns ω hω a h hne hg2 hg3 z4 z5).2]
      · -- exceptional branch: g1 = 2·g4·g5/g3
        simp only [hg2, hg3, if_true, if_false, Bool.false_eq_true, Bool.and_false, Bool.false_and, decide_true, decide_false]
        rw [decompression_unique_g1_exc ξ a h hg2 hg3]; ring
    · -- regular branch
      simp only [hg2, if_false, Bool.false_eq_true, Bool.false_and, decide_false]
      exact cyc_g1_regular ξ h2 a h hg2
  refine Fp12.ext' ?_ h01 h02 h10 h11 h12
  rw [fp12BackCyc_c00, h11, h01, h02, h10, h12]
  exact (cyc_g0 ξ a h hne).symm

/-! #### `fp12BackCycOld`: the formula of fp12_back_cyc in /repo before commits ebef3ca / 62d0ef0 (findings C10-8, C10-3)

In its exceptional branch (g2 = 0, g3 ≠ 0) the computed coefficient g1 is that of a only if g4·(4·g5 − 3·g4) = 0; in the regular
branch it returns a. -/
theorem fp12_back_cyc_before_repair_exceptional (a x : Fp12 F) (h : IsCyc12 ξ a)
    (h01 : x.c0.c1 = a.c0.c1) (h02 : x.c0.c2 = a.c0.c2) (h10 : x.c1.c0 = a.c1.c0) (h12 : x.c1.c2 = a.c1.c2)
    (hg2 : a.c1.c0 = 0) (hg3 : a.c0.c2 ≠ 0) :
    (fp12BackCycOld (fieldOps hf) (fun t => ξ * t) false x).c1.c1 = a.c1.c1 ↔ a.c0.c1 * (4 * a.c1.c2 - 3 * a.c0.c1) = 0 :=
  fp12BackCycOld_exc_iff hf ξ a x h h01 h02 h10 h12 hg2 hg3

theorem fp12_back_cyc_before_repair_regular (h2 : (2 : F) ≠ 0) (a x : Fp12 F) (h : IsCyc12 ξ a)
    (h01 : x.c0.c1 = a.c0.c1) (h02 : x.c0.c2 = a.c0.c2) (h10 : x.c1.c0 = a.c1.c0) (h12 : x.c1.c2 = a.c1.c2)
    (hg2 : a.c1.c0 ≠ 0) : fp12BackCycOld (fieldOps hf) (fun t => ξ * t) false x = a := by
  have hg0 := cyc_g0 ξ a h fun hz => hg2 hz.2.2.2.1
  refine Fp12.ext' ?_ h01 h02 h10 ?_ h12 <;>
  simp only [fp12BackCycOld, fieldOps, rOps_isZero, rOps_add, rOps_sub, rOps_mul, rOps_sqr, rOps_dbl, rOps_inv, rOps_one, h01, h02, h10, h12,
    decide_eq_true_eq, hg2, if_false, Bool.false_eq_true, cyc_g1_regular ξ h2 a h hg2]
  linear_combination -hg0

end decompression

/-! ## §4 the stacked model of the driver -/

/-- one more quadratic level on top of any level whose operations evaluate to ring operations -/
theorem stack_quadratic {E : Type} {o : FOps E} {ev : E → S} {half : S} (h : OpsHom o ev half) (nor : E → E) (ν x : S)
    (hn : ∀ a, ev (nor a) = ν * ev a) (hx : x * x = ν) : OpsHom (quadOps o nor) (ev2 ev x) half := {
  zero := by simp [quadOps, ev2, h.zero]
  one := by simp [quadOps, ev2, h.zero, h.one]
  add a b := by simp only [quadOps, ev2, v2Add, h.add]; ring
  sub a b := by simp only [quadOps, ev2, v2Sub, h.sub]; ring
  neg a := by simp only [quadOps, ev2, v2Neg, h.neg]; ring
  dbl a := by simp only [quadOps, ev2, v2Dbl, h.dbl]; ring
  hlv a := by simp only [quadOps, ev2, v2Hlv, h.hlv]; ring
  mul a b := (congrArg (ev2 id x) (h.map_quadMul nor ν hn a b)).trans (ev2_quadProd ν x hx _ _)
  sqr a := (congrArg (ev2 id x) (h.map_quadSqr nor ν hn a)).trans (ev2_quadProd ν x hx _ _) }

theorem stack_cubic {E : Type} {o : FOps E} {ev : E → S} {half : S} (h : OpsHom o ev half) (hh : 2 * half = 1) (nor : E → E)
    (ν x : S) (hn : ∀ a, ev (nor a) = ν * ev a) (hx : x * x * x = ν) : OpsHom (cubOps o nor) (ev3 ev x) half := {
  zero := by simp [cubOps, ev3, h.zero]
  one := by simp [cubOps, ev3, h.zero, h.one]
  add a b := by simp only [cubOps, ev3, v3Add, h.add]; ring
  sub a b := by simp only [cubOps, ev3, v3Sub, h.sub]; ring
  neg a := by simp only [cubOps, ev3, v3Neg, h.neg]; ring
  dbl a := by simp only [cubOps, ev3, v3Dbl, h.dbl]; ring
  hlv a := by simp only [cubOps, ev3, v3Hlv, h.hlv]; ring
  mul a b := (congrArg (ev3 id x) (h.map_cubMul nor ν hn a b)).trans (ev3_cubProd ν x hx _ _)
  sqr a := (congrArg (ev3 id x) (h.map_cubSqr nor ν hn hh a)).trans (ev3_cubProd ν x hx _ _) }

theorem stack_fp2 {E : Type} {o : FOps E} {ev : E → S} {half : S} (h : OpsHom o ev half) (q : Int) (hq : q ≤ -1) (x : S)
    (hx : x * x = (q : S)) : OpsHom (fp2Ops o q) (ev2 ev x) half := {
  -- fp2 is the quadratic level with the qnr loops as `nor`, except for the shape of fp2_mul and fp2_sqr
  stack_quadratic h (mulQnr o q) (q : S) x (h.mulQnr q) hx with
  mul a b := (congrArg (ev2 id x) (h.map_fp2Mul q hq a b)).trans (ev2_quadProd _ x hx _ _)
  sqr a := (congrArg (ev2 id x) (h.map_fp2Sqr q hq a)).trans (ev2_quadProd _ x hx _ _) }

theorem stack_fp3 {E : Type} {o : FOps E} {ev : E → S} {half : S} (h : OpsHom o ev half) (hh : 2 * half = 1) (c : Int) (x : S)
    (hx : x * x * x = (c : S)) : OpsHom (fp3Ops o c) (ev3 ev x) half := {
  -- fp3 is the cubic level with the cnr loops as `nor`, except for the shape of fp3_mul and fp3_sqr
  stack_cubic h hh (fun t => mulCnr o c t t) c x (fun a => by rw [h.mulCnr]; ring) hx with
  mul a b := (congrArg (ev3 id x) (h.map_fp3Mul c a b)).trans (ev3_cubProd _ x hx _ _)
  sqr a := (congrArg (ev3 id x) (h.map_fp3Sqr c hh a)).trans (ev3_cubProd _ x hx _ _) }

/-- the base: arithmetic modulo an odd p on Nat is Z/pZ -/
theorem stack_base (p : Nat) (hodd : p % 2 = 1) :
    OpsHom (natOps p) (fun n : Nat => (n : ZMod p)) (((p + 1) / 2 : Nat) : ZMod p) := {
  zero := Nat.cast_zero
  one := by simp only [natOps, ZMod.natCast_mod, Nat.cast_one]
  add a b := by simp only [natOps, ZMod.natCast_mod, Nat.cast_add]
  sub a b := by
    simp only [natOps]
    have hb : b % p ≤ p := Nat.le_of_lt (Nat.mod_lt _ (by omega))
    rw [ZMod.natCast_mod, Nat.add_sub_assoc hb, Nat.cast_add, Nat.cast_sub hb, ZMod.natCast_self, ZMod.natCast_mod]
    ring
  mul a b := by simp only [natOps, ZMod.natCast_mod, Nat.cast_mul]
  neg a := by
    simp only [natOps]
    have ha : a % p ≤ p := Nat.le_of_lt (Nat.mod_lt _ (by omega))
    rw [ZMod.natCast_mod, Nat.cast_sub ha, ZMod.natCast_self, ZMod.natCast_mod, zero_sub]
  sqr a := by simp only [natOps, ZMod.natCast_mod, Nat.cast_mul]
  dbl a := by simp only [natOps, ZMod.natCast_mod, Nat.cast_add]
  hlv a := by simp only [natOps, ZMod.natCast_mod, Nat.cast_mul, mul_comm] }

/-- the fp12 model exactly as `Driver.C10` builds it (Z/pZ on Nat, fp2 with the qnr loops, fp6 with fp2_mul_nor, fp12
    with fp6_mul_art): all its operations are the ring operations after evaluation at roots i, v, w of
    X² − qnr, X³ − ξ, X² − v in any commutative ring S over Z/pZ -/
theorem fp12_model_is_tower_arithmetic (p : Nat) (hodd : p % 2 = 1) (q : Int) (hq : q ≤ -1) (mod8 qnr2 : Nat)
    (hm : mod8 = 1 ∨ mod8 = 3 ∨ mod8 = 5 ∨ mod8 = 7) (h3 : mod8 = 3 → qnr2 = 1 → q = -1)
    (φ : ZMod p →+* S) (i v w : S) (hi : i * i = (q : S)) (hv : v * v * v = norConstS i mod8 qnr2) (hw : w * w = v) :
    let nor2 : V2 Nat → V2 Nat := fun a => (fp2MulNor (natOps p) q mod8 qnr2 a).getD a
    OpsHom (quadOps (cubOps (fp2Ops (natOps p) q) nor2) (cubArt nor2))
      (ev2 (ev3 (ev2 (fun n : Nat => φ (n : ZMod p)) i) v) w) (φ (((p + 1) / 2 : Nat) : ZMod p)) := by
  intro nor2
  have hb := (stack_base p hodd).comp φ
  have hh : 2 * φ (((p + 1) / 2 : Nat) : ZMod p) = 1 := by
    have := congrArg φ (half_spec p hodd)
    rw [map_mul, map_one, map_ofNat] at this
    exact this
  have h2 := stack_fp2 hb q hq i hi
  have hn2 : ∀ a, ev2 (fun n : Nat => φ (n : ZMod p)) i (nor2 a) = norConstS i mod8 qnr2 * ev2 (fun n : Nat => φ (n : ZMod p)) i a := by
    intro a
    have hsome : ∃ r, fp2MulNor (natOps p) q mod8 qnr2 a = some r := by
      unfold fp2MulNor
      rcases hm with rfl | rfl | rfl | rfl
      · exact ⟨_, rfl⟩
      · by_cases hq2 : qnr2 = 1
        · simp [hq2]
        · simp [hq2]
      · exact ⟨_, rfl⟩
      · exact ⟨_, rfl⟩
    obtain ⟨r, hr⟩ := hsome
    have : nor2 a = r := by simp [nor2, hr]
    rw [this]
    exact (congrArg (ev2 id i) (hb.map_fp2MulNor q mod8 qnr2 a r hr h3)).trans
      ((ev2_quadProd _ i hi _ _).trans (by rw [ev2_fp2NorConst, mul_comm]; rfl))
  have h6 := stack_cubic h2 hh nor2 _ v hn2 hv
  exact stack_quadratic h6 (cubArt nor2) v w (cubArt_ev nor2 _ v hn2 hv) hw

/-! ## §5 loops -/

/-- fpN_exp, plain branch: left-to-right square-and-multiply over the bits below the leading one computes the power -/
theorem exp_square_and_multiply {E : Type} {o : FOps E} {ev : E → S} {half : S} (h : OpsHom o ev half) (a : E)
    (bits : List Bool) : ev (expBin o a bits) = ev a ^ bitsVal bits :=
  -- the accumulator stands for the power by the exponent prefix read so far
  List.foldl_rel (r := fun t n => ev t = ev a ^ n) (pow_one _).symm fun b _ t n ht => by
    cases b
    · simp only [h.sqr, ht, Bool.false_eq_true, if_false, add_zero]; ring
    · simp only [h.sqr, h.mul, ht, if_true]; ring

/-- fpN_inv_sim (Montgomery's trick): over a field, the list of inverses whenever no operand is zero -/
theorem inv_sim_montgomery {F : Type} [Field F] [DecidableEq F] (hf : F) (as : List F) (hnz : ∀ a ∈ as, a ≠ 0) :
    invSim (fieldOps hf) as = as.map (·⁻¹) := by
  cases as with
  | nil => rfl
  | cons x xs =>
    -- the product of all operands is inverted: it is not zero
    have hP : xs.foldl (· * ·) x ≠ 0 := by
      rw [← id_eq (xs.foldl _ x), Relic.Lemmas.SimInv.map_foldl (mul := (· * ·)) id (fun _ _ => rfl) xs x, List.map_id]
      exact List.prod_ne_zero fun h0 => hnz 0 h0 rfl
    have hinv := Relic.Lemmas.SimInv.back_inverses (mul := (· * ·)) id (fun _ _ => rfl) (fun _ => True) (fun _ _ => trivial) x xs
      (xs.foldl (· * ·) x)⁻¹ trivial (mul_inv_cancel₀ hP)
    have hback := invSimBack_eq hf (Relic.Lemmas.SimInv.rel_prods (· * ·) x xs) (xs.foldl (· * ·) x)⁻¹ []
    rw [List.append_nil] at hback
    show invSimBack (fieldOps hf) (x :: invSimPrefix (fieldOps hf) x xs).reverse (x :: xs).reverse
      ((fieldOps hf).inv ((x :: invSimPrefix (fieldOps hf) x xs).getLastD x)) = _
    rw [invSimPrefix_eq, Relic.Lemmas.SimInv.getLastD_prods, fieldOps_inv, hback]
    have h := List.forall₂_map_left_iff.2 (hinv.imp fun a y h => inv_eq_of_mul_eq_one_right h.2)
    rw [List.forall₂_eq_eq_eq] at h
    exact h.symm

example : ∀ a ∈ [(2 : ℚ), 3, 5], a ≠ 0 := by intro a ha; simp at ha; rcases ha with rfl | rfl | rfl <;> norm_num

/-- the signed-digit (w-NAF) loop of fpN_exp_cyc — the loop `mulSigned` of Model/MulAlg.lean read multiplicatively, with
    the table t[i] = a^(2i+1), cyclotomic squaring as squaring and conjugation as inversion — returns a^k in any
    commutative group, k the integer the digits denote -/
theorem exp_cyc_signed_digit_loop {H : Type} [CommGroup H] (a : H) (tab : List H)
    (htab : ∀ i, i < tab.length → tab.getD i 1 = a ^ (2 * (i : ℤ) + 1)) (ds : List Int)
    (hd : ∀ d ∈ ds, d = 0 ∨ (d % 2 ≠ 0 ∧ d.natAbs < 2 * tab.length)) :
    Relic.Model.MulAlg.mulSigned (⟨1, (· * ·), (·⁻¹)⟩ : Relic.Model.MulAlg.Ops H) tab 1 ds = a ^ (Relic.Model.Rec.eval 1 ds) := by
  have h := Relic.Model.MulAlg.mulSigned_spec (G := Additive H) (Additive.ofMul a) tab
    (by intro i hi; exact htab i hi) ds hd
  exact h

end Relic.Props.C10
