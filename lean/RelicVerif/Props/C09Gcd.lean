/-
C09, gcd family: the value-level models of Model/NtGcd.lean (which mirror the loops of src/bn/relic_bn_gcd.c,
relic_bn_lcm.c, relic_bn_inv.c and are executed by the driver against the library on every presented line, cofactors included)
return the mathematically defined values for ALL integers.
-/
import RelicVerif.Lemmas.NtGcdD
import RelicVerif.Lemmas.NtLehmer
import RelicVerif.Lemmas.NtGcdMid
import RelicVerif.Lemmas.NtMod

namespace Relic.Props.C09
open Relic.Model.NtGcd Relic.Lemmas.NtGcd

/-- bn_gcd_basic (= bn_gcd in the verified configuration): Euclid's loop returns gcd(a, b) ≥ 0 for all integers incl. zero / negative -/
theorem gcd_basic_exact (a b : Int) : gcdBasic a b = (Int.gcd a b : Int) := by
  unfold gcdBasic
  split
  · next h => subst h; simp
  · split
    · next h => subst h; simp
    · rw [gcdBasicLoop_eq _ _ _ (Nat.lt_succ_self _)]; rfl

/-- bn_gcd_binar (Stein): common power of two, halving loops, subtract-and-halve: = gcd(a, b) for all integers -/
theorem gcd_binar_exact (a b : Int) : gcdBinar a b = (Int.gcd a b : Int) := by
  unfold gcdBinar
  split
  · next h => subst h; simp
  · split
    · next h => subst h; simp
    · next ha hb =>
      obtain ⟨u, v, s, hct, h2, h3, h4, -, h6⟩ := commonTwos_spec (a.natAbs + 1) a.natAbs b.natAbs 0 (by omega) (by omega)
        (Nat.lt_succ_self _)
      rw [hct]
      simp only [Nat.zero_add]
      rw [binarLoop_eq _ _ _ (Nat.lt_succ_self _) h6 h4, Nat.shiftLeft_eq, Int.gcd_eq_natAbs_gcd_natAbs, h2, h3,
        Nat.gcd_mul_right]

/-- bn_gcd_dig: the second operand is one digit (any natural number here); the non-negative remainder, then the digit loop -/
theorem gcd_dig_exact (a : Int) (b : Nat) : gcdDig a b = (Int.gcd a b : Int) := by
  unfold gcdDig
  split
  · next h => subst h; simp
  · split
    · next h => subst h; simp
    · next ha hb =>
      obtain ⟨r, hr⟩ := Int.eq_ofNat_of_zero_le (Int.emod_nonneg a (by omega : (b : Int) ≠ 0))
      simp only []
      rw [← Int.gcd_emod, hr, Int.toNat_natCast, Int.gcd_natCast_natCast, gcdBasicLoop_eq _ _ _ (Nat.lt_succ_self _),
        Nat.gcd_comm]

/-- bn_gcd_ext_basic with bn_gcd_ext_sign: (c, d, e) with c = gcd(a, b) ≥ 0 and a·d + b·e = c for ALL integers a, b -/
theorem gcd_ext_basic_exact (a b : Int) :
    (gcdExtBasic a b).1 = (Int.gcd a b : Int) ∧
    a * (gcdExtBasic a b).2.1 + b * (gcdExtBasic a b).2.2 = (gcdExtBasic a b).1 := gcdExtBasic_spec a b

/-- the first cofactor of bn_gcd_ext_basic is small: 2·|d| ≤ |b| (this is what makes bn_mod_inv's single correction enough) -/
theorem gcd_ext_basic_cofactor_bound (a b : Int) (ha : a ≠ 0) (hb : b ≠ 0) :
    -(b.natAbs : Int) ≤ 2 * (gcdExtBasic a b).2.1 ∧ 2 * (gcdExtBasic a b).2.1 ≤ (b.natAbs : Int) := gcdExtBasic_dbound a b ha hb

/-- bn_gcd_ext_dig: one multi-precision division step, then the single-digit loop: gcd and Bezout identity -/
theorem gcd_ext_dig_exact (a : Int) (b : Nat) :
    (gcdExtDig a b).1 = (Int.gcd a b : Int) ∧
    a * (gcdExtDig a b).2.1 + (b : Int) * (gcdExtDig a b).2.2 = (gcdExtDig a b).1 := gcdExtDig_spec a b

/-- bn_gcd_ext_binar at full strength: for ALL integers a, b the model returns (every loop ends within the supplied fuel: strip
loop, main loop, and the final cofactor-reduction loop "Now fix reciprocals", whose fuel |C| + 2 is proved sufficient: a round
with |C| > ⌊y'/2⌋ strictly decreases |C|, a round with |C| ≤ ⌊y'/2⌋ but |D| > ⌊x'/2⌋ is possible only for y' = 2, C = −1 and is the last one),
c = gcd(a, b) ≥ 0 and a·d + b·e = c -/
theorem gcd_ext_binar_exact (a b : Int) :
    ∃ c d e, gcdExtBinar a b = some (c, d, e) ∧ c = (Int.gcd a b : Int) ∧ a * d + b * e = c := by
  obtain ⟨d, e, hr, hb⟩ := gcdExtBinarImp_spec a b
  refine ⟨_, (extSign a b (_, d, e)).2.1, (extSign a b (_, d, e)).2.2, by rw [gcdExtBinar, hr]; rfl, rfl, ?_⟩
  rw [extSign_bezout]
  exact hb

/-- the cofactor-reduction loop of bn_gcd_ext_binar terminates: fuel |C| + 2 suffices whenever C·x + D·y = 1, x, y > 0 -/
theorem gcd_ext_binar_fix_loop_total (x y : Int) (hx : 0 < x) (hy : 0 < y) (C D : Int) (hbez : C * x + D * y = 1) :
    ∃ r, extBinarFix x y (hlv x) (hlv y) (C.natAbs + 2) C D = some r :=
  extBinarFix_total x y hx hy (C.natAbs + 2) C D hbez (le_refl _)

/-- gcd_ext_binar_exact read as a statement about a returned triple: whatever the model returns is c = gcd(a, b) ≥ 0 with a·d + b·e = c -/
theorem gcd_ext_binar_exact_partial (a b c d e : Int) (h : gcdExtBinar a b = some (c, d, e)) :
    c = (Int.gcd a b : Int) ∧ a * d + b * e = c := by
  obtain ⟨c', d', e', h', hc⟩ := gcd_ext_binar_exact a b
  rw [h] at h'
  cases h'
  exact hc

/-- bn_lcm: |a·b| / gcd(a, b) computed as (larger operand)·(smaller / gcd); lcm(0, 0) is refused (division by zero) -/
theorem lcm_exact (a b : Int) (h : ¬(a = 0 ∧ b = 0)) : lcm a b = some (Int.lcm a b : Int) := by
  unfold lcm
  simp only [gcd_basic_exact]
  have hg : Int.gcd a b ≠ 0 := by
    intro h0; rw [Int.gcd_eq_zero_iff] at h0; exact h h0
  have hg' : ((Int.gcd a b : Nat) : Int) ≠ 0 := by exact_mod_cast hg
  simp only [hg', if_false]
  have key : ∀ a b : Int, (b * (a / (Int.gcd a b : Int))).natAbs = Int.lcm a b := fun a b => by
    rw [Int.natAbs_mul, Int.natAbs_ediv_of_dvd (Int.gcd_dvd_left a b), Int.natAbs_natCast, Int.lcm_eq_mul_div,
      Nat.mul_comm a.natAbs b.natAbs]
    exact (Nat.mul_div_assoc _ (Nat.gcd_dvd_left a.natAbs b.natAbs)).symm
  split
  · rw [key]
  · rw [Int.gcd_comm, key b a, Int.lcm_comm]

theorem lcm_zero_zero_refused : lcm 0 0 = none := by
  unfold lcm gcdBasic; simp

/-- bn_mod_inv: for every modulus b > 1 and every integer a: an error exactly when gcd(a, b) ≠ 1, otherwise THE inverse in [0, b) -/
theorem mod_inv_exact (a b : Int) (hb : 1 < b) :
    (∀ c, modInv a b = some c → 0 ≤ c ∧ c < b ∧ (a * c) % b = 1) ∧ (modInv a b = none ↔ Int.gcd a b ≠ 1) :=
  modInv_spec a b hb

/-- bn_mod_inv_sim (Montgomery's trick: prefix products, one inversion, backward pass): every output is the reduced inverse
of the corresponding input -/
theorem mod_inv_sim_exact (as : List Int) (b : Int) (hb : 1 < b) (l : List Int) (h : modInvSim as b = some l) :
    List.Forall₂ (fun x y => (x * y) % b = 1 ∧ 0 ≤ y ∧ y < b) as l := by
  cases as with
  | nil => cases h
  | cons a0 rest =>
    obtain ⟨⟨u, invs⟩, hr, hl⟩ := Option.map_eq_some_iff.1 h
    cases hl
    obtain ⟨h1, h2⟩ := simGo_spec b hb rest a0 u invs hr
    exact List.Forall₂.cons h1 h2

/-
Lehmer's gcd (bn_gcd_lehme, bn_gcd_ext_lehme; Model/NtLehmer.lean, W = digit width).  Full statements:
  ∀ a b, gcdLehme W a b = some (gcd(a, b))   and   ∀ a b, ∃ d e, gcdExtLehme W a b = some (gcd(a, b), d, e) ∧ a·d + b·e = gcd(a, b).
Proved below without the existence part ("whenever the model returns").  The model returns `none` when a simulated cofactor
leaves the dis_t range, when a combined value becomes negative, or when the outer loop's fuel runs out; that none of these happens
(Lehmer's quotient-agreement analysis) is observed on every presented line — the driver then prints `model-overflow-or-fuel`,
which no library output equals — not proved.  What IS proved: the simulated 2×2 matrix is unimodular after every step, applying it
keeps the gcd, the extended variant's single tracked cofactor satisfies x ≡ t4·Y₀ (mod X₀) and the final exact division
recovers the other one.
-/
/-- bn_gcd_lehme: whenever the model returns, the result is gcd(a, b), for all integers and every digit width -/
theorem gcd_lehme_exact_partial (W : Nat) (a b c : Int) (h : Relic.Model.NtLehmer.gcdLehme W a b = some c) :
    c = (Int.gcd a b : Int) := by
  open Relic.Model.NtLehmer Relic.Lemmas.NtLehmer Relic.Lemmas in
  revert c
  unfold gcdLehme
  refine Ret.ite (fun ha => Ret.ok (by subst ha; simp)) fun _ => Ret.ite (fun hb => Ret.ok (by subst hb; simp)) fun _ => ?_
  simp only []
  have hy0 : (0 : Int) ≤ (if a.natAbs > b.natAbs then (b.natAbs : Int) else (a.natAbs : Int)) := by split <;> omega
  cases hl : lehmeLoop W (lehmeFuel a b) _ _ with
  | none => exact Ret.fail
  | some l =>
    obtain ⟨g1, g2, g3⟩ := lehmeLoop_spec W _ _ _ hy0 l hl
    refine Ret.ok ?_
    rw [(gcdExtDig_spec l.1 (dp0 W l.2)).1, dp0_small W l.2 g2 g3, g1]
    split
    · rw [Int.gcd_natCast_natCast]; rfl
    · rw [Int.gcd_comm, Int.gcd_natCast_natCast]; rfl

/-- bn_gcd_ext_lehme: whenever the model returns, c = gcd(a, b) and a·d + b·e = c, for all integers and every digit width -/
theorem gcd_ext_lehme_exact_partial (W : Nat) (a b c d e : Int) (h : Relic.Model.NtLehmer.gcdExtLehme W a b = some (c, d, e)) :
    c = (Int.gcd a b : Int) ∧ a * d + b * e = c := by
  open Relic.Model.NtLehmer Relic.Lemmas.NtLehmer in
  obtain ⟨r, hi, hr⟩ := Option.map_eq_some_iff.1 h
  obtain ⟨g1, g2⟩ := gcdExtLehmeImp_spec W _ _ (Int.natCast_nonneg _) (Int.natCast_nonneg _) r hi
  have hb := extSign_bezout a b r
  rw [hr] at hb
  obtain rfl : r.1 = c := congrArg Prod.fst hr
  exact ⟨by rw [g1, Int.gcd_natCast_natCast]; rfl, by rw [← g2]; exact hb⟩

/-- a unimodular combination of (x, y) has the same gcd -/
theorem lehmer_matrix_keeps_gcd (m : Relic.Model.NtLehmer.Mat) (hm : Relic.Lemmas.NtLehmer.Unimod m) (x y : Int) :
    Int.gcd (x * m.a + y * m.b) (x * m.c + y * m.d) = Int.gcd x y := Relic.Lemmas.NtLehmer.gcd_unimod m hm x y

/-- the cofactor matrix simulated on single digits stays unimodular (det = ±1) through any number of steps of a pass -/
theorem lehmer_simulation_unimodular (W xd yd : Nat) (m m' : Relic.Model.NtLehmer.Mat)
    (h : Relic.Model.NtLehmer.simPass W xd yd m = some m') (hm : Relic.Lemmas.NtLehmer.Unimod m) :
    Relic.Lemmas.NtLehmer.Unimod m' := Relic.Lemmas.NtLehmer.simPass_unimod W xd yd m hm m' h

/-- bn_gcd_ext_mid (extended Euclid stopped halfway, the source of the GLV lattice basis): for a, b ≠ 0 the model returns, and both
output vectors (c, d), (e, f) lie in the lattice {(x, y) : x + y·v0 ≡ 0 (mod u0)}, (u0, v0) = (larger, smaller magnitude of a, b) — for
every prior content of the outputs that lies in the lattice (the C code leaves outputs unwritten on some paths; the harness passes zeros).
Shortness of the vectors is not proved (C18 checks the decomposition they give per curve). -/
theorem gcd_ext_mid_lattice (c0 d0 e0 f0 a b : Int) (ha : a ≠ 0) (hb : b ≠ 0) (u0 v0 : Int)
    (hu : u0 = if a.natAbs > b.natAbs then (a.natAbs : Int) else (b.natAbs : Int))
    (hv : v0 = if a.natAbs > b.natAbs then (b.natAbs : Int) else (a.natAbs : Int))
    (h0 : u0 ∣ c0 + d0 * v0) (h1 : u0 ∣ e0 + f0 * v0) :
    ∃ c d e f, Relic.Model.NtGcdMid.gcdExtMid c0 d0 e0 f0 a b = some (c, d, e, f) ∧ u0 ∣ c + d * v0 ∧ u0 ∣ e + f * v0 := by
  open Relic.Model.NtGcdMid Relic.Lemmas.NtGcdMid in
  unfold gcdExtMid
  simp only [ha, hb, if_false]
  rw [← hu, ← hv]
  have hun : ∃ n : Nat, u0 = (n : Int) := by
    rw [hu]; split
    · exact ⟨_, rfl⟩
    · exact ⟨_, rfl⟩
  obtain ⟨n, hn⟩ := hun
  rw [hn, Relic.Lemmas.NtMod.bnSrt_eq_sqrt n, ← hn]
  simp only []
  have hinv := midLoop_inv u0 v0 (Nat.sqrt n : Int) (v0.toNat + 1) ⟨u0, v0, 1, 0, c0, d0, e0, f0, 0, 0, false⟩
    ⟨by simp, by simp, h0, h1, by simp⟩
  obtain ⟨_, _, i3, i4, i5⟩ := hinv
  split
  · exact ⟨_, _, _, _, rfl, i3, i5⟩
  · exact ⟨_, _, _, _, rfl, i3, i4⟩

example : Relic.Model.NtGcdMid.gcdExtMid 0 0 0 0 1000 97 = some (30, 10, 7, -31) := by decide +kernel

/-- non-vacuity: the models run (exact cofactors as the library prints them) -/
example : gcdExtBasic (-12) 18 = (6, 1, 1) := by decide
example : gcdExtBinar 12 (-18) = some (6, -1, -1) := by decide
example : gcdBinar 48 (-36) = 12 := by decide
example : modInv 3 7 = some 5 := by decide
example : (Relic.Model.NtLehmer.gcdExtLehme 8 0x1234567 (-0xfedcb)).isSome = true := by decide +kernel
example : (Relic.Model.NtLehmer.gcdLehme 8 0x1234567 0xfedcb).isSome = true := by decide +kernel
example : modInvSim [3, 5, 6] 7 = some [5, 3, 6] := by decide

end Relic.Props.C09
