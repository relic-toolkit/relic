/-
C11 — Extension-field curves: group law, [k]Q, Frobenius and cofactor clearing.
Group law: the library instantiates the same add/dbl templates for (ep2, fp2); the translator regenerates that instantiation on every
run and Lemmas/Ep2Formulas.lean checks (by `rfl`) that it is the same term as the (ep, fp) one, so the formula theorems of
Lemmas/EpFormulas.lean, stated over an arbitrary field, hold for the ep2 code.  Scalar multiplication: the theorems of C03 (over any
additive commutative group) are re-exported for the loops ep2_mul_* share with ep_mul_*; the Frobenius (GLS) paths have their own, under
ψ(Q) = λ•Q.  Frobenius and cofactor: the facts that reduce the per-point claims to what the driver checks (ψ(G) = [p]G; h·r kills the twist).
-/
import RelicVerif.Lemmas.Ep2Formulas
import RelicVerif.Props.C03
import RelicVerif.Lemmas.Ep2Mul

namespace Relic.Props.C11
open Relic.Model.Formula Relic.Gen Relic.Lemmas.EpFormulas Relic.Lemmas.Ep2Formulas

variable {F : Type} [Field F] [DecidableEq F]

/-- the ep2 instantiation of every template and wrapper is the ep instantiation (same term) -/
theorem ep2_formulas_are_ep_formulas :
    (@ep2_dbl_basic_imp = @ep_dbl_basic_imp) ∧ (@ep2_dbl_basic = @ep_dbl_basic) ∧
    (@ep2_dbl_projc_imp = @ep_dbl_projc_imp) ∧ (@ep2_dbl_projc = @ep_dbl_projc) ∧
    (@ep2_dbl_jacob_imp = @ep_dbl_jacob_imp) ∧ (@ep2_dbl_jacob = @ep_dbl_jacob) ∧
    (@ep2_add_basic_imp = @ep_add_basic_imp) ∧ (@ep2_add_basic = @ep_add_basic) ∧
    (@ep2_add_projc_mix = @ep_add_projc_mix) ∧ (@ep2_add_projc_imp = @ep_add_projc_imp) ∧
    (@ep2_add_projc = @ep_add_projc) ∧ (@ep2_add_jacob_mix = @ep_add_jacob_mix) ∧
    (@ep2_add_jacob_imp = @ep_add_jacob_imp) ∧ (@ep2_add_jacob = @ep_add_jacob) :=
  ⟨rfl, rfl, rfl, rfl, rfl, rfl, rfl, rfl, rfl, rfl, rfl, rfl, rfl, rfl⟩

/-- affine addition over the extension field is the chord law -/
theorem ep2_add_basic_chord (cv : CurveC F) (p q : Pt F) (hx : q.x - p.x ≠ 0) :
    let r := ep2_add_basic_imp fieldOps cv p q
    r.x = chordX p.x p.y q.x q.y ∧ r.y = chordY p.x p.y q.x q.y ∧ r.z = p.z ∧ r.coord = .basic := by
  rw [add_basic_imp_eq]; exact add_basic_imp_chord cv p q hx

/-- affine doubling is the tangent law -/
theorem ep2_dbl_basic_tangent (cv : CurveC F) (p : Pt F) (h2 : (2 : F) ≠ 0) (hy : p.y ≠ 0) :
    let r := ep2_dbl_basic_imp fieldOps cv p
    r.x = tangX cv.a p.x p.y ∧ r.y = tangY cv.a p.x p.y ∧ r.z = p.z ∧ r.coord = .basic := by
  rw [dbl_basic_imp_eq]; exact dbl_basic_imp_tangent cv p h2 hy

/-- homogeneous projective addition (both operands projective, on the curve) denotes the chord law -/
theorem ep2_add_projc_chord (cv : CurveC F) (p q : Pt F) (hp : p.coord = .projc) (hq : q.coord = .projc)
    (hzp : p.z ≠ 0) (hzq : q.z ≠ 0) (hcp : OnCurve cv p) (hcq : OnCurve cv q)
    (hx : q.x * p.z - p.x * q.z ≠ 0)
    (hopt : (cv.optA = .min3 → cv.a = -3) ∧ (cv.optA = .zero → cv.a = 0)) :
    let r := ep2_add_projc_imp fieldOps cv p q
    r.coord = .projc ∧ (r.z ≠ 0 →
      r.x / r.z = chordX (p.x / p.z) (p.y / p.z) (q.x / q.z) (q.y / q.z) ∧
      r.y / r.z = chordY (p.x / p.z) (p.y / p.z) (q.x / q.z) (q.y / q.z)) := by
  rw [add_projc_imp_eq]; exact add_projc_imp_chord cv p q hp hq hzp hzq hcp hcq hx hopt

/-- homogeneous projective doubling denotes the tangent law -/
theorem ep2_dbl_projc_tangent (cv : CurveC F) (p : Pt F) (hp : p.coord = .projc) (h2 : (2 : F) ≠ 0)
    (hzp : p.z ≠ 0) (hcp : OnCurve cv p) (hy : p.y ≠ 0)
    (hopt : (cv.optA = .min3 → cv.a = -3) ∧ (cv.optA = .zero → cv.a = 0)) :
    let r := ep2_dbl_projc_imp fieldOps cv p
    r.coord = .projc ∧ (r.z ≠ 0 →
      r.x / r.z = tangX cv.a (p.x / p.z) (p.y / p.z) ∧ r.y / r.z = tangY cv.a (p.x / p.z) (p.y / p.z)) := by
  rw [dbl_projc_imp_eq]; exact dbl_projc_imp_tangent cv p hp h2 hzp hcp hy hopt

/-- Jacobian doubling denotes the tangent law -/
theorem ep2_dbl_jacob_tangent (cv : CurveC F) (p : Pt F) (hp : p.coord = .jacob) (h2 : (2 : F) ≠ 0) (hz : p.z ≠ 0)
    (hy : p.y ≠ 0) (hopt : (cv.optA = .min3 → cv.a = -3) ∧ (cv.optA = .zero → cv.a = 0)) :
    let r := ep2_dbl_jacob_imp fieldOps cv p
    r.coord = .jacob ∧ r.z ≠ 0 ∧
    r.x / r.z ^ 2 = tangX cv.a (p.x / p.z ^ 2) (p.y / p.z ^ 3) ∧
    r.y / r.z ^ 3 = tangY cv.a (p.x / p.z ^ 2) (p.y / p.z ^ 3) := by
  rw [dbl_jacob_imp_eq]; exact dbl_jacob_imp_tangent cv p hp h2 hz hy hopt

section Group
variable {G : Type} [AddCommGroup G]

/-- an additive endomorphism of the group generated by `g` that sends g to λ•g sends every multiple k•g to λ•(k•g):
    checking ψ(G2) = [p]G2 on the generator (the driver does, together with per-point checks) determines ψ on the
    whole cyclic group -/
theorem endo_is_scalar_on_cyclic (ψ : G →+ G) (g : G) (lam : ℤ) (h : ψ g = lam • g) (k : ℤ) :
    ψ (k • g) = lam • (k • g) := by
  rw [map_zsmul, h, smul_comm]

/-- cofactor clearing: if h·r kills P (the order of the twist is h·r) then h•P lies in the r-torsion -/
theorem cofactor_image_in_r_torsion (h r : ℕ) (P : G) (hN : (h * r) • P = 0) : r • (h • P) = 0 := by
  rw [← mul_smul, mul_comm]; exact hN

/-- … and any further multiple of it as well (the efficient maps compute c·h•P for a fixed c) -/
theorem cofactor_multiple_in_r_torsion (h r c : ℕ) (P : G) (hN : (h * r) • P = 0) : r • (c • (h • P)) = 0 := by
  rw [smul_comm, cofactor_image_in_r_torsion h r P hN, smul_zero]

/-- scalar multiplication on the twist: the loops shared with the prime-curve code return k•Q in any group killed by n
    (re-export of the C03 theorem for the binary/NAF method) -/
theorem ep2_mul_lwnaf_correct (p : G) (n : Nat) (hn0 : 0 < n) (hn : (n : ℤ) • p = 0) (k : ℤ) (w : Nat) (hw : 2 ≤ w)
    (cap : Nat) (ds : List Int) (h : Relic.Model.Rec.recNaf cap (k % n).toNat w = some ds) :
    Relic.Model.MulAlg.mulSigned Relic.Model.MulAlg.gops (Relic.Model.MulAlg.tabOdd Relic.Model.MulAlg.gops p (2 ^ (w - 2))) 0 ds = k • p :=
  Relic.Props.C03.mul_lwnaf_correct p n hn0 hn k w hw cap ds h

/-! ### class A: the ep2 routines without the Frobenius recoding -/

/-! The driver executes these very loops (Model/MulAlg.lean, Model/EpMul.lean, recodings of Model/Rec.lean at the buffer capacities of
    src/epx/relic_ep2_mul*.c) over the affine law of the twist on every `e2m` / `e2s` / `e2d` line; here they return k•Q (resp.
    k•P + m•Q, Σ kᵢ•Pᵢ) in every additive commutative group, for every integer scalar.  `n` is the order of the subgroup (n • Q = 0 is
    the only fact about Q that is used). -/

open Relic.Model Relic.Model.MulAlg Relic.Model.EpMul
open Relic.Model.EbMul (tabCombs)

/-- ep2_mul_basic / ep2_mul_big / ep2_mul_dig: binary NAF of |k| with the one-entry table [Q], sign applied at the end; any integer k,
    any capacity the recoding fits in -/
theorem ep2_mul_basic_correct (p : G) (k : ℤ) (cap : Nat) (ds : List Int) (h : Rec.recNaf cap k.natAbs 2 = some ds) :
    (if k < 0 then -(mulSigned gops [p] 0 ds) else mulSigned gops [p] 0 ds) = k • p :=
  Relic.Props.C03.mul_basic_correct p k cap ds h

/-- ep2_mul_slide: unlike ep_mul_slide the scalar is NOT reduced modulo the order: sliding windows of |k| itself (a recoding that does
    not fit RLC_FP_BITS + 1 windows is a reported error), table of odd multiples up to 2^w − 1, sign applied at the end.  No hypothesis
    on Q at all. -/
theorem ep2_mul_slide_correct (p : G) (k : ℤ) (w : Nat) (hw : 1 ≤ w)
    (cap : Nat) (win : List Int) (h : Rec.recSlw cap k.natAbs w = some win) :
    (if k < 0 then -(mulSlide gops (tabOdd gops p (2 ^ (w - 1))) 0 win) else mulSlide gops (tabOdd gops p (2 ^ (w - 1))) 0 win) = k • p := by
  rw [mulSlide_slw p cap _ w hw win h]
  exact neg_natAbs_zsmul k p

example : (if (-5 : ℤ) < 0 then -(mulSlide gops (tabOdd gops (1 : ℤ) (2 ^ (4 - 1))) 0 [5]) else 0) = (-5 : ℤ) • (1 : ℤ) := by
  have h : Rec.recSlw 10 (-5 : ℤ).natAbs 4 = some [5] := by decide
  have := ep2_mul_slide_correct (1 : ℤ) (-5) 4 (by omega) 10 [5] h
  simpa using this

/-- ep2_mul_monty: l = (k mod n) + n or + 2n, whichever has exactly bits(n) + 1 bits; ladder over its lower bits -/
theorem ep2_mul_monty_correct (p : G) (n : Nat) (hn : (n : ℤ) • p = 0) (k : ℤ) (l : Nat) (hl : (l : ℤ) % n = k % n)
    (bits : List Bool) (hbits : (2 ^ bits.length + bitsVal bits : ℤ) = l) :
    mulLadder gops p bits = k • p :=
  Relic.Props.C03.mul_monty_correct p n hn k l hl bits hbits

/-- ep2_mul_pre_basic + ep2_mul_fix_basic: precomputed 2^i·Q for i < bits(n), one addition per set bit of k mod n -/
theorem ep2_mul_fix_basic_correct (p : G) (n : Nat) (hn0 : 0 < n) (hn : (n : ℤ) • p = 0) (k : ℤ) (nb : Nat) (hnb : n < 2 ^ nb) :
    mulFixBasic gops (tabPow2 gops p nb) 0 (k % n).toNat = k • p :=
  Relic.Props.C03.mul_fix_basic_correct p n hn0 hn k nb hnb

/-- ep2_mul_pre_combs + ep2_mul_fix_combs (also ep2_mul_fix, ep2_mul_pre and — on the table of the generator — ep2_mul_gen where EP_FIX =
    COMBS; the twist code has only this form, no endomorphism comb): every integer k, any l, d with n ≤ 2^(l·d)
    (`C03.comb_cover`: l = ⌈bits(n)/d⌉ qualifies) -/
theorem ep2_mul_fix_combs_correct (p : G) (n : Nat) (hn0 : 0 < n) (hn : (n : ℤ) • p = 0) (k : ℤ) (l d : Nat) (hl : 0 < l)
    (hld : n ≤ 2 ^ (l * d)) :
    mulCombsPlain gops (tabCombs gops p l d) (k % n).toNat l d = k • p :=
  Relic.Props.C03.mul_fix_combs_plain_correct p n hn0 hn k l d hl hld

/-- ep2_mul_pre_combd + ep2_mul_fix_combd: two tables (the second holds the first doubled e times), e = ⌈dd/2⌉ iterations -/
theorem ep2_mul_fix_combd_correct (p : G) (n : Nat) (hn0 : 0 < n) (hn : (n : ℤ) • p = 0) (k : ℤ) (dd e d : Nat) (he : 0 < e)
    (hle : e ≤ dd) (h2 : dd ≤ 2 * e) (hld : n ≤ 2 ^ (dd * d)) :
    mulCombd gops (tabCombd gops p dd e d) (k % n).toNat dd e d = k • p :=
  Relic.Props.C03.mul_fix_combd_correct p n hn0 hn k dd e d he hle h2 hld

/-- ep2_mul_pre_lwnaf + ep2_mul_fix_lwnaf: k reduced modulo n, width-d NAF (d = RLC_DEPTH), table of odd multiples -/
theorem ep2_mul_fix_lwnaf_correct (p : G) (n : Nat) (hn0 : 0 < n) (hn : (n : ℤ) • p = 0) (k : ℤ) (d : Nat) (hd : 2 ≤ d)
    (cap : Nat) (ds : List Int) (h : Rec.recNaf cap (k % n).toNat d = some ds) :
    mulSigned gops (tabOdd gops p (2 ^ (d - 2))) 0 ds = k • p :=
  Relic.Props.C03.mul_lwnaf_correct p n hn0 hn k d hd cap ds h

/-- ep2_mul_sim_trick (past its early exits): both scalars reduced modulo n, fixed windows of width w, table of i·P + j·Q -/
theorem ep2_mul_sim_trick_correct (p q : G) (n : Nat) (hn0 : 0 < n) (hp : (n : ℤ) • p = 0) (hq : (n : ℤ) • q = 0) (k m : ℤ) (w : Nat)
    (hw : 0 < w) (cap : Nat) (w0 w1 : List Int) (hk : 0 < (k % n).toNat) (hm : 0 < (m % n).toNat)
    (h0 : Rec.recWin cap (k % n).toNat w = some w0) (h1 : Rec.recWin cap (m % n).toNat w = some w1) :
    simTrick gops (tabTrick gops p q w) 0 w w0 w1 = k • p + m • q :=
  Relic.Props.C03.mul_sim_trick_correct p q n hn0 hp hq k m w hw cap w0 w1 hk hm h0 h1

/-- ep2_mul_sim_joint (past its early exits): joint sparse form of (k mod n, m mod n) -/
theorem ep2_mul_sim_joint_correct (p q : G) (n : Nat) (hn0 : 0 < n) (hp : (n : ℤ) • p = 0) (hq : (n : ℤ) • q = 0) (k m : ℤ)
    (cap : Nat) (j0 j1 : List Int) (h : Rec.recJsf cap (k % n).toNat (m % n).toNat = some (j0, j1)) :
    simJoint gops p q j0 j1 = k • p + m • q :=
  Relic.Props.C03.mul_sim_joint_correct p q n hn0 hp hq k m cap j0 j1 h

/-- ep2_mul_sim_dig: every list of (point, single-digit scalar) pairs -/
theorem ep2_mul_sim_dig_correct (ps : List G) (ks : List Nat) (mx : Nat) (hk : ∀ k ∈ ks, k < 2 ^ mx) :
    simDig gops ps ks mx = ((ps.zip ks).map fun pk => ((pk.2 : ℕ) : ℤ) • pk.1).sum :=
  Relic.Props.C03.mul_sim_dig_correct ps ks mx hk

/-! ### class A: the Frobenius (GLS) paths -/

/-! ψ is the twisted Frobenius ep2_frb(·, 1); its action on the point, ψ(Q) = λ•Q with λ = p mod r, is the hypothesis (the driver
    checks it on the generator on every run, and `endo_is_scalar_on_cyclic` carries it to every multiple of the generator). -/

open Relic.Model.Ep2Mul

/-- bn_rec_frb, BN branch (integer form `recFrbBN`): the four sub-scalars of k mod n recombine to k modulo n — for any rounding of
    the quotients — whenever the four columns of the coefficient rows annihilate (1, λ, λ², λ³) modulo n (checked by the driver on the
    generator for the reported family parameter x) -/
theorem rec_frb_bn_congr (n : Nat) (hn0 : 0 < n) (x lam : ℤ)
    (h0 : (n : ℤ) ∣ (x + 1) + x * lam + x * lam ^ 2 + (-2 * x) * lam ^ 3)
    (h1 : (n : ℤ) ∣ (2 * x + 1) + (-x) * lam + (-(x + 1)) * lam ^ 2 + (-x) * lam ^ 3)
    (h2 : (n : ℤ) ∣ 2 * x + (2 * x + 1) * lam + (2 * x + 1) * lam ^ 2 + (2 * x + 1) * lam ^ 3)
    (h3 : (n : ℤ) ∣ (x - 1) + (4 * x + 2) * lam + (-(2 * x - 1)) * lam ^ 2 + (x - 1) * lam ^ 3)
    (k : ℤ) (k0 k1 k2 k3 : ℤ) (h : recFrbBN (k % n).toNat n x = [k0, k1, k2, k3]) :
    (n : ℤ) ∣ k0 + k1 * lam + k2 * lam ^ 2 + k3 * lam ^ 3 - k := by
  have hh := Relic.Lemmas.Ep2Mul.recFrbBN_congr n hn0 x lam h0 h1 h2 h3 (k % n).toNat k0 k1 k2 k3 h
  rw [toNat_emod n hn0 k] at hh
  exact dvd_sub_of_dvd_sub_emod _ _ _ hh

/-- the hypotheses of `rec_frb_bn_congr` are satisfiable: the smallest BN parameter x = 1 gives p = 103, r = 97 (both prime),
    λ = p mod r = 6 = 6x², and the four lattice columns vanish modulo 97 -/
example (k k0 k1 k2 k3 : ℤ) (h : recFrbBN (k % (97 : ℕ)).toNat 97 1 = [k0, k1, k2, k3]) :
    ((97 : ℕ) : ℤ) ∣ k0 + k1 * 6 + k2 * 6 ^ 2 + k3 * 6 ^ 3 - k :=
  rec_frb_bn_congr 97 (by norm_num) 1 6 (by decide) (by decide) (by decide) (by decide) k k0 k1 k2 k3 h

/-- ep2_mul_gls_imp (ep2_mul_lwnaf = ep2_mul on the pairing curves): table of odd multiples of ±Q, its three successive ψ-images
    (negated when consecutive sub-scalars differ in sign), four interleaved width-w NAFs.  Every sub-scalar decomposition with
    k0 + k1 λ + k2 λ² + k3 λ³ ≡ k (mod n). -/
theorem ep2_mul_gls_correct (ψ : G →+ G) (p : G) (n : Nat) (hn : (n : ℤ) • p = 0) (lam : ℤ) (hψ : ψ p = lam • p)
    (k k0 k1 k2 k3 : ℤ) (hk : (n : ℤ) ∣ k0 + k1 * lam + k2 * lam ^ 2 + k3 * lam ^ 3 - k) (w : Nat) (hw : 2 ≤ w) (cap : Nat)
    (n0 n1 n2 n3 : List Int)
    (h0 : Rec.recNaf cap k0.natAbs w = some n0) (h1 : Rec.recNaf cap k1.natAbs w = some n1)
    (h2 : Rec.recNaf cap k2.natAbs w = some n2) (h3 : Rec.recNaf cap k3.natAbs w = some n3) :
    mulGls gops ψ p (2 ^ (w - 2)) (decide (k0 < 0)) (decide (k1 < 0)) (decide (k2 < 0)) (decide (k3 < 0)) n0 n1 n2 n3 = k • p := by
  obtain ⟨hv0, hd0⟩ := Relic.Props.C03.naf_digits cap _ w hw n0 h0
  obtain ⟨hv1, hd1⟩ := Relic.Props.C03.naf_digits cap _ w hw n1 h1
  obtain ⟨hv2, hd2⟩ := Relic.Props.C03.naf_digits cap _ w hw n2 h2
  obtain ⟨hv3, hd3⟩ := Relic.Props.C03.naf_digits cap _ w hw n3 h3
  rw [Relic.Lemmas.Ep2Mul.mulGls_spec ψ p _ _ _ _ _ n0 n1 n2 n3
    (forall_mem_four hd0 hd1 hd2 hd3),
    hv0, hv1, hv2, hv3, Relic.Props.C03.sg_natAbs, Relic.Props.C03.sg_natAbs, Relic.Props.C03.sg_natAbs, Relic.Props.C03.sg_natAbs]
  exact Relic.Lemmas.Ep2Mul.gls_sum_zsmul ψ p n hn lam hψ k k0 k1 k2 k3 hk

/-- ep2_mul_sim_endom (ep2_mul_sim_inter = ep2_mul_sim, ep2_mul_sim_gen on the pairing curves): the eight points ±ψ^j(P), ±ψ^j(Q) with
    the binary NAFs of their sub-scalars, interleaved in the order of the C loop -/
theorem ep2_mul_sim_endom_correct (ψ : G →+ G) (p q : G) (n : Nat) (hp : (n : ℤ) • p = 0) (hq : (n : ℤ) • q = 0) (lam : ℤ)
    (hψp : ψ p = lam • p) (hψq : ψ q = lam • q) (k m k0 k1 k2 k3 m0 m1 m2 m3 : ℤ)
    (hk : (n : ℤ) ∣ k0 + k1 * lam + k2 * lam ^ 2 + k3 * lam ^ 3 - k)
    (hm : (n : ℤ) ∣ m0 + m1 * lam + m2 * lam ^ 2 + m3 * lam ^ 3 - m) (cap l : Nat) (a0 a1 a2 a3 b0 b1 b2 b3 : List ℤ)
    (h : ∀ t ∈ [(p, k0, a0), (q, m0, b0), (ψ p, k1, a1), (ψ q, m1, b1), (ψ (ψ p), k2, a2), (ψ (ψ q), m2, b2),
        (ψ (ψ (ψ p)), k3, a3), (ψ (ψ (ψ q)), m3, b3)], Rec.recNaf cap t.2.1.natAbs 2 = some t.2.2 ∧ t.2.2.length ≤ l) :
    simLotNaf gops
      ([(p, k0, a0), (q, m0, b0), (ψ p, k1, a1), (ψ q, m1, b1), (ψ (ψ p), k2, a2), (ψ (ψ q), m2, b2),
        (ψ (ψ (ψ p)), k3, a3), (ψ (ψ (ψ q)), m3, b3)].map fun t => if t.2.1 < 0 then -t.1 else t.1)
      ([(p, k0, a0), (q, m0, b0), (ψ p, k1, a1), (ψ q, m1, b1), (ψ (ψ p), k2, a2), (ψ (ψ q), m2, b2),
        (ψ (ψ (ψ p)), k3, a3), (ψ (ψ (ψ q)), m3, b3)].map fun t => t.2.2) l = k • p + m • q := by
  rw [Relic.Props.C03.mul_sim_lot_plain_correct _ cap l h,
    ← Relic.Lemmas.Ep2Mul.gls_sum_zsmul ψ p n hp lam hψp k k0 k1 k2 k3 hk,
    ← Relic.Lemmas.Ep2Mul.gls_sum_zsmul ψ q n hq lam hψq m m0 m1 m2 m3 hm]
  simp only [List.map_cons, List.map_nil, List.sum_cons, List.sum_nil]
  abel

end Group

end Relic.Props.C11
