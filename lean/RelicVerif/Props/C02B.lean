/-
C02, algorithm layer — the exponentiation, inversion, square-root and symbol routines of src/fp (relic_fp_exp.c,
relic_fp_inv.c, relic_fp_srt.c, relic_fp_smb.c) as modelled in Model/FpAlg.lean (value level over [0,p); same loops,
windows, tables, branches and error conditions as the C functions; executed by the driver on every presented line)
compute what Z/pZ defines, for every input.

`Ctx.WF`: p an odd prime, p < R = 2^m, p < 2^RLC_FP_BITS, R·rinv ≡ 1 (mod p), RLC_WIDTH > 0.
`Ctx.WFsrt` adds p − 1 = 2^f·q with q odd and, when p ≡ 1 (mod 4), z a primitive 2^f-th root of unity (fp_prime_get_2ad /
fp_prime_get_srt; for p ≡ 3 (mod 4) the library's constant is 1 and unused).
The driver evaluates these hypotheses, all but the primality of p, on the context the running library reports (Driver/C02.lean:
checkParam).

Not modelled (class C, compared with the specification only): fp_inv_divst, fp_inv_jmpds, fp_smb_binar (Pornin), fp_smb_divst,
fp_smb_jmpds, the general branch of fp_crt (p ≡ 1 mod 9) and fp_is_cub.  fp_is_sqr / the flag of the Tonelli–Shanks branch of fp_srt call fp_smb, which is
FP_SMB = JMPDS in the verified configuration: the model evaluates Euler's criterion (the algorithm of fp_smb_basic) instead.
-/
import RelicVerif.Lemmas.FpAlgInv2
import RelicVerif.Lemmas.FpAlgSrt

namespace Relic.Props.C02
open Relic.Model.FpAlg Relic.Model.Rec
open Relic.Lemmas.ZModCast (cast_eq_zero_iff_of_lt cast_mul_eq_one_iff)

/-! ### exponentiation (any modulus p > a; no primality) -/

/-- fp_exp_basic loop and fp_exp_dig: a^e mod p for every positive exponent / every digit -/
theorem fp_exp_basic_loop (p a e : Nat) (ha : a < p) (he : 0 < e) : expBasicAbs p a e = a ^ e % p := by
  refine expBasicLoop_inv p a e ha _ a ?_
  rw [shr_top e he]
  exact res_one ha

theorem fp_exp_dig_exact (p a b : Nat) (ha : a < p) : expDig p a b = a ^ b % p := by
  unfold expDig
  split
  · rename_i h; subst h; simp
  · rename_i h; exact fp_exp_basic_loop p a b ha (by omega)

/-- fp_exp_monty: the ladder with conditional swaps over all bits -/
theorem fp_exp_monty_loop (p a e : Nat) (ha : a < p) : expMontyAbs p a e = a ^ e % p := by
  have h0 : e >>> bitLen e = 0 := by rw [Nat.shiftRight_eq_div_pow, Nat.div_eq_of_lt (lt_two_pow_bitLen e)]
  exact ladderLoop_inv p a e (bitLen e) (1 % p, a) (h0 ▸ res_zero p a) (h0 ▸ res_one ha)

/-- fp_exp_slide: odd-power table + sliding windows of bn_rec_slw = a^e for exponents of at most RLC_FP_BITS + 1 bits;
    longer exponents are refused (the reported error of known finding F16), never answered wrongly -/
theorem fp_exp_slide_loop (c : Ctx) (a e : Nat) (ha : a < c.p) (hw : 0 < c.width) :
    expSlideAbs c a e = if bitLen e ≤ c.fb + 1 then some (a ^ e % c.p) else none := expSlideAbs_spec c a e ha hw

/-- signed exponents: a^e for e ≥ 0 (including e = 0 and e ≥ p), the inverse of a^|e| for e < 0 and a ≠ 0 (through
    fp_inv = fp_inv_monty), an error for e < 0 and a = 0 -/
theorem fp_exp_basic_signed (c : Ctx) (h : c.WF) (a : Nat) (ha : a < c.p) (e : Int) :
    ExpContract c a e (fpExpBasic c a e) :=
  expContract_signed c h a ha e _ fun he => congrArg some (fp_exp_basic_loop _ _ _ ha (Int.natAbs_pos.2 he))

theorem fp_exp_monty_signed (c : Ctx) (h : c.WF) (a : Nat) (ha : a < c.p) (e : Int) :
    ExpContract c a e (fpExpMonty c a e) :=
  expContract_signed c h a ha e _ fun _ => congrArg some (fp_exp_monty_loop _ _ _ ha)

theorem fp_exp_slide_signed (c : Ctx) (h : c.WF) (a : Nat) (ha : a < c.p) (e : Int) :
    (bitLen e.natAbs ≤ c.fb + 1 → ExpContract c a e (fpExpSlide c a e)) ∧
    (c.fb + 1 < bitLen e.natAbs → fpExpSlide c a e = none) := by
  constructor
  · intro hb
    exact expContract_signed c h a ha e _ fun _ => by rw [expSlideAbs_spec c a _ ha h.width, if_pos hb]
  · intro hb
    have he : e ≠ 0 := by
      rintro rfl; simp [bitLen] at hb
    rw [fpExpSlide, if_neg he, expSlideAbs_spec c a _ ha h.width, if_neg (by omega)]
    rfl

/-! ### inversion: for a prime modulus the canonical inverse, zero reported -/

/-- fp_inv_monty (Kaliski almost inverse + power-of-two correction in the Montgomery domain) -/
theorem fp_inv_monty_correct (c : Ctx) (h : c.WF) : InvContract c (invMonty c) := fpInv_spec c h

/-- fp_inv_binar (binary extended Euclid) -/
theorem fp_inv_binar_correct (c : Ctx) (h : c.WF) : InvContract c (invBinar c) :=
  invContract_of_cofactor c h _ (by simp [invBinar]) fun a h0 _ hcop => invBinar_cof c h.odd h.prime.pos a h0 hcop

/-- fp_inv_exgcd -/
theorem fp_inv_exgcd_correct (c : Ctx) (h : c.WF) : InvContract c (invExgcd c) :=
  invContract_of_cofactor c h _ (by simp [invExgcd]) fun a h0 _ hcop => invExgcd_cof c a h0 hcop

/-- fp_inv_basic and fp_inv_lower (Fermat, a^(p−2) by the sliding-window exponentiation) -/
theorem fp_inv_fermat_correct (c : Ctx) (h : c.WF) : InvContract c (invBasic c) ∧ InvContract c (invLower c) :=
  ⟨invFermat_spec c h, invFermat_spec c h⟩

/-- fp_inv_sim: Montgomery's trick for every list length ≥ 1 -/
theorem fp_inv_sim_correct (c : Ctx) (h : c.WF) (as : List Nat) (hne : as ≠ []) (hlt : ∀ a ∈ as, a < c.p) :
    ((∃ a ∈ as, a = 0) → invSim c as = none) ∧
    ((∀ a ∈ as, a ≠ 0) → ∃ out, invSim c as = some out ∧
      List.Forall₂ (fun a x => x < c.p ∧ a * x % c.p = 1) as out) := by
  cases as with
  | nil => exact absurd rfl hne
  | cons a0 rest =>
    have hp := h.prime
    have := Fact.mk hp
    obtain ⟨h0, h1⟩ := Relic.Lemmas.SimInv.inverses_or_error (Nat.cast : Nat → ZMod c.p) (cast_fmul c.p) (· < c.p)
      (fun _ _ => Nat.mod_lt _ hp.pos) 0 (fun a ha => cast_eq_zero_iff_of_lt ha) (fpInv c)
      ((fpInv_spec c h 0 hp.pos).1 rfl)
      (fun a ha ha0 => let ⟨u, hu, hult, hu1⟩ := (fpInv_spec c h a ha).2 ha0
        ⟨u, hu, hult, (cast_mul_eq_one_iff hp.one_lt).2 hu1⟩) a0 rest hlt
    simp only [invSim, simProds_eq, simBack_eq, Relic.Lemmas.SimInv.getLastD_prods]
    refine ⟨fun hz => by rw [h0 hz], fun hnz => ?_⟩
    obtain ⟨u, hu, hf⟩ := h1 hnz
    rw [hu]
    exact ⟨_, rfl, hf.imp fun a x hx => ⟨hx.1, (cast_mul_eq_one_iff hp.one_lt).1 hx.2⟩⟩

/-- fp_smb_basic / fp_smbm_low = the Legendre symbol -/
theorem fp_smb_basic_legendre (c : Ctx) (h : c.WF) (a : Nat) (ha : a < c.p) :
    haveI := Fact.mk h.prime
    smbBasic c a = some (legendreSym c.p a) := smbBasic_spec c h a ha

/-- fp_srt: a root is returned exactly when one exists, and it squares to the operand (both branches: p ≡ 3 mod 4 and
    constant-time Tonelli–Shanks, which covers p ≡ 5 mod 8) -/
theorem fp_srt_root_iff (c : Ctx) (h : c.WFsrt) (a : Nat) (ha : a < c.p) :
    ∃ r x, srt c a = some (r, x) ∧ (r = true ↔ ∃ y, y * y % c.p = a) ∧ (r = true → x < c.p ∧ x * x % c.p = a) := by
  have hW := h.toWF
  have := Fact.mk hW.prime
  have hp2 := hW.prime.two_le
  have hodd := hW.odd
  have hp3 := hW.three_le
  have hp0 : 0 < c.p := hW.prime.pos
  by_cases h0 : a = 0
  · subst h0
    exact ⟨true, 0, by simp [srt], root_zero (fun y => y * y % c.p) hp0 (by simp)⟩
  have hx : (a : ZMod c.p) ≠ 0 := by rw [Ne, cast_eq_zero_iff_of_lt ha]; exact h0
  have heul : (∃ y, y * y % c.p = a) → (a : ZMod c.p) ^ (c.p / 2) = 1 := fun hy =>
    (ZMod.euler_criterion c.p hx).1 ((isSquare_iff c.p a ha).2 hy)
  by_cases h3 : c.p % 4 = 3
  · have he : (c.p + 1) >>> 2 = c.p / 4 + 1 := by rw [Nat.shiftRight_eq_div_pow]; omega
    have hexp := fpExpNat_of_le c hW a ((c.p + 1) >>> 2) ha (by rw [he]; omega)
    rw [he] at hexp
    simp only [srt, if_neg h0, if_pos h3, he, hexp]
    refine ⟨_, _, rfl, root_test (fun y => y * y % c.p) (Nat.mod_lt _ hp0) fun hy => sq_of_cast ha ?_⟩
    rw [cast_powmod, ← pow_mul, show (c.p / 4 + 1) * 2 = c.p / 2 + 1 by omega, pow_succ, heul hy, one_mul]
  · obtain ⟨q, hqodd, hq⟩ := h.fq
    obtain ⟨hshift2, hq2, hqle, hhalf⟩ := two_adic_arith c.p c.f q h.fpos hqodd hq hp2
    have hexp := fpExpNat_of_le c hW a (q / 2) ha (Nat.le_trans (Nat.div_le_self _ _) hqle)
    obtain ⟨b, hb, hbiff⟩ := isSqr_spec c hW a ha
    simp only [srt, if_neg h0, if_neg h3, hb, hshift2, hexp]
    refine ⟨b, _, rfl, hbiff, fun hbt => ?_⟩
    obtain ⟨hr0lt, hr0sq⟩ := tsRoot_spec c.p hp3 c.f q c.z a _ hq2 (cast_powmod _ _ _)
      (by rw [← hhalf]; exact heul (hbiff.1 hbt)) (by rw [← cast_powmod, h.zord (by omega), cast_pred _ hp0])
    split_ifs
    · exact ⟨Nat.mod_lt _ hp0, sq_of_cast ha (by rw [cast_fneg _ _ hr0lt.le, neg_sq, hr0sq])⟩
    · exact ⟨hr0lt, sq_of_cast ha hr0sq⟩

/-- fp_is_sqr -/
theorem fp_is_sqr_iff (c : Ctx) (h : c.WF) (a : Nat) (ha : a < c.p) :
    ∃ b, isSqr c a = some b ∧ (b = true ↔ ∃ y, y * y % c.p = a) := isSqr_spec c h a ha

/-- fp_crt on the primes where it is one exponentiation (p ≡ 2 mod 3, p ≡ 4 mod 9, p ≡ 7 mod 9): a cube root is returned
    exactly when one exists, and it cubes to the operand.  (The general branch, p ≡ 1 mod 9, is class C.) -/
theorem fp_crt_exp_branches (c : Ctx) (h : c.WF) (a : Nat) (ha : a < c.p) (e : Nat) (he : crtExp c = some e) :
    ∃ r x, crtEasy c a = some (some (r, x)) ∧ (r = true ↔ ∃ y, y * y % c.p * y % c.p = a) ∧
      (r = true → x < c.p ∧ x * x % c.p * x % c.p = a) := by
  have := Fact.mk h.prime
  have hp2 := h.prime.two_le
  by_cases h0 : a = 0
  · subst h0
    exact ⟨true, 0, by simp [crtEasy], root_zero (fun y => y * y % c.p * y % c.p) h.prime.pos (by simp)⟩
  obtain ⟨hle, m, hm⟩ := crtExp_arith c hp2 e he
  simp only [crtEasy, if_neg h0, he, fpExpNat_of_le c h a e ha hle]
  refine ⟨_, _, rfl, root_test (fun y => y * y % c.p * y % c.p) (Nat.mod_lt _ h.prime.pos) ?_⟩
  rintro ⟨y, hy⟩
  have hcast : (a : ZMod c.p) = (y : ZMod c.p) ^ 3 := by
    rw [← hy, ZMod.natCast_mod, Nat.cast_mul, ZMod.natCast_mod, Nat.cast_mul]; ring
  have hy0 : (y : ZMod c.p) ≠ 0 := by
    intro hy0; rw [hy0, zero_pow (by decide), cast_eq_zero_iff_of_lt ha] at hcast; exact h0 hcast
  apply cube_of_cast ha
  -- 9e = m·(p − 1) + 3 and Fermat
  rw [cast_powmod, hcast, ← pow_mul, ← pow_mul, show 3 * (e * 3) = (c.p - 1) * m + 3 by rw [Nat.mul_comm (c.p - 1) m]; omega,
    pow_add, pow_mul, ZMod.pow_card_sub_one_eq_one hy0, one_pow, one_mul]

/-- the hypotheses are satisfiable: p = 13, R = 2^8, RLC_FP_BITS = 8, f = 2, z = 8 (8² = 64 ≡ −1) -/
example : ({ p := 13, m := 8, fb := 8, rinv := 3, width := 4, f := 2, z := 8 } : Ctx).WFsrt :=
  { prime := by decide, odd := by decide, ltR := by decide, rinv := by decide, fbits := by decide, width := by decide,
    fpos := by decide, fq := ⟨3, by decide, by decide⟩, zlt := by decide, zord := fun _ => by decide }

example : crtExp { p := 13, m := 8, fb := 8, rinv := 3 } = some 3 := by decide

end Relic.Props.C02
