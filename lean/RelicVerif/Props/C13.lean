/-
C13 — hashing to groups yields valid subgroup points per the documented map.

Specification: Spec/HashToCurve.lean (RFC 9380 hash_to_field, sgn0, simplified SWU, Shallue–van de Woestijne, iso_map,
clear_cofactor; SwiftEC; try-and-increment). Model of the C code: Model/EpMap.lean (TMPL_MAP_SSWU, TMPL_MAP_SVDW,
EP_MAP_APPLY_MAP, TMPL_MAP_HORNER / TMPL_MAP_ISOGENY_MAP, the a = 0 branch of ep_map_swift_impl).

What is proved here, for an ARBITRARY field F (no bound on anything) and for EVERY field element, under the contract
`Oracle` on is_square / sqrt (is_square decides `IsSquare`, sqrt returns a root of every square, non-square × non-square is
a square – the last holds in every finite field, `oracle_exists`) and under the conditions on the map constants that the
driver evaluates on every `ep_map_param` line for the constants READ from the running library:

* the point returned by each map satisfies the curve equation – exceptional inputs included (SSWU: Z²u⁴ + Zu² = 0;
  SvdW: (1 − u²g(Z))(1 + u²g(Z)) = 0); for SvdW and SwiftEC this contains the classical fact that one of the three
  candidates is an abscissa (identity `sw_key`);
* the C code equals the documented construction for every input (`sswuC_eq_sswu`, `svdwC_eq_svdwWith`, `swiftC_eq_swift`,
  `horner_eq_polyEval`, `isoC_eq_isoMap`);
* sign correction keeps the point on the curve; cofactor clearing lands in the r-torsion; try-and-increment terminates.
Determinism holds by construction: specification and model are functions of the input bytes alone.

* Edwards: Elligator 2 lands on the Montgomery curve for every u, the rational map lands on the twisted Edwards curve;
  binary curves: a solution of the quadratic gives a curve point, the half-trace is a solution when the trace vanishes.

Not theorems (class C, compared on the presented lines; see TRUSTED in tools/props/c13.py): the byte-level plumbing of the
entry points, the C code of ed_map_ell2_5mod8 and eb_map (no model: compared with the specification only), the group law
after the maps (C03), the field oracles (C02), expand_message_xmd (C14), "the isogeny maps curve points to curve points"
(evaluated on the presented points), r·P = O end to end (needs #E = h·r, C18).
-/
import RelicVerif.Lemmas.MapToCurve
import Mathlib.NumberTheory.LegendreSymbol.QuadraticChar.Basic
import Mathlib.Algebra.BigOperators.Group.Finset.Basic
import RelicVerif.Lemmas.CharTwo
import Mathlib.Algebra.Field.ZMod

namespace Relic.Props.C13
open Relic.Spec.H2C Relic.Model.EpMap Relic.Lemmas.MapToCurve

instance : Fact (Nat.Prime 7) := ⟨by decide⟩

variable {F : Type} [Field F] [DecidableEq F]
variable (isSq : F → Bool) (sqrt : F → F) (sgn0 : F → Bool)

/-! ### the oracle contract is satisfiable: every finite field -/

/-- in a finite field the product of two non-squares is a square (quadratic character) -/
theorem nonsq_mul_finite {K : Type} [Field K] [Fintype K] [DecidableEq K] (a b : K)
    (ha : ¬ IsSquare a) (hb : ¬ IsSquare b) : IsSquare (a * b) := by
  have ha0 : a ≠ 0 := fun h => ha (h ▸ IsSquare.zero)
  have hb0 : b ≠ 0 := fun h => hb (h ▸ IsSquare.zero)
  rw [← quadraticChar_one_iff_isSquare (mul_ne_zero ha0 hb0), map_mul,
    quadraticChar_neg_one_iff_not_isSquare.mpr ha, quadraticChar_neg_one_iff_not_isSquare.mpr hb]
  norm_num

/-- an is_square / sqrt pair satisfying the contract exists over every finite field -/
theorem oracle_exists {K : Type} [Field K] [Fintype K] [DecidableEq K] :
    ∃ (isSq : K → Bool) (sqrt : K → K), Oracle isSq sqrt := by
  classical
  refine ⟨fun a => decide (IsSquare a), fun a => if h : IsSquare a then Classical.choose h else 0, ?_, ?_, ?_⟩
  · intro a; simp
  · intro a h; simp only [dif_pos h]; exact (Classical.choose_spec h).symm
  · exact fun a b => nonsq_mul_finite a b

/-! ### simplified SWU (curves with a·b ≠ 0, or the isogenous curve) -/

/-- RFC 9380 §6.6.2: for every u – also those with Z²u⁴ + Zu² = 0 – the output satisfies y² = x³ + a x + b, given Z a non-square
    and g(B/(ZA)) a square (conditions 1 and 4 on Z) -/
theorem sswu_on_curve (H : Oracle isSq sqrt) (a b Z : F) (ha : a ≠ 0) (hZ : ¬ IsSquare Z)
    (hZ4 : IsSquare (gF a b (b * (Z * a)⁻¹))) (u : F) :
    (sswu (fOps isSq sqrt sgn0) ⟨a, b⟩ Z u).2 * (sswu (fOps isSq sqrt sgn0) ⟨a, b⟩ Z u).2 =
      gF a b (sswu (fOps isSq sqrt sgn0) ⟨a, b⟩ Z u).1 := by
  rw [sswu_unfold]
  exact pickSq_on_curve sgn0 H _ _ _ u (sswu_x2_isSquare H.nonsq_mul a b Z ha hZ hZ4 u)

/-- TMPL_MAP_SSWU + the sign correction of ep_map_sswum_impl = map_to_curve_simple_swu, for every t, with the context
    constants c0 = −b/a, c2 = a, c3 = b, u = Z (the denominator patch and the shortcut u³t⁶·g(x1) for g(x2) are sound) -/
theorem sswuC_eq_sswu (H : Oracle isSq sqrt) (a b Z c0 c1 c4 : F) (ha : a ≠ 0) (hZ : ¬ IsSquare Z)
    (hZ4 : IsSquare (gF a b (b * (Z * a)⁻¹))) (hc0 : c0 * a + b = 0) (t : F) :
    applySign (fOps isSq sqrt sgn0) t (sswuC (fOps isSq sqrt sgn0) ⟨Z, c0, c1, a, b, c4⟩ t) =
      sswu (fOps isSq sqrt sgn0) ⟨a, b⟩ Z t := by
  rw [applySign_eq, sswu_unfold]
  unfold sswuC
  rw [sswuPre_eq isSq sqrt sgn0 H a b Z c0 c1 c4 ha hZ hZ4 hc0 t]
  rfl

/-- the hypotheses are satisfiable: y² = x³ + x + 6 over GF(7) with Z = 3 -/
example : (1 : ZMod 7) ≠ 0 ∧ ¬ IsSquare (3 : ZMod 7) ∧ IsSquare (gF (1 : ZMod 7) 6 (6 * (3 * 1)⁻¹)) := by
  have hx : (6 : ZMod 7) * (3 * 1)⁻¹ = 2 := by
    rw [← div_eq_mul_inv, div_eq_iff (by decide)]; decide
  refine ⟨by decide, by decide, ?_⟩
  rw [hx]; exact ⟨3, by decide⟩

/-! ### Shallue–van de Woestijne (curves with a·b = 0) -/

/-- RFC 9380 §6.6.1 with any constants c1..c4 satisfying the defining equations (what the driver checks of
    ctx->ep_map_c[0..3]): for every u – also the exceptional ones – the output satisfies the curve equation (contains: one of
    g(x1), g(x2), g(x3) is a square) -/
theorem svdwWith_on_curve (H : Oracle isSq sqrt) (a b Z : F) (K : SvdwConst F) (ok : SvdwOk a b K.c1 K.c2 K.c3 K.c4 Z) (u : F) :
    (svdwWith (fOps isSq sqrt sgn0) ⟨a, b⟩ K Z u).2 * (svdwWith (fOps isSq sqrt sgn0) ⟨a, b⟩ K Z u).2 =
      gF a b (svdwWith (fOps isSq sqrt sgn0) ⟨a, b⟩ K Z u).1 := by
  rw [svdwWith_unfold]
  exact pickSq_on_curve sgn0 H _ _ _ u fun ⟨h1, h2⟩ => svdw_third H.nonsq_mul a b K.c1 K.c2 K.c3 K.c4 Z u ok h1 h2

/-- the same with c1..c4 derived from Z -/
theorem svdw_on_curve (H : Oracle isSq sqrt) (a b Z : F) (h2 : (2 : F) ≠ 0) (hg : gF a b Z ≠ 0) (hd : 3 * Z ^ 2 + 4 * a ≠ 0)
    (hs : IsSquare (-gF a b Z * (3 * Z ^ 2 + 4 * a)))
    (hexc : IsSquare (gF a b Z) ∨ IsSquare (gF a b (-Z * (2 : F)⁻¹))) (u : F) :
    (svdw (fOps isSq sqrt sgn0) ⟨a, b⟩ Z u).2 * (svdw (fOps isSq sqrt sgn0) ⟨a, b⟩ Z u).2 =
      gF a b (svdw (fOps isSq sqrt sgn0) ⟨a, b⟩ Z u).1 := by
  unfold svdw
  exact svdwWith_on_curve isSq sqrt sgn0 H a b Z _ (svdwConst_ok isSq sqrt sgn0 H a b Z h2 hg hd hs hexc) u

/-- TMPL_MAP_SVDW + the sign correction = map_to_curve_svdw with the context's constants, for every t, unconditionally
    (the inv0 emulation by substitution of g(u) is exact) -/
theorem svdwC_eq_svdwWith (a b Z c0 c1 c2 c3 c4 : F) (t : F) :
    applySign (fOps isSq sqrt sgn0) t (svdwC (fOps isSq sqrt sgn0) a b ⟨Z, c0, c1, c2, c3, c4⟩ t) =
      svdwWith (fOps isSq sqrt sgn0) ⟨a, b⟩ ⟨c0, c1, c2, c3⟩ Z t := by
  rw [applySign_eq, svdwWith_unfold]
  unfold svdwC
  rw [svdwPre_eq]
  rfl

/-- the hypotheses are satisfiable: y² = x³ + 1 over GF(7) with Z = 1 -/
example : (2 : ZMod 7) ≠ 0 ∧ gF (0 : ZMod 7) 1 1 ≠ 0 ∧ (3 * (1 : ZMod 7) ^ 2 + 4 * 0 ≠ 0) ∧
    IsSquare (-gF (0 : ZMod 7) 1 1 * (3 * 1 ^ 2 + 4 * 0)) ∧ IsSquare (gF (0 : ZMod 7) 1 1) := by
  refine ⟨by decide, by decide, by decide, ⟨1, by decide⟩, ⟨3, by decide⟩⟩

/-! ### SwiftEC (a = 0) -/

/-- whenever the parameters are not exceptional, the SwiftEC output satisfies the curve equation (contains: one of the three
    candidates is an abscissa) -/
theorem swift_on_curve (H : Oracle isSq sqrt) (b sm3 u t : F) (s : Bool) (h2 : (2 : F) ≠ 0) (hs : sm3 * sm3 = -3)
    (xy : F × F) (h : swift (fOps isSq sqrt sgn0) ⟨0, b⟩ sm3 u t s = some xy) :
    xy.2 * xy.2 = gF 0 b xy.1 := by
  unfold swift at h
  rw [swiftX_unfold] at h
  split_ifs at h with hden
  simp only [Option.some.injEq] at h
  subst h
  have hsq : IsSquare (gF 0 b (swiftPick isSq b (swiftCand b sm3 u t))) :=
    pickSq_isSquare H _ _ _ fun ⟨h3, h2'⟩ => swift_one_square H.nonsq_mul b sm3 u t h2 hs hden h3 h2'
  simp only [g_eq]
  have hy := H.sqrt_sq _ hsq
  exact (ite_neg_mul_self _ _).trans hy

/-- the a = 0 branch of ep_map_swift_impl = the SwiftEC specification for every (u, t, s); `none` = the exceptional
    parameters, for which the code sets the point at infinity -/
theorem swiftC_eq_swift (b tau u t : F) (s : Bool) (h2 : (2 : F) ≠ 0) :
    (swiftC (fOps isSq sqrt sgn0) b tau u t).map (fun c => swiftSelC (fOps isSq sqrt sgn0) 0 b c s) =
      swift (fOps isSq sqrt sgn0) ⟨0, b⟩ tau u t s := by
  unfold swift
  rw [swiftC_eq isSq sqrt sgn0 b tau u t h2, swiftX_unfold]
  split_ifs
  · rfl
  · simp only [Option.map_some, swiftSelC_eq, g_eq]
    rfl

/-! ### Edwards (Elligator 2 + rational map) and binary curves (quadratic of eb_map) -/

open Relic.Spec.H2CEd in
/-- RFC 9380 §6.7.1 Elligator 2: for every u the output satisfies t² = s³ + J s² + s, given only that Z is a non-square -/
theorem elligator2_on_curve (H : Oracle isSq sqrt) (J Z : F) (hZ : ¬ IsSquare Z) (u : F) :
    (elligator2 (fOps isSq sqrt sgn0) J Z u).2 * (elligator2 (fOps isSq sqrt sgn0) J Z u).2 =
      gMF J (elligator2 (fOps isSq sqrt sgn0) J Z u).1 := by
  have hs := H.sqrt_sq _ (pickSq_isSquare H (gMF J) [ell2X1 J Z u] _ (ell2_x2_isSquare H.nonsq_mul J Z hZ u))
  -- the abscissa is selected among x1 and x2 = −x1 − J, the ordinate is a root of its value with a sign that depends on the branch
  simp only [pickSq, ell2X1] at hs
  simp only [elligator2, gM_eq]
  simp only [fOps, decide_eq_true_eq]
  split_ifs at hs ⊢ <;> simpa only [neg_mul_neg] using hs

open Relic.Spec.H2CEd in
/-- Appendix D.1 of RFC 9380: the Montgomery → twisted Edwards map sends every point of t² = s³ + J s² + s (exceptional
    ones included) to a point of −x² + y² = 1 + d x² y², given c² = −(J + 2) and d = −(J − 2)/(J + 2) -/
theorem montToEd_on_curve (J c d s t : F) (hc : c * c = -(J + 2)) (hd : d * (J + 2) + (J - 2) = 0)
    (hcurve : t * t = gMF J s) :
    let vw := montToEd (fOps isSq sqrt sgn0) c (s, t)
    vw.2 * vw.2 - vw.1 * vw.1 = 1 + d * (vw.1 * vw.1) * (vw.2 * vw.2) := by
  intro vw
  simp only [vw, montToEd]
  simp only [fOps, Bool.or_eq_true, decide_eq_true_eq]
  by_cases hex : t = 0 ∨ s + 1 = 0
  · rw [if_pos hex]; ring
  · rw [if_neg hex]
    rw [not_or] at hex
    obtain ⟨ht, hs1⟩ := hex
    simp only
    unfold gMF at hcurve
    field_simp
    linear_combination (-(s ^ 2 * (s + 1) ^ 2 + d * (s ^ 2 * (s - 1) ^ 2))) * hc + (s ^ 2 * (s - 1) ^ 2) * hd + (-4 * s) * hcurve

/-- eb_map: a solution λ of λ² + λ = (x³ + a x² + b)/x² gives the curve point (x, λ x) -/
theorem eb_solution_on_curve (a b x l : F) (hx : x ≠ 0) (hl : l * l + l = (x ^ 3 + a * x ^ 2 + b) / (x * x)) :
    (l * x) * (l * x) + x * (l * x) = x ^ 3 + a * x ^ 2 + b :=
  Relic.Lemmas.MapToCurve.eb_solution_on_curve a b x l hx hl

/-- the half-trace solves the quadratic whenever the trace vanishes (characteristic 2, m = 2n + 1, c^(2^m) = c) -/
theorem halfTrace_solves {R : Type} [CommRing R] [CharP R 2] (c : R) (n : ℕ)
    (hfrob : c ^ (2 ^ (2 * n + 1)) = c) (htr : ∑ j ∈ Finset.range (2 * n + 1), c ^ (2 ^ j) = 0) :
    (∑ i ∈ Finset.range (n + 1), c ^ (4 ^ i)) ^ 2 + ∑ i ∈ Finset.range (n + 1), c ^ (4 ^ i) = c := by
  simp only [show ∀ i, (4 : ℕ) ^ i = 2 ^ (2 * i) from fun i => by rw [pow_mul]; rfl]
  rw [Relic.Lemmas.Char2.halfTrace_sq_add CharTwo.two_eq_zero, show 2 * n + 2 = (2 * n + 1) + 1 by ring, Finset.sum_range_succ,
    htr, hfrob, zero_add]

/-! ### sign, isogeny evaluation, cofactor, try-and-increment -/

/-- the sgn0 correction (y or −y) preserves the curve equation -/
theorem fixSign_on_curve (a b x y u : F) (h : y * y = gF a b x) :
    fixSign (fOps isSq sqrt sgn0) u y * fixSign (fOps isSq sqrt sgn0) u y = gF a b x := by
  rw [fixSign_sq]; exact h

/-- Horner's rule as coded in TMPL_MAP_HORNER evaluates the polynomial, for every coefficient list -/
theorem horner_eq_polyEval (cs : List F) (a : F) :
    horner (fOps isSq sqrt sgn0) cs a = polyEval (fOps isSq sqrt sgn0) cs a := by
  unfold horner
  rcases h : cs.reverse with _ | ⟨lead, rest⟩
  · have : cs = [] := by simpa using h
    subst this; rfl
  · simp only
    rw [foldl_horner]
    have : cs = rest.reverse ++ [lead] := by
      have := congrArg List.reverse h
      simpa using this
    rw [this]

/-- TMPL_MAP_ISOGENY_MAP (projective result) denotes iso_map's affine point, and Z = 0 exactly on iso_map's exceptional set -/
theorem isoC_eq_isoMap (I : Iso F) (xy : F × F) :
    let O := fOps isSq sqrt sgn0
    (isoMap O I xy = none ↔ (isoC O I xy).2.2 = 0) ∧
    ∀ q, isoMap O I xy = some q →
      q.1 = (isoC O I xy).1 * ((isoC O I xy).2.2)⁻¹ ∧ q.2 = (isoC O I xy).2.1 * ((isoC O I xy).2.2)⁻¹ := by
  intro O
  simp only [O, isoMap, isoC, horner_eq_polyEval]
  generalize polyEval (fOps isSq sqrt sgn0) I.xn xy.1 = nx
  generalize polyEval (fOps isSq sqrt sgn0) I.xd xy.1 = dx
  generalize polyEval (fOps isSq sqrt sgn0) I.yn xy.1 = ny
  generalize polyEval (fOps isSq sqrt sgn0) I.yd xy.1 = dy
  simp only [fOps, Bool.or_eq_true, decide_eq_true_eq]
  constructor
  · constructor
    · intro h
      split_ifs at h with h'
      rcases h' with h' | h'
      · rw [h', mul_zero]
      · rw [h', zero_mul]
    · intro h
      rcases mul_eq_zero.mp h with h' | h'
      · rw [if_pos (Or.inr h')]
      · rw [if_pos (Or.inl h')]
  · intro q hq
    split_ifs at hq with h'
    rw [not_or] at h'
    obtain ⟨hx, hy⟩ := h'
    have := Option.some.inj hq
    subst this
    constructor
    · simp only; field_simp
    · simp only; field_simp

/-- clear_cofactor: in a group of exponent h·r the multiple h·P lies in the r-torsion -/
theorem clear_cofactor_torsion {G : Type} [AddCommGroup G] (h r : ℕ) (P : G) (hP : (h * r) • P = 0) :
    r • (h • P) = 0 := by
  rw [← mul_smul, mul_comm]; exact hP

/-- every value the loop returns passed the test -/
theorem tryIncrement_sound (p a b fuel x r : Nat) (h : tryIncrement p a b fuel x = some r) : goodX p a b r := by
  induction fuel generalizing x with
  | zero => simp [tryIncrement] at h
  | succ n ih =>
    unfold tryIncrement at h
    simp only at h
    split_ifs at h with hg
    · have := Option.some.inj h; subst this; exact hg
    · exact ih _ h

/-- try-and-increment started at any residue terminates within p steps with an abscissa whose g-value is a non-zero square,
    as soon as one such residue exists (the generator of the group is one: checked on every context line) -/
theorem tryIncrement_terminates (p a b x0 y : Nat) (hx : x0 < p) (hy : y < p) (hg : goodX p a b y) :
    ∃ r, tryIncrement p a b p x0 = some r ∧ goodX p a b r := by
  have hp : 0 < p := by omega
  rcases h : tryIncrement p a b p x0 with _ | r
  · exfalso
    have := tryIncrement_none p a b hp p x0 hx h ((y + p - x0) % p) (Nat.mod_lt _ hp)
    rw [Nat.add_mod_mod, show x0 + (y + p - x0) = y + p by omega, Nat.add_mod_right, Nat.mod_eq_of_lt hy] at this
    exact this hg
  · exact ⟨r, rfl, tryIncrement_sound p a b p x0 r h⟩

end Relic.Props.C13
