/- C09, symbols and primality: theorems model = specification for bn_smb_jac and the primality tests bn_is_prime_basic / _rabin /
   _solov. -/
import RelicVerif.Lemmas.NtSmbPrime2
import RelicVerif.Lemmas.NtSmbTrue

namespace Relic.Props.C09
open Relic.Model

/-- The single-digit binary loop of bn_smb_jac (the `i == 1` path: swap with `t ^= n & d`, subtract and halve with
    `t ^= d ^ (d >> 1)`, strip `z` trailing zeros with `t ^= (d ^ (d >> 1)) & (z << 1)`, final `d == 1 ? 1 - (t & 2) : 0`),
    stated on unbounded naturals: for every n, every ODD d and every starting word t the result is
    (-1)^(bit 1 of t) · (n / d) — Mathlib's Jacobi symbol. -/
theorem smb_jac_single_exact (n d t : ℕ) (hd : d % 2 = 1) :
    NtSmb.jacSingle n d t = (if t.testBit 1 then -1 else 1) * jacobiSym (n : ℤ) d :=
  Relic.Lemmas.NtSmb.jacSingle_eq n d t hd

/-- with the initial t = 0 of bn_smb_jac: the loop returns the Jacobi symbol itself -/
theorem smb_jac_single_exact_zero (n d : ℕ) (hd : d % 2 = 1) : NtSmb.jacSingle n d 0 = jacobiSym (n : ℤ) d := by
  rw [smb_jac_single_exact n d 0 hd]; simp

/- Full statement (NOT proved), for the multi-digit path of bn_smb_jac:
   PROVED about one outer iteration: the cofactors never wrap and det = ± 2^s (smb_jac_inner_matrix); the matrix accumulated on the
   approximations moves the TRUE pair (t0, t1) so that the combinations are exactly divisible by 2^s and the t updates read low bits
   that agree with the true ones (smb_jac_inner_true, smb_jac_combination_exact); `t ^= t1->dp[0]` accounts for (-1 / t1) when t0
   came out negative (smb_jac_sign_repair).
   OPEN: the true pair is never negative in both components at a swap (needed for the reciprocity update on signed residues), the
   assembly of the per-iteration Jacobi invariant, and termination of the outer loop:

   theorem smb_jac_exact (w : ℕ) (a b : ℤ) (hw : 8 ≤ w) (hb : 0 < b) (hodd : b % 2 = 1) :
       NtSmb.jac w a b = some (jacobiSym a b.toNat)
-/

/-- bn_smb_jac (the whole model: a mod b, outer loop, single-digit path) returns the Jacobi symbol (a / b) for every integer a and
    every odd positive b that fits one digit of width w. -/
theorem smb_jac_exact_partial (w : ℕ) (a b : ℤ) (hw : 0 < w) (hb : 0 < b) (hodd : b % 2 = 1) (hlt : b < 2 ^ w) :
    NtSmb.jac w a b = some (jacobiSym a b.toNat) := by
  open Relic.Lemmas.NtSmb NtSmb in
  lift b to ℕ using hb.le
  obtain ⟨r, hr⟩ := Int.eq_ofNat_of_zero_le (Int.emod_nonneg a hb.ne')
  have hrb : r < b := by exact_mod_cast hr ▸ Int.emod_lt_of_pos a hb
  have hb1 : b < 2 ^ w := by exact_mod_cast hlt
  unfold jac jacT
  rw [hr, Int.toNat_natCast, Int.toNat_natCast, outer_one_digit _ 0 _ (hrb.trans hb1) hb1, smb_jac_single_exact_zero r b (by omega),
    ← hr, ← jacobiSym.mod_left]

/-- the error test is exactly "b even or negative" -/
theorem smb_jac_err_iff (b : ℤ) : NtSmb.jacErr b = true ↔ (b % 2 = 0 ∨ b < 0) := by
  simp [NtSmb.jacErr]

example : (0 : ℤ) < 15 ∧ (15 : ℤ) % 2 = 1 ∧ (15 : ℤ) < 2 ^ 8 := by decide

/-- the square-and-multiply used for bn_mxp inside the model is the mathematical power -/
theorem prime_rabin_powMod (b e n : ℕ) : NtSmbPrime.powMod b e n = b ^ e % n :=
  Relic.Lemmas.NtSmbPrime.powMod_eq b e n

/-- bn_is_prime_rabin accepts EVERY prime (no further hypothesis: the primes that occur among the bases, and the primes below them,
    are accepted through the early exit `base ≥ n - 1`, all others by Fermat + "the square roots of 1 in a field are ±1"). -/
theorem prime_rabin_complete (n : ℕ) (hp : n.Prime) : NtSmbPrime.rabin (n : ℤ) = true := by
  open Relic.Lemmas.NtSmbPrime NtSmbPrime in
  have h2 := hp.two_le
  unfold rabin
  rw [if_neg (by omega)]
  split
  · rfl
  · next hne =>
    have hn2 : n ≠ 2 := fun h => hne (by rw [h]; rfl)
    have hodd : n % 2 = 1 := hp.mod_two_eq_one_iff_ne_two.2 hn2
    rw [if_neg (by omega)]
    have hn : 2 < n := by omega
    have : Fact n.Prime := ⟨hp⟩
    simp only [Int.toNat_natCast]
    -- the fuel is bitLen (n-1) + 1 = f + 1 and n - 1 is even and non-zero: at least one halving
    have hsp := split_spec (bitLen (n - 1)) 1 ((n - 1) / 2)
    have hstep : split (bitLen (n - 1) + 1) 0 (n - 1) = split (bitLen (n - 1)) 1 ((n - 1) / 2) := by
      rw [split, if_pos ⟨by omega, by omega⟩]
    rw [hstep]
    generalize split (bitLen (n - 1)) 1 ((n - 1) / 2) = sr at hsp
    obtain ⟨s, r⟩ := sr
    simp only at hsp ⊢
    apply basesLoop_prime hn hsp.1 (by rw [← hsp.2]; omega)
    intro t ht
    exact primesTab_pos t (List.mem_of_mem_take ht)

/-- inputs below 2 and even inputs other than 2 are rejected -/
theorem prime_rabin_small (a : ℤ) (h : a < 2 ∨ (a ≠ 2 ∧ a % 2 = 0)) : NtSmbPrime.rabin a = false := by
  unfold NtSmbPrime.rabin
  rcases h with h | ⟨h1, h2⟩
  · simp [h]
  · by_cases h0 : a < 2
    · simp [h0]
    · simp [h0, h1, h2]

/-- the table transcribed in Model/NtSmbPrimeTab.lean consists of numbers ≥ 2 and its first 48 entries are the bases table of the Rabin model -/
theorem prime_table_facts : (∀ p ∈ NtSmbPrime.primesAll, 2 ≤ p) ∧ NtSmbPrime.primesTab = NtSmbPrime.primesAll.take 48 :=
  ⟨Relic.Lemmas.NtSmbPrime.primesAll_ge_two, Relic.Lemmas.NtSmbPrime.primesTab_eq_take⟩

/-- bn_is_prime_basic (trial division by the whole table, either word size) accepts every prime -/
theorem prime_basic_complete (w n : ℕ) (hp : n.Prime) : NtSmbPrime.basic w (n : ℤ) = true := by
  open Relic.Lemmas.NtSmbPrime NtSmbPrime in
  rw [basic_natCast w hp.one_lt.ne']
  exact basicLoop_prime hp _ (fun p hp' => primesAll_ge_two p (List.mem_of_mem_take hp'))

/-- a rejection by bn_is_prime_basic is always right: for n ≥ 2 it exhibits a proper divisor -/
theorem prime_basic_reject_sound (w n : ℕ) (hn : 2 ≤ n) (h : NtSmbPrime.basic w (n : ℤ) = false) : ∃ p, 2 ≤ p ∧ p < n ∧ p ∣ n := by
  open Relic.Lemmas.NtSmbPrime NtSmbPrime in
  rw [basic_natCast w (by omega)] at h
  obtain ⟨p, hp, hmod, hne⟩ := basicLoop_false _ h
  have hp2 := primesAll_ge_two p (List.mem_of_mem_take hp)
  have hd : p ∣ n := Nat.dvd_of_mod_eq_zero hmod
  have hle : p ≤ n := Nat.le_of_dvd (by omega) hd
  exact ⟨p, hp2, by omega, hd⟩

/-- bn_is_prime (trial division, then Miller–Rabin) accepts every prime -/
theorem prime_isprime_complete (w n : ℕ) (hp : n.Prime) : NtSmbPrime.isPrime w (n : ℤ) = true := by
  open Relic.Lemmas.NtSmbPrime NtSmbPrime in
  unfold isPrime
  simp [prime_basic_complete w n hp, prime_rabin_complete n hp]

/-- bn_is_prime_solov accepts every prime n > 2 WHATEVER the bases are (any list of bases in (0, n), any length), provided the symbol
    function J (bn_smb_jac in the code) returns the Jacobi symbol for the modulus n — Euler's criterion. -/
theorem prime_solov_complete (n : ℕ) (hp : n.Prime) (hn : 2 < n) (J : ℤ → ℤ → ℤ) (hJ : ∀ t : ℕ, J t n = jacobiSym (t : ℤ) n)
    (bases : List ℕ) (hb : ∀ t ∈ bases, 0 < t ∧ t < n) : NtSmbPrime.solov J n bases = true := by
  induction bases with
  | nil => rfl
  | cons t ts ih =>
    unfold NtSmbPrime.solov
    rw [Relic.Lemmas.NtSmbPrime.solovRound_prime hp hn J (hJ t) (hb t (by simp)).1 (hb t (by simp)).2]
    simp only [if_true]
    exact ih (fun x hx => hb x (by simp [hx]))

/-- with the model of bn_smb_jac plugged in: unconditional for primes that fit one digit (for longer primes the hypothesis of
    `prime_solov_complete` is the open statement `smb_jac_exact`) -/
theorem prime_solov_complete_one_digit (w n : ℕ) (hw : 0 < w) (hp : n.Prime) (hn : 2 < n) (hlt : n < 2 ^ w)
    (bases : List ℕ) (hb : ∀ t ∈ bases, 0 < t ∧ t < n) :
    NtSmbPrime.solov (fun t m => (NtSmb.jac w t m).getD 0) n bases = true := by
  apply prime_solov_complete n hp hn _ _ bases hb
  intro t
  have hodd : n % 2 = 1 := hp.mod_two_eq_one_iff_ne_two.2 (by omega)
  have := smb_jac_exact_partial w (t : ℤ) (n : ℤ) hw (by exact_mod_cast hp.pos) (by exact_mod_cast hodd) (by exact_mod_cast hlt)
  simp only [this, Option.getD_some, Int.toNat_natCast]

/-- The approximation loop of bn_smb_jac never wraps and records a 2^s-unimodular matrix: for every digit width w ≥ 4, every approximation
    pair (n, d) and every t, after the s = w/2 - 2 steps from the identity all four cofactors lie in [-2^s, 2^s] (so every `(dig_t)ci << z`,
    `ci += ci`, `ai - ci` is exact in dis_t) and ai·di - bi·ci = ± 2^s.  (General form for any start state: Relic.Lemmas.NtSmb.inner_bd_det, in Lemmas/NtSmbInner.lean.) -/
theorem smb_jac_inner_matrix (w n d t : ℕ) (hw : 4 ≤ w) :
    let st := NtSmb.inner w (w / 2 - 2) (w / 2 - 2) { n := n, d := d, t := t, ai := 1, bi := 0, ci := 0, di := 1, swapped := false }
    (-(2 : ℤ) ^ (w / 2 - 2) ≤ st.ai ∧ st.ai ≤ 2 ^ (w / 2 - 2) ∧ -(2 : ℤ) ^ (w / 2 - 2) ≤ st.bi ∧ st.bi ≤ 2 ^ (w / 2 - 2) ∧
     -(2 : ℤ) ^ (w / 2 - 2) ≤ st.ci ∧ st.ci ≤ 2 ^ (w / 2 - 2) ∧ -(2 : ℤ) ^ (w / 2 - 2) ≤ st.di ∧ st.di ≤ 2 ^ (w / 2 - 2)) ∧
    (st.ai * st.di - st.bi * st.ci = 2 ^ (w / 2 - 2) ∨ st.ai * st.di - st.bi * st.ci = -2 ^ (w / 2 - 2)) := by
  open Relic.Lemmas.NtSmb NtSmb in
  have := inner_bd_det w (w / 2 - 2) (w / 2 - 2) 0 _ (le_refl _) (by omega) (Bd.identity n d t)
  have hd : det { n := n, d := d, t := t, ai := 1, bi := 0, ci := 0, di := 1, swapped := false } = 1 := by
    unfold det
    dsimp only
    omega
  rwa [hd, mul_one, Nat.zero_add] at this

/-- PARITY AGREEMENT + EXACT DIVISIBILITY, general form: if the cofactors are within ±2^k, the combinations of the true pair (X, Y) equal
    2^k·(n - 2^m c), 2^k·(d - 2^m e) (the approximation words agree with the true values in their low m bits) and i ≤ m steps are made
    (k + i + 2 ≤ w), then afterwards the combinations equal 2^(k+i)·(n' - 2^(m-i) c'), 2^(k+i)·(d' - 2^(m-i) e'): divisible by the power of two
    consumed, quotients agreeing with the new approximation words in the low m - i bits; d' stays odd. -/
theorem smb_jac_inner_true (w : ℕ) (X Y : ℤ) (fuel i k m : ℕ) (st : NtSmb.Inner) (hf : i ≤ fuel) (hw : k + i + 2 ≤ w) (him : i ≤ m)
    (hb : Relic.Lemmas.NtSmb.Bd (2 ^ k) st) (hinv : Relic.Lemmas.NtSmb.TInv X Y k m st) :
    Relic.Lemmas.NtSmb.Bd (2 ^ (k + i)) (NtSmb.inner w fuel i st) ∧ Relic.Lemmas.NtSmb.TInv X Y (k + i) (m - i) (NtSmb.inner w fuel i st) :=
  Relic.Lemmas.NtSmb.inner_TInv w X Y fuel i k m st hf hw him hb hinv

/-- the approximation words carry the exact low half digit of the true values -/
theorem smb_jac_approx_low (w t0 t1 i : ℕ) :
    (NtSmb.approx w t0 t1 i).1 % 2 ^ (w / 2) = t0 % 2 ^ (w / 2) ∧ (NtSmb.approx w t0 t1 i).2.1 % 2 ^ (w / 2) = t1 % 2 ^ (w / 2) := by
  open Relic.Lemmas.NtSmb NtSmb in
  have hdvd : 2 ^ (w / 2) ∣ 2 ^ w := Nat.pow_dvd_pow 2 (Nat.div_le_self w 2)
  have hd0 : ∀ x, dig w x 0 % 2 ^ (w / 2) = x % 2 ^ (w / 2) := by
    intro x; unfold dig; simp [Nat.mod_mod_of_dvd _ hdvd]
  unfold approx
  simp only []
  exact ⟨by rw [masks_low, hd0], by rw [masks_low, hd0]⟩

/-- One outer iteration of bn_smb_jac on a true pair (t0, t1) with t1 odd (w ≥ 4): with (n, d) = the approximation words the model builds
    (`approx`: exact low half digit) and st = the state after the s = w/2 - 2 steps,
      ai·t0 + bi·t1 = 2^s · (st.n - 2^(w/2 - s)·c)   and   ci·t0 + di·t1 = 2^s · (st.d - 2^(w/2 - s)·e),   st.d odd:
    both combinations are EXACTLY divisible by 2^s (the bn_rsh by s loses nothing) and the quotients — the next true pair up to sign —
    agree with the final approximation words modulo 2^(w/2 - s) = 4; in particular the next t1 is odd. -/
theorem smb_jac_combination_exact (w t0 t1 i t : ℕ) (hw : 4 ≤ w) (h1 : t1 % 2 = 1) :
    let st := NtSmb.inner w (w / 2 - 2) (w / 2 - 2)
      { n := (NtSmb.approx w t0 t1 i).1, d := (NtSmb.approx w t0 t1 i).2.1, t := t, ai := 1, bi := 0, ci := 0, di := 1, swapped := false }
    ∃ c e : ℤ, st.ai * (t0 : ℤ) + st.bi * (t1 : ℤ) = 2 ^ (w / 2 - 2) * ((st.n : ℤ) - 2 ^ (w / 2 - (w / 2 - 2)) * c) ∧
               st.ci * (t0 : ℤ) + st.di * (t1 : ℤ) = 2 ^ (w / 2 - 2) * ((st.d : ℤ) - 2 ^ (w / 2 - (w / 2 - 2)) * e) ∧ st.d % 2 = 1 := by
  open Relic.Lemmas.NtSmb NtSmb in
  obtain ⟨hn, hd⟩ := smb_jac_approx_low w t0 t1 i
  obtain ⟨c, hc⟩ := exists_of_mod_two_pow_eq hn
  obtain ⟨e, he⟩ := exists_of_mod_two_pow_eq hd
  have hdodd : (approx w t0 t1 i).2.1 % 2 = 1 := by
    have hdvd : 2 ∣ 2 ^ (w / 2) := dvd_pow_self 2 (by omega)
    rw [← Nat.mod_mod_of_dvd _ hdvd, hd, Nat.mod_mod_of_dvd _ hdvd, h1]
  have := inner_TInv w (t0 : ℤ) (t1 : ℤ) (w / 2 - 2) (w / 2 - 2) 0 (w / 2) _ (le_refl _) (by omega) (by omega)
    (Bd.identity (approx w t0 t1 i).1 (approx w t0 t1 i).2.1 t) ⟨c, e, by rw [hc]; ring, by rw [he]; ring, hdodd⟩
  rw [Nat.zero_add] at this
  exact this.2

/-- SIGN REPAIR: for odd d and digit width ≥ 2, (-x / d) = (-1)^(bit 1 of d mod 2^w) · (x / d) — what `t ^= t1->dp[0]` records when t0 came
    out negative (and negating t1 needs no record since the symbol is taken with |t1|). -/
theorem smb_jac_sign_repair (w : ℕ) (hw : 2 ≤ w) (x : ℤ) (d : ℕ) (hd : d % 2 = 1) :
    jacobiSym (-x) d = (if (d % 2 ^ w).testBit 1 then -1 else 1) * jacobiSym x d := by
  open Relic.Lemmas.NtSmb in
  change _ = sgn (d % 2 ^ w) * _
  rw [jacobiSym.neg x (Nat.odd_iff.mpr hd), sgn_mod_two_pow hw, sgn_eq_χ₄ hd]

end Relic.Props.C09
