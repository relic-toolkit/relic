/-
C08 — No call reads or writes outside its objects; overflow is reported, not performed.

What a theorem can carry here is the *length bookkeeping*: for the modelled functions, a result either fits the
storage it is written to or the function reports an error.  The individual bounds are in Lemmas/Bounds.lean
(counted as obligations of this property); the first three statements below are the summary forms.  Memory safety of the C
code itself (no access outside an object, no use of freed or uninitialised storage) is observed with sanitizer
builds and guard words on the presented lines, not proved — see tools/props/c08.py.
-/
import RelicVerif.Lemmas.Bounds
import RelicVerif.Model.ParamSel

namespace Relic.Props.C08
open Relic.Model Relic.Model.Rec Relic.Lemmas.Bounds

variable (cfg : Cfg)

/-- integer arithmetic: a successful result never has more digits than the configured capacity (a zero result is the
    single digit 0, hence `max … 1`; for a positive capacity this is the capacity itself) -/
theorem bn_results_fit (a b c : Bn) (ha : a.used ≤ cfg.cap) (hb : b.used ≤ cfg.cap) :
    (bnAdd cfg a b = some c → c.used ≤ max cfg.cap 1) ∧ (bnSub cfg a b = some c → c.used ≤ max cfg.cap 1) ∧
    (bnMulBasic cfg a b = some c → c.used ≤ max cfg.cap 1) ∧ (bnMulComba cfg a b = some c → c.used ≤ max cfg.cap 1) :=
  ⟨bnAdd_fits cfg a b c ha hb, bnSub_fits cfg a b c ha hb, bnMulBasic_fits cfg a b c, bnMulComba_fits cfg a b c⟩

/-- scalar recodings: a successful recoding never produces more digits than the caller's buffer length -/
theorem recodings_fit (cap k n w : Nat) (hw : 0 < w) (ds : List Int) :
    (recWin cap k w = some ds → ds.length ≤ cap) ∧ (recNaf cap k w = some ds → ds.length ≤ cap) ∧
    (recReg cap k n w = some ds → ds.length ≤ cap) ∧ (recSlw cap k w = some ds → ds.length ≤ cap) :=
  ⟨recWin_fits cap k w hw ds, recNaf_fits cap k w ds, recReg_fits cap k n w ds, recSlw_fits cap k w hw ds⟩

/-- joint sparse form: both rows together fit the caller's buffer (the defect repaired by 800d2e7 made this false) -/
theorem jsf_fits (cap k l : Nat) (a0 a1 : List Int) (h : recJsf cap k l = some (a0, a1)) : a0.length + a1.length ≤ cap :=
  (recJsf_fits_both cap k l a0 a1 h).1

/-! ### "an unsupported parameter is reported through the error mechanism" -/
open Relic.Model.Param in
/-- an identifier without an entry in the compiled-in field table is reported and leaves the installed field as it was -/
theorem unsupported_field_reported (fs : List FieldParam) (st : FieldSel) (id : Nat) (h : ∀ f ∈ fs, f.id ≠ id) :
    selectField fs st id = (st, false) := by
  unfold selectField
  have : fs.find? (·.id == id) = none := by
    rw [List.find?_eq_none]; intro f hf; simpa using h f hf
  rw [this]

open Relic.Model.Param in
/-- an accepted identifier is the one the getter reports afterwards, together with the prime of *its* table entry -/
theorem supported_field_selected (fs : List FieldParam) (st st' : FieldSel) (id : Nat) (h : selectField fs st id = (st', true)) :
    st'.id = id ∧ ∃ f ∈ fs, f.id = id ∧ st'.prime = f.prime := by
  unfold selectField at h
  split at h
  · next f hf =>
    have hm := List.mem_of_find?_eq_some hf
    have hp := List.find?_some hf
    simp only [Prod.mk.injEq, and_true] at h
    subst h
    exact ⟨rfl, f, hm, by simpa using hp, rfl⟩
  · simp at h

open Relic.Model.Param in
/-- the same for curves: no table entry → reported, nothing installed -/
theorem unsupported_curve_reported (fs : List FieldParam) (cs : List CurveParam) (st : CurveSel) (id : Nat)
    (h : ∀ c ∈ cs, c.id ≠ id) : selectCurve fs cs st id = (st, false) := by
  unfold selectCurve
  have : cs.find? (·.id == id) = none := by
    rw [List.find?_eq_none]; intro c hc; simpa using h c hc
  rw [this]

/-- premises satisfiable: a one-entry table rejects every other identifier and accepts its own -/
example : Relic.Model.Param.selectField [{ name := "X", id := 7, kind := .literal 13, sps := [] }] ⟨7, 13⟩ 8 = (⟨7, 13⟩, false) ∧
    Relic.Model.Param.selectField [{ name := "X", id := 7, kind := .literal 13, sps := [] }] ⟨0, 0⟩ 7 = (⟨7, 13⟩, true) := by
  constructor <;> rfl

end Relic.Props.C08
