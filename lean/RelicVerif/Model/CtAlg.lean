/-
C20, second half: the ladder and regular-recoding algorithms as *instrumented* models.  The models below mirror
the C loops statement by statement (conditional swaps and masked table scans included) over the abstract group
operations of Model/MulAlg.lean and append one token per group-level call to a log:

  A add   D dbl   N neg   U sub   Z norm   B blind   T table   P psi (endomorphism)
  s dv_swap_sec   c fp_copy_sec / dv_copy_sec (masked copy)   r regular recoding   g GLV decomposition
  M multiply   Q square   R reduce   (integer / field exponentiation)

Lemmas/CtAlg.lean and Props/C20.lean prove (i) the value computed by the instrumented model is the value of the un-instrumented
algorithm model of C03 (`mulLadder`, `mulReg`, which are proved to return k•P), and (ii) the log is a function of
the public lengths only.  The harness records the same tokens from the real library (linker-level interposition
of the group-level functions, harness/ops_ct.c) and the driver compares them per line.
-/
import RelicVerif.Model.MulAlg

namespace Relic.Model.CtAlg
open Relic.Model.MulAlg

variable {G : Type}

abbrev Log := List Char

/-- conditional swap of two values: what `dv_swap_sec` on every coordinate does -/
def cswap (b : Bool) (x y : G) : G × G := if b then (y, x) else (x, y)
/-- masked copy: `fp_copy_sec(dst, src, b)` on every coordinate -/
def ccopy (b : Bool) (dst src : G) : G := if b then src else dst

/-- ep_mul_monty after the scalar has been normalised to l (bit `bits` set; the masked selection between l + n and
    l + 2n is the leading 's'): `coords` = number of coordinates
    swapped per conditional swap (3 for x, y, z).  `bs` = the bits below the top one, most significant first. -/
def ladderI (o : Ops G) (coords : Nat) (p : G) (bs : List Bool) : G × Log :=
  let sw := List.replicate coords 's'
  let init : (G × G) × Log := ((p, o.dbl p), ['s', 'Z', 'D', 'B', 'B'])
  let fin := bs.foldl (fun (st : (G × G) × Log) b =>
    let (t0, t1) := cswap (!b) st.1.1 st.1.2
    let t0 := o.add t0 t1
    let t1 := o.dbl t1
    let (t0, t1) := cswap (!b) t0 t1
    ((t0, t1), st.2 ++ sw ++ ['A', 'D'] ++ sw)) init
  (fin.1.1, fin.2 ++ ['Z'])

/-- the log of the ladder as a function of public data only -/
def ladderLog (coords nbits : Nat) : Log :=
  ['s', 'Z', 'D', 'B', 'B'] ++ (List.replicate nbits (List.replicate coords 's' ++ ['A', 'D'] ++ List.replicate coords 's')).flatten ++ ['Z']

/-- masked scan of the whole table for entry `idx` (every entry is touched; `cpe` masked copies per entry) -/
def scanI (tab : List G) (dflt : G) (idx : Nat) (cpe : Nat) : G × Log :=
  ((List.range tab.length).foldl (fun u j => ccopy (j == idx) u (tab.getD j dflt)) dflt,
   (List.replicate tab.length (List.replicate cpe 'c')).flatten)

/-- ep_mul_reg_imp: table, recoding, then per digit (w-1) doublings, a masked table scan, a masked negation and
    one addition; finally the masked correction for an even scalar, normalisation and the masked sign -/
def regI (o : Ops G) (tab : List G) (dflt : G) (w cpe : Nat) (reg : List Int) (even : Bool) (p : G) : G × Log :=
  let fin := reg.reverse.foldl (fun (st : G × Log) (d : Int) =>
    let r := dblN o (w - 1) st.1
    let (u, lg) := scanI tab dflt (d.natAbs / 2) cpe
    let v := o.neg u
    let u := ccopy (decide (d < 0)) u v
    (o.add r u, st.2 ++ List.replicate (w - 1) 'D' ++ lg ++ ['N', 'c', 'A'])) (o.zero, ['T', 'r'])
  let u := o.sub fin.1 p
  let r := ccopy even fin.1 u
  (r, fin.2 ++ ['U', 'c', 'c', 'c', 'Z', 'N', 'c'])

def regLog (w cpe tabLen ndigits : Nat) : Log :=
  ['T', 'r'] ++ (List.replicate ndigits (List.replicate (w - 1) 'D' ++ (List.replicate tabLen (List.replicate cpe 'c')).flatten ++ ['N', 'c', 'A'])).flatten
    ++ ['U', 'c', 'c', 'c', 'Z', 'N', 'c']

/-- ep_mul_reg_glv: as above with two sub-scalars sharing the doublings; per digit: scan (2·cpe copies per
    entry), N c A for the first, P N c A for the second; then two masked corrections -/
def regGlvLog (w cpe tabLen ndigits : Nat) : Log :=
  ['g', 'Z', 'N', 'c', 'T', 'r', 'r'] ++
  (List.replicate ndigits (List.replicate (w - 1) 'D' ++ (List.replicate tabLen (List.replicate (2 * cpe) 'c')).flatten ++
     ['N', 'c', 'A', 'P', 'N', 'c', 'A'])).flatten ++
  ['U', 'c', 'c', 'c', 'P', 'N', 'c', 'U', 'c', 'c', 'c', 'Z']

/-- bn_mxp_monty / fp_exp_monty / fb_exp_monty: per exponent bit  swap, multiply(+reduce), square(+reduce), swap -/
def expLadderI (mul : G → G → G) (one a : G) (bs : List Bool) (perBit : Log) : G × Log :=
  let fin := bs.foldl (fun (st : (G × G) × Log) b =>
    let (t0, t1) := cswap (!b) st.1.1 st.1.2
    let t0 := mul t0 t1
    let t1 := mul t1 t1
    let (t0, t1) := cswap (!b) t0 t1
    ((t0, t1), st.2 ++ perBit)) ((one, a), [])
  (fin.1.1, fin.2)

def expLadderLog (nbits : Nat) (perBit : Log) : Log := (List.replicate nbits perBit).flatten

end Relic.Model.CtAlg
