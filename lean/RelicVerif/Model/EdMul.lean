/-
Scalar multiplications of src/ed/relic_ed_mul.c, relic_ed_mul_fix.c, relic_ed_mul_sim.c over an arbitrary carrier with
explicit operations. The loops are the ones of Model/MulAlg.lean (the ed_* routines were cloned from the ep_* ones); this
file mirrors what is around them:

* like the ep_* originals, every routine whose recoding array / precomputed table is sized for scalars below the group
  order first reduces the scalar: m = bn_mod(k, r), the non-negative residue — the sign of k is folded in
  (ed_mul_lwreg: |k| mod r, parity of that, sign applied at the end). [/repo fixes for findings C17-F1/F2/F5.]
  ed_mul_basic and ed_mul_monty size their recoding by bn_bits(k) and work on |k| itself, sign at the end;
* `none` is the ERR_NO_BUFFER a recoding throws when its argument does not fit the fixed-size array of the C code
  (Lemmas/EdMul.lean: never, as long as r < 2^RLC_FP_BITS);
* the early exits `k = 0 ∨ P = O ⇒ O` come before everything else;
* ed_mul_monty starts from (O, P) and walks all bits of |k|.
-/
import RelicVerif.Model.MulAlg
import RelicVerif.Model.Rec
import RelicVerif.Model.EpMul

namespace Relic.Model.EdMul
open Relic.Model.MulAlg Relic.Model.Rec

variable {G : Type}

/-- the compile-time constants the routines depend on -/
structure Par where
  fpBits : Nat     -- RLC_FP_BITS
  width : Nat      -- RLC_WIDTH
  depth : Nat      -- RLC_DEPTH
  ord : Nat        -- the group order r (ed_curve_get_ord)
deriving Repr

/-- bn_bits(r) -/
def Par.ordBits (par : Par) : Nat := bitLen par.ord

/-- bn_mod(m, k, r): the non-negative residue of k modulo the group order -/
def Par.red (par : Par) (k : Int) : Nat := (k % (par.ord : Int)).toNat

/-- `if (bn_sign(k) == RLC_NEG) ed_neg(r, r)` -/
def signed (o : Ops G) (k : Int) (x : G) : G := if k < 0 then o.neg x else x

/-- bits of n, most significant first -/
def bitsMsb (n : Nat) : List Bool := (List.range (bitLen n)).reverse.map fun i => (n >>> i) % 2 = 1

/-- ed_mul_basic: binary NAF into a buffer of bn_bits(k) + 1 entries (always fits), table [P] -/
def mulBasic (o : Ops G) (isO : G → Bool) (p : G) (k : Int) : Option G :=
  if k = 0 ∨ isO p then some o.zero else
  (recNaf (bitLen k.natAbs + 1) k.natAbs 2).map fun ds => signed o k (mulSigned o [p] o.zero ds)

/-- ed_mul_dig: a single-digit scalar k < 2^w (w = RLC_DIG), binary NAF into int8_t naf[RLC_DIG + 1], the loop of ed_mul_basic
    with the table [P]; no sign -/
def mulDig (o : Ops G) (isO : G → Bool) (w : Nat) (p : G) (k : Nat) : Option G :=
  if k = 0 ∨ isO p then some o.zero else
  (recNaf (w + 1) k 2).map fun ds => mulSigned o [p] o.zero ds

/-- ed_mul_lwnaf (ed_mul_naf_imp): width-w NAF of k mod r into int8_t naf[RLC_FP_BITS + 1], table of odd multiples (ed_tab) -/
def mulLwnaf (o : Ops G) (isO : G → Bool) (par : Par) (p : G) (k : Int) : Option G :=
  if k = 0 ∨ isO p then some o.zero else
  (recNaf (par.fpBits + 1) (par.red k) par.width).map fun ds =>
    mulSigned o (tabOdd o p (2 ^ (par.width - 2))) o.zero ds

/-- ed_mul_slide: sliding windows of k mod r into uint8_t win[RLC_FP_BITS + 1], table of the odd multiples below 2^w -/
def mulSlide (o : Ops G) (isO : G → Bool) (par : Par) (p : G) (k : Int) : Option G :=
  if k = 0 ∨ isO p then some o.zero else
  (recSlw (par.fpBits + 1) (par.red k) par.width).map fun win =>
    MulAlg.mulSlide o (tabOdd o p (2 ^ (par.width - 1))) o.zero win

/-- the ladder of ed_mul_monty: (t0, t1) = (O, P); for every bit of |k| from the top:
    bit 1 ↦ (t0 + t1, 2·t1); bit 0 ↦ (2·t0, t0 + t1) (the conditional swaps around `add; dbl`) -/
def ladder (o : Ops G) (p : G) (bits : List Bool) : G :=
  (bits.foldl (fun (t : G × G) b =>
    if b then (o.add t.1 t.2, o.dbl t.2) else (o.dbl t.1, o.add t.1 t.2)) (o.zero, p)).1

/-- ed_mul_monty -/
def mulMonty (o : Ops G) (isO : G → Bool) (p : G) (k : Int) : Option G :=
  if k = 0 ∨ isO p then some o.zero else some (signed o k (ladder o p (bitsMsb k.natAbs)))

/-- ed_mul_lwreg (ed_mul_reg_imp): regular recoding of (|k| mod r) | 1 for RLC_FP_BITS bits, parity correction by −P when
    |k| mod r is even, sign of k applied at the end. The recoding array has 1 + ⌈(RLC_FP_BITS + 1)/(w − 1)⌉ entries. -/
def mulLwreg (o : Ops G) (isO : G → Bool) (par : Par) (p : G) (k : Int) : Option G :=
  if k = 0 ∨ isO p then some o.zero else
  let w := par.width
  let kk := k.natAbs % par.ord
  (recReg ((par.fpBits + 1 + (w - 1) - 1) / (w - 1) + 1) (kk ||| 1) par.fpBits w).map fun reg =>
    signed o k (mulReg o (tabOdd o p (2 ^ (w - 2))) o.zero w reg (kk % 2 = 0) p)

/-- ed_mul_pre_basic + ed_mul_fix_basic: t[i] = 2^i·P for i < bn_bits(r); one addition per set bit of k mod r -/
def mulFixBasic (o : Ops G) (par : Par) (p : G) (k : Int) : Option G :=
  if k = 0 then some o.zero else
  some (MulAlg.mulFixBasic o (tabPow2 o p par.ordBits) o.zero (par.red k))

/-- ed_mul_pre_lwnaf + ed_mul_fix_lwnaf (ed_mul_fix_plain): width-RLC_DEPTH NAF of k mod r into naf[RLC_FP_BITS + 1] -/
def mulFixLwnaf (o : Ops G) (par : Par) (p : G) (k : Int) : Option G :=
  (recNaf (par.fpBits + 1) (par.red k) par.depth).map fun ds =>
    mulSigned o (tabOdd o p (2 ^ (par.depth - 2))) o.zero ds

/-! ### single-table and double-table comb methods -/

/-- the comb column i of k: Σ_j bit(k, i + j·l)·2^j, j < depth -/
def combCol (k l depth i : Nat) : Nat :=
  (List.range depth).foldl (fun w j => w + ((k >>> (i + j * l)) % 2) * 2 ^ j) 0

/-- ed_mul_pre_combs: t[w] = Σ_{j : bit j of w} 2^(j·l)·P, built as t[2^j] = 2^l·t[2^(j−1)], t[2^j + i] = t[i] + t[2^j] -/
def tabCombs (o : Ops G) (p : G) (l : Nat) : Nat → List G
  | 0 => [o.zero]
  | j + 1 =>
    let t := tabCombs o p l j
    let top := dblN o (l * j) p
    t ++ t.map fun x => o.add x top

/-- ed_mul_fix_combs (ed_mul_combs_plain): l = ⌈bn_bits(r)/depth⌉ columns of k mod r, r = 2r + t[column i] from i = l − 1 down -/
def mulFixCombs (o : Ops G) (par : Par) (p : G) (k : Int) : Option G :=
  let l := (par.ordBits + par.depth - 1) / par.depth
  let tab := tabCombs o p l par.depth
  some ((List.range l).reverse.foldl (fun r i => o.add (o.dbl r) (tab.getD (combCol (par.red k) l par.depth i) o.zero)) o.zero)

/-- ed_mul_pre_combd + ed_mul_fix_combd (cloned from ep_mul_pre_combd / ep_mul_fix_combd: the models are the ones of
    Model/EpMul.lean).  dd = ⌈bn_bits(r)/RLC_DEPTH⌉ columns, e = ⌈dd/2⌉; the table is the single comb table with column distance
    dd followed by O and every entry doubled e times; the scalar is reduced modulo r; e iterations r = 2r + t[column i] +
    t[2^depth + column i+e] (second column only while i + e < dd); both additions unconditional. -/
def mulFixCombd (o : Ops G) (par : Par) (p : G) (k : Int) : Option G :=
  let dd := (par.ordBits + par.depth - 1) / par.depth
  let e := (dd + 1) / 2
  some (EpMul.mulCombd o (EpMul.tabCombd o p dd e par.depth) (par.red k) dd e par.depth)

/-! ### simultaneous multiplications k·P + m·Q -/

/-- ed_mul_sim_basic: two ed_mul and one addition; `mul` = the configured ed_mul -/
def simBasic (o : Ops G) (mul : G → Int → Option G) (p : G) (k : Int) (q : G) (m : Int) : Option G :=
  match mul q m, mul p k with
  | some a, some b => some (o.add a b)
  | _, _ => none

/-- the early exits shared by ed_mul_sim_trick / inter / joint -/
def simExits (o : Ops G) (isO : G → Bool) (mul : G → Int → Option G) (p : G) (k : Int) (q : G) (m : Int)
    (body : Option G) : Option G :=
  if k = 0 ∨ isO p then mul q m
  else if m = 0 ∨ isO q then mul p k
  else body

/-- ed_mul_sim_trick: w = RLC_WIDTH/2, windows of k mod r, m mod r into w0, w1[RLC_FP_BITS + 1] with *len = ⌈RLC_FP_BITS/w⌉ -/
def simTrick (o : Ops G) (isO : G → Bool) (par : Par) (mul : G → Int → Option G) (p : G) (k : Int) (q : G) (m : Int) : Option G :=
  simExits o isO mul p k q m <|
    let w := par.width / 2
    let cap := (par.fpBits + w - 1) / w
    match recWin cap (par.red k) w, recWin cap (par.red m) w with
    | some w0, some w1 => some (MulAlg.simTrick o (tabTrick o p q w) o.zero w w0 w1)
    | _, _ => none

/-- ed_mul_sim_inter (ed_mul_sim_plain without the generator table): two width-w NAFs of the reduced scalars -/
def simInter (o : Ops G) (isO : G → Bool) (par : Par) (mul : G → Int → Option G) (p : G) (k : Int) (q : G) (m : Int) : Option G :=
  simExits o isO mul p k q m <|
    match recNaf (par.fpBits + 1) (par.red k) par.width, recNaf (par.fpBits + 1) (par.red m) par.width with
    | some n0, some n1 =>
      some (MulAlg.simInter o (tabOdd o p (2 ^ (par.width - 2))) (tabOdd o q (2 ^ (par.width - 2))) o.zero n0 n1)
    | _, _ => none

/-- ed_mul_sim_joint: joint sparse form of (k mod r, m mod r) into jsf[2(RLC_FP_BITS + 1)] -/
def simJoint (o : Ops G) (isO : G → Bool) (par : Par) (mul : G → Int → Option G) (p : G) (k : Int) (q : G) (m : Int) : Option G :=
  simExits o isO mul p k q m <|
    (recJsf (2 * (par.fpBits + 1)) (par.red k) (par.red m)).map fun (j0, j1) =>
      MulAlg.simJoint o p q j0 j1

/-- ed_mul_sim_gen when ED_SIM == INTER, ED_FIX == LWNAF and the generator table is precomputed: ed_mul_sim_plain with the
    generator's table (width RLC_DEPTH) for the first scalar; no early exits inside -/
def simPlainGen (o : Ops G) (par : Par) (g : G) (k : Int) (q : G) (m : Int) : Option G :=
  match recNaf (par.fpBits + 1) (par.red k) par.depth, recNaf (par.fpBits + 1) (par.red m) par.width with
  | some n0, some n1 =>
    some (MulAlg.simInter o (tabOdd o g (2 ^ (par.depth - 2))) (tabOdd o q (2 ^ (par.width - 2))) o.zero n0 n1)
  | _, _ => none

/-- ed_mul_sim_lot: l = max_i (bn_bits(k_i) + 1); every scalar (NOT reduced modulo r, any sign) recoded into a binary NAF of
    capacity l (`none` = ERR_NO_BUFFER: never, `mul_sim_lot` of Props/C17.lean), the points negated for negative scalars; then the interleaved
    loop of ep_mul_sim_lot_plain (Model/EpMul.lean `simLotNaf`): l iterations r = 2r, r ± P_j by the sign of the digit. -/
def simLot (o : Ops G) (pks : List (G × Int)) : Option G :=
  let l := (pks.map fun pk => bitLen pk.2.natAbs + 1).foldl max 0
  let nafs := pks.map fun pk => recNaf l pk.2.natAbs 2
  if nafs.any Option.isNone then none else
  some (EpMul.simLotNaf o (pks.map fun pk => if pk.2 < 0 then o.neg pk.1 else pk.1) (nafs.map fun x => x.getD []) l)

/-- ed_mul_gen: k = 0 ⇒ O, otherwise the configured fixed-base method on the generator's table -/
def mulGen (o : Ops G) (fix : G → Int → Option G) (g : G) (k : Int) : Option G :=
  if k = 0 then some o.zero else fix g k

/-- ed_mul_sim_gen -/
def simGen (o : Ops G) (isO : G → Bool) (mul fix : G → Int → Option G) (sim : G → Int → G → Int → Option G)
    (plain : Option (G → Int → G → Int → Option G)) (g : G) (k : Int) (q : G) (m : Int) : Option G :=
  if k = 0 then mul q m
  else if m = 0 ∨ isO q then mulGen o fix g k
  else match plain with
    | some f => f g k q m
    | none => sim g k q m

end Relic.Model.EdMul
