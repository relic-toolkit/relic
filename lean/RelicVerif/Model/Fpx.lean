/-
Model of the extension-field arithmetic of src/fpx (property C10): the formulas of the C functions, statement by
statement, over an explicit operation record of the level below (`FOps`, Model/FormulaBase.lean). The driver runs
them over Z/pZ on Nat (`natOps p`) stacked level by level; Lemmas/Fpx.lean instantiates the record with a
commutative ring / field and Props/C10.lean proves that every formula is the product / square / inverse of the quotient ring.

What is mirrored (hand-transcribed from the C text; the correspondence run compares every line):
* fp2: fp2_mul_basic (Karatsuba, multiplication by the non-residue by the repeated subtraction / addition loops over
  fp_prime_get_qnr()), fp2_muln_low (the INTEG variant: same, without the loop for positive qnr), fp2_sqr_basic /
  fp2_sqrn_low, fp2_inv, fp2_mul_art, fp2_mul_nor_basic / fp2_norm_low (switch over p mod 8 and fp2_field_get_qnr());
* fp3: fp3_mul_basic / fp3_muln_low, fp3_sqr_basic / fp3_sqrn_low (Chung–Hasan SQR3), fp3_inv, fp3_mul_art, fp3_mul_nor;
* every quadratic level over its sub-level (fp4, fp8, fp12, fp16, fp18, fp48 — the C bodies are the same up to the
  name of the multiplication by the adjoined root): `quadMul` (Karatsuba), `quadSqr` (complex squaring), `quadInv`,
  `quadArt`;
* every cubic level (fp6, fp9, fp24, fp54): `cubMul` (Karatsuba), `cubSqr` (Chung–Hasan SQR3 with the halving),
  `cubInv`, `cubArt`, `cubMulDxs` (fp6_mul_dxs / fp9_mul_dxs: third coefficient of b absent);
* fp12: fp12_mul_dxs_basic for both twist types (EP_ADD = PROJC/JACOB shape), fp12_sqr_cyc_basic (Granger–Scott),
  fp12_sqr_pck_basic (Karabina), fp12_back_cyc, fp12_conv_cyc, fp12_test_cyc, fp12_inv_cyc; fp8_sqr_cyc (= fp16_sqr_cyc
  one level up).
The lazy-reduction / unreduced variants (*_lazyr, *_unr, *_integ, fpN_*_low with dv accumulators) compute the same
polynomial expressions on double-precision accumulators and reduce once at the end; at the level of values they are
the same formula, and are modelled by the same definitions (their digit-level carry handling is compared with the
specification on the presented lines only).

No Mathlib.
-/
import RelicVerif.Model.FormulaBase

namespace Relic.Model.Fpx
open Relic.Model.Formula

structure V2 (E : Type) where
  c0 : E
  c1 : E
deriving Repr, BEq, Inhabited

structure V3 (E : Type) where
  c0 : E
  c1 : E
  c2 : E
deriving Repr, BEq, Inhabited

variable {E : Type}

/-- n-fold repetition of a loop body -/
def iter (f : E → E) : Nat → E → E
  | 0, x => x
  | n + 1, x => iter f n (f x)

/-- `for (int i = -1; i > q; i--)`: number of iterations -/
def negLoop (q : Int) : Nat := (-1 - q).toNat
/-- `for (int i = 1; i < q; i++)` -/
def posLoop (q : Int) : Nat := (q - 1).toNat
/-- `for (int i = 0; i >= c; i--)` -/
def negLoop0 (c : Int) : Nat := (1 - c).toNat
/-- `for (int i = 0; i <= q; i++)` -/
def posLoop0 (q : Int) : Nat := (q + 1).toNat
/-- `for (int i = 1; i <= c; i++)` -/
def posLoopLe (c : Int) : Nat := c.toNat
/-- `for (int i = -1; i >= c; i--)` -/
def negLoopGe (c : Int) : Nat := (-c).toNat

/-! ### fp2 over the prime field; q = fp_prime_get_qnr() -/

/-- fp2_mul_basic -/
def fp2Mul (o : FOps E) (q : Int) (a b : V2 E) : V2 E :=
  let t2 := o.add a.c0 a.c1
  let t1 := o.add b.c0 b.c1
  let t3 := o.mul t2 t1
  let t0 := o.mul a.c0 b.c0
  let t4 := o.mul a.c1 b.c1
  let t2 := o.add t0 t4
  let t1 := o.sub t0 t4
  let t1 := iter (fun x => o.sub x t4) (negLoop q) t1
  let t1 := iter (fun x => o.add x t4) (posLoop q) t1
  let t4 := o.sub t3 t2
  ⟨t1, t4⟩

/-- fp2_muln_low + fp2_rdcn_low (fp2_mul_integ): no loop for positive q -/
def fp2MulInteg (o : FOps E) (q : Int) (a b : V2 E) : V2 E :=
  let t0 := o.add a.c0 a.c1
  let t1 := o.add b.c0 b.c1
  let c0 := o.mul a.c0 b.c0
  let c1 := o.mul a.c1 b.c1
  let t2 := o.mul t0 t1
  let t0 := o.add c0 c1
  let c0 := o.sub c0 c1
  let c0 := iter (fun x => o.sub x c1) (negLoop q) c0
  let c1 := o.sub t2 t0
  ⟨c0, c1⟩

/-- fp2_sqr_basic -/
def fp2Sqr (o : FOps E) (q : Int) (a : V2 E) : V2 E :=
  let t0 := o.add a.c0 a.c1
  let t1 := o.sub a.c0 a.c1
  let t1 := iter (fun x => o.sub x a.c1) (negLoop q) t1
  let t1 := iter (fun x => o.add x a.c1) (posLoop q) t1
  if q = -1 then
    let t2 := o.dbl a.c0
    let c1 := o.mul t2 a.c1
    let c0 := o.mul t0 t1
    ⟨c0, c1⟩
  else
    let c1 := o.mul a.c0 a.c1
    let c0 := o.mul t0 t1
    let c0 := iter (fun x => o.add x c1) (negLoop q) c0
    let c0 := iter (fun x => o.add x c1) (posLoop q) c0
    let c1 := o.dbl c1
    ⟨c0, c1⟩

/-- fp2_sqrn_low + fp2_rdcn_low (fp2_sqr_integ), !FP_QNRES; for positive q the second correction subtracts -/
def fp2SqrInteg (o : FOps E) (q : Int) (a : V2 E) : V2 E :=
  let t0 := o.add a.c0 a.c1
  let t1 := o.sub a.c0 a.c1
  let t1 := iter (fun x => o.sub x a.c1) (negLoop q) t1
  let t1 := iter (fun x => o.add x a.c1) (posLoop q) t1
  if q = -1 then
    let t2 := o.dbl a.c0
    let c1 := o.mul t2 a.c1
    let c0 := o.mul t0 t1
    ⟨c0, c1⟩
  else
    let c1 := o.mul a.c0 a.c1
    let c0 := o.mul t0 t1
    let c0 := iter (fun x => o.add x c1) (negLoop q) c0
    let c0 := iter (fun x => o.sub x c1) (posLoop q) c0
    let c1 := o.add c1 c1
    ⟨c0, c1⟩

/-- fp_mul_dig(t, t, d) for a small positive d -/
def mulSmall (o : FOps E) (d : Nat) (x : E) : E := o.mul x (o.ofNat d)

/-- fp2_inv -/
def fp2Inv (o : FOps E) (q : Int) (a : V2 E) : V2 E :=
  let t0 := o.sqr a.c0
  let t1 := o.sqr a.c1
  let t0 :=
    if q ≠ -1 then
      if q = -2 then o.add t0 (o.dbl t1)
      else if q < 0 then o.add t0 (mulSmall o (-q).toNat t1)
      else o.sub t0 (mulSmall o q.toNat t1)
    else o.add t0 t1
  let t1 := o.inv t0
  let c0 := o.mul a.c0 t1
  let c1 := o.mul a.c1 t1
  ⟨c0, o.neg c1⟩

/-- fp2_mul_art: multiplication by the adjoined root i -/
def fp2MulArt (o : FOps E) (q : Int) (a : V2 E) : V2 E :=
  let t := a.c0
  let c0 := o.neg a.c1
  let c0 := iter (fun x => o.sub x a.c1) (negLoop q) c0
  let c0 := iter (fun x => o.add x a.c1) (posLoop0 q) c0
  ⟨c0, t⟩

def v2Add (o : FOps E) (a b : V2 E) : V2 E := ⟨o.add a.c0 b.c0, o.add a.c1 b.c1⟩
def v2Sub (o : FOps E) (a b : V2 E) : V2 E := ⟨o.sub a.c0 b.c0, o.sub a.c1 b.c1⟩
def v2Neg (o : FOps E) (a : V2 E) : V2 E := ⟨o.neg a.c0, o.neg a.c1⟩
def v2Dbl (o : FOps E) (a : V2 E) : V2 E := ⟨o.dbl a.c0, o.dbl a.c1⟩
def v2Hlv (o : FOps E) (a : V2 E) : V2 E := ⟨o.hlv a.c0, o.hlv a.c1⟩
def v3Add (o : FOps E) (a b : V3 E) : V3 E := ⟨o.add a.c0 b.c0, o.add a.c1 b.c1, o.add a.c2 b.c2⟩
def v3Sub (o : FOps E) (a b : V3 E) : V3 E := ⟨o.sub a.c0 b.c0, o.sub a.c1 b.c1, o.sub a.c2 b.c2⟩
def v3Neg (o : FOps E) (a : V3 E) : V3 E := ⟨o.neg a.c0, o.neg a.c1, o.neg a.c2⟩
def v3Dbl (o : FOps E) (a : V3 E) : V3 E := ⟨o.dbl a.c0, o.dbl a.c1, o.dbl a.c2⟩
def v3Hlv (o : FOps E) (a : V3 E) : V3 E := ⟨o.hlv a.c0, o.hlv a.c1, o.hlv a.c2⟩

/-- fp2_mul_nor_basic / fp2_norm_low: multiplication by the element ξ adjoined roots of which build fp4 / fp6 / fp12.
    `mod8` = p mod 8, `qnr2` = fp2_field_get_qnr(); FP_QNRES builds behave as mod8 = 3, qnr2 = 1.
    `none`: the default branch of the switch (ERR_NO_VALID) -/
def fp2MulNor (o : FOps E) (q : Int) (mod8 : Nat) (qnr2 : Nat) (a : V2 E) : Option (V2 E) :=
  let shifts := Nat.log2 qnr2            -- `while (qnr > 1) { dbl; qnr >>= 1; }`
  let general : V2 E :=
    let t := fp2MulArt o q a
    let c := iter (v2Dbl o) shifts a
    v2Add o c t
  match mod8 with
  | 1 | 5 => some (fp2MulArt o q a)
  | 3 =>
    if qnr2 = 1 then
      let t0 := o.neg a.c1
      let c1 := o.add a.c0 a.c1
      let c0 := o.add t0 a.c0
      some ⟨c0, c1⟩
    else some general
  | 7 => some general
  | _ => none

/-- the operation record of fp2, as the next levels use it -/
def fp2Ops (o : FOps E) (q : Int) : FOps (V2 E) where
  zero := ⟨o.zero, o.zero⟩
  one := ⟨o.one, o.zero⟩
  add := v2Add o
  sub := v2Sub o
  mul := fp2Mul o q
  neg := v2Neg o
  sqr := fp2Sqr o q
  dbl := v2Dbl o
  hlv := v2Hlv o
  inv := fp2Inv o q
  ofNat n := ⟨o.ofNat n, o.zero⟩
  isZero a := o.isZero a.c0 && o.isZero a.c1

/-! ### fp3 over the prime field; c = fp_prime_get_cnr() -/

/-- x ↦ c·x as the C loops compute it, starting from one copy of x:
    `for (i = 1; i < c; i++) acc += x;  for (i = 0; i >= c; i--) acc -= x;` -/
def mulCnr (o : FOps E) (c : Int) (x : E) (acc : E) : E :=
  iter (fun y => o.sub y x) (negLoop0 c) (iter (fun y => o.add y x) (posLoop c) acc)

/-- fp3_mul_basic / fp3_muln_low -/
def fp3Mul (o : FOps E) (c : Int) (a b : V3 E) : V3 E :=
  let t0 := o.mul a.c0 b.c0
  let t1 := o.mul a.c1 b.c1
  let t2 := o.mul a.c2 b.c2
  let t3 := o.add a.c1 a.c2
  let t4 := o.add b.c1 b.c2
  let t := o.mul t3 t4
  let t6 := o.add t1 t2
  let t4 := o.sub t t6
  let t3 := o.add t0 t4
  let t3 := mulCnr o c t4 t3
  let t4' := o.add a.c0 a.c1
  let t5 := o.add b.c0 b.c1
  let t := o.mul t4' t5
  let t4' := o.add t0 t1
  let t4' := o.sub t t4'
  let t4' := o.add t4' t2
  let t4' := mulCnr o c t2 t4'
  let t5 := o.add a.c0 a.c2
  let t6 := o.add b.c0 b.c2
  let t := o.mul t5 t6
  let t6 := o.add t0 t2
  let t5 := o.sub t t6
  let t5 := o.add t5 t1
  ⟨t3, t4', t5⟩

/-- fp3_sqr_basic / fp3_sqrn_low (Chung–Hasan SQR3) -/
def fp3Sqr (o : FOps E) (c : Int) (a : V3 E) : V3 E :=
  let t0 := o.sqr a.c0
  let t2 := o.dbl a.c1
  let t1 := o.mul t2 a.c2
  let t3 := o.add a.c0 a.c2
  let t4 := o.add t3 a.c1
  let t2 := o.sub t3 a.c1
  let t3 := o.sqr t4
  let t4 := o.sqr t2
  let t2 := o.sqr a.c2
  let t4 := o.add t4 t3
  let t4 := o.hlv t4
  let t3 := o.sub t3 t4
  let t3 := o.sub t3 t1
  let c2 := o.sub (o.sub t4 t0) t2
  -- fp3_sqrn_low: c0 = t0 + t1, then the two loops; fp3_sqr_basic: `for (i = 1; i <= cnr; …)` from t0 — same value
  let c0 := mulCnr o c t1 (o.add t0 t1)
  let c1 := mulCnr o c t2 (o.add t3 t2)
  ⟨c0, c1, c2⟩

/-- fp3_inv -/
def fp3Inv (o : FOps E) (c : Int) (a : V3 E) : V3 E :=
  let t0 := o.sqr a.c0
  let v0 := o.mul a.c1 a.c2
  let v2 := mulCnr o c v0 v0
  let v0 := o.sub t0 v2
  let t0 := o.sqr a.c2
  let v2 := mulCnr o c t0 t0
  let v1 := o.mul a.c0 a.c1
  let v1 := o.sub v2 v1
  let t0 := o.sqr a.c1
  let v2 := o.mul a.c0 a.c2
  let v2 := o.sub t0 v2
  let t0 := o.mul a.c1 v2
  let c1 := mulCnr o c t0 t0
  let c0 := o.mul a.c0 v0
  let t0 := o.mul a.c2 v1
  let c2 := mulCnr o c t0 t0
  let t0 := o.add c0 c1
  let t0 := o.add t0 c2
  let t0 := o.inv t0
  ⟨o.mul v0 t0, o.mul v1 t0, o.mul v2 t0⟩

/-- fp3_mul_art -/
def fp3MulArt (o : FOps E) (c : Int) (a : V3 E) : V3 E :=
  let t := a.c0
  let c0 := mulCnr o c a.c2 a.c2
  ⟨c0, t, a.c1⟩

/-- the doubling chain of fp3_mul_nor:  u = a; while (cnr > 1) { u = 2u; if (cnr & 1) u += a; cnr >>= 1; }
    (note: the low bit tested is that of the *current* cnr, before the shift) -/
def nor3Chain (o : FOps E) (a : V3 E) : Nat → Nat → V3 E → V3 E
  | 0, _, u => u
  | fuel + 1, cnr, u =>
    if cnr > 1 then
      let u := v3Dbl o u
      let u := if cnr % 2 = 1 then v3Add o u a else u
      nor3Chain o a fuel (cnr / 2) u
    else u

/-- fp3_mul_nor; `cnr3` = fp3_field_get_cnr(), `mod18` = p mod 18 -/
def fp3MulNor (o : FOps E) (c : Int) (mod18 : Nat) (cnr3 : Int) (a : V3 E) : V3 E :=
  let t := fp3MulArt o c a
  if (mod18 = 1 ∨ mod18 = 7) ∧ cnr3 ≠ 0 then
    let u := nor3Chain o a 64 cnr3.natAbs a
    if cnr3 > 0 then v3Add o t u else v3Sub o t u
  else t

def fp3Ops (o : FOps E) (c : Int) : FOps (V3 E) where
  zero := ⟨o.zero, o.zero, o.zero⟩
  one := ⟨o.one, o.zero, o.zero⟩
  add := v3Add o
  sub := v3Sub o
  mul := fp3Mul o c
  neg := v3Neg o
  sqr := fp3Sqr o c
  dbl := v3Dbl o
  hlv := v3Hlv o
  inv := fp3Inv o c
  ofNat n := ⟨o.ofNat n, o.zero, o.zero⟩
  isZero a := o.isZero a.c0 && o.isZero a.c1 && o.isZero a.c2

/-! ### a quadratic level over its sub-level; `nor` multiplies by the element whose square root is adjoined
(fp2_mul_nor for fp4, fpK_mul_art for fp8 / fp12 / fp16 / fp18 / fp48) -/

/-- fp4_mul_basic, fp8_mul_basic, fp12_mul_basic, fp16_…, fp18_…, fp48_… (Karatsuba) -/
def quadMul (o : FOps E) (nor : E → E) (a b : V2 E) : V2 E :=
  let t0 := o.mul a.c0 b.c0
  let t1 := o.mul a.c1 b.c1
  let t2 := o.add b.c0 b.c1
  let c1 := o.add a.c0 a.c1
  let c1 := o.mul c1 t2
  let c1 := o.sub c1 t0
  let c1 := o.sub c1 t1
  let t2 := nor t1
  let c0 := o.add t0 t2
  ⟨c0, c1⟩

/-- fp4_sqr_basic, … (complex squaring) -/
def quadSqr (o : FOps E) (nor : E → E) (a : V2 E) : V2 E :=
  let t0 := o.add a.c0 a.c1
  let t1 := nor a.c1
  let t1 := o.add a.c0 t1
  let t0 := o.mul t0 t1
  let c1 := o.mul a.c0 a.c1
  let c0 := o.sub t0 c1
  let t1 := nor c1
  let c0 := o.sub c0 t1
  let c1 := o.dbl c1
  ⟨c0, c1⟩

/-- fp4_sqr_unr (the squaring used inside the compressed / cyclotomic squarings): a0² + ν a1², (a0+a1)² − a0² − a1² -/
def quadSqrUnr (o : FOps E) (nor : E → E) (a : V2 E) : V2 E :=
  let u0 := o.sqr a.c0
  let u1 := o.sqr a.c1
  let t := o.add a.c0 a.c1
  let c0 := o.add (nor u1) u0
  let u1 := o.add u1 u0
  let c1 := o.sub (o.sqr t) u1
  ⟨c0, c1⟩

/-- fp4_inv, fp8_inv, fp12_inv, … -/
def quadInv (o : FOps E) (nor : E → E) (a : V2 E) : V2 E :=
  let t0 := o.sqr a.c0
  let t1 := o.sqr a.c1
  let t1 := nor t1
  let t0 := o.sub t0 t1
  let t0 := o.inv t0
  let c0 := o.mul a.c0 t0
  let c1 := o.neg a.c1
  let c1 := o.mul c1 t0
  ⟨c0, c1⟩

/-- fp4_mul_art, fp8_mul_art, fp12_mul_art, …: multiplication by the adjoined root -/
def quadArt (nor : E → E) (a : V2 E) : V2 E := ⟨nor a.c1, a.c0⟩

/-- fpN_inv_cyc of a quadratic top level: the conjugate -/
def quadConj (o : FOps E) (a : V2 E) : V2 E := ⟨a.c0, o.neg a.c1⟩

def quadOps (o : FOps E) (nor : E → E) : FOps (V2 E) where
  zero := ⟨o.zero, o.zero⟩
  one := ⟨o.one, o.zero⟩
  add := v2Add o
  sub := v2Sub o
  mul := quadMul o nor
  neg := v2Neg o
  sqr := quadSqr o nor
  dbl := v2Dbl o
  hlv := v2Hlv o
  inv := quadInv o nor
  ofNat n := ⟨o.ofNat n, o.zero⟩
  isZero a := o.isZero a.c0 && o.isZero a.c1

/-! ### a cubic level over its sub-level (fp6 and fp9 with fpK_mul_nor, fp24 and fp54 with fpK_mul_art) -/

/-- fp6_mul_basic, fp9_mul_basic, fp24_mul_basic, fp54_mul_basic (Karatsuba) -/
def cubMul (o : FOps E) (nor : E → E) (a b : V3 E) : V3 E :=
  let v0 := o.mul a.c0 b.c0
  let v1 := o.mul a.c1 b.c1
  let v2 := o.mul a.c2 b.c2
  let t0 := o.add a.c1 a.c2
  let t1 := o.add b.c1 b.c2
  let t2 := o.mul t0 t1
  let t2 := o.sub t2 v1
  let t2 := o.sub t2 v2
  let t0 := nor t2
  let t2 := o.add t0 v0
  let t0 := o.add a.c0 a.c1
  let t1 := o.add b.c0 b.c1
  let c1 := o.mul t0 t1
  let c1 := o.sub c1 v0
  let c1 := o.sub c1 v1
  let t0 := nor v2
  let c1 := o.add c1 t0
  let t0 := o.add a.c0 a.c2
  let t1 := o.add b.c0 b.c2
  let c2 := o.mul t0 t1
  let c2 := o.sub c2 v0
  let c2 := o.add c2 v1
  let c2 := o.sub c2 v2
  ⟨t2, c1, c2⟩

/-- fp6_sqr_basic, fp9_sqr_basic, fp24_sqr_basic, fp54_sqr_basic (Chung–Hasan SQR3; `o.hlv` halves every base-field
    coordinate) -/
def cubSqr (o : FOps E) (nor : E → E) (a : V3 E) : V3 E :=
  let t0 := o.sqr a.c0
  let t1 := o.mul a.c1 a.c2
  let t1 := o.dbl t1
  let t2 := o.sqr a.c2
  let c2 := o.add a.c0 a.c2
  let t3 := o.add c2 a.c1
  let t3 := o.sqr t3
  let c2 := o.sub c2 a.c1
  let c2 := o.sqr c2
  let c2 := o.add c2 t3
  let c2 := o.hlv c2
  let t3 := o.sub t3 c2
  let t3 := o.sub t3 t1
  let c2 := o.sub c2 t0
  let c2 := o.sub c2 t2
  let t4 := nor t1
  let c0 := o.add t0 t4
  let t4 := nor t2
  let c1 := o.add t3 t4
  ⟨c0, c1, c2⟩

/-- fp6_inv, fp9_inv, fp24_inv, fp54_inv -/
def cubInv (o : FOps E) (nor : E → E) (a : V3 E) : V3 E :=
  let t0 := o.sqr a.c0
  let v0 := o.mul a.c1 a.c2
  let v2 := nor v0
  let v0 := o.sub t0 v2
  let t0 := o.sqr a.c2
  let v2 := nor t0
  let v1 := o.mul a.c0 a.c1
  let v1 := o.sub v2 v1
  let t0 := o.sqr a.c1
  let v2 := o.mul a.c0 a.c2
  let v2 := o.sub t0 v2
  let t0 := o.mul a.c1 v2
  let c1 := nor t0
  let c0 := o.mul a.c0 v0
  let t0 := o.mul a.c2 v1
  let c2 := nor t0
  let t0 := o.add c0 c1
  let t0 := o.add t0 c2
  let t0 := o.inv t0
  ⟨o.mul v0 t0, o.mul v1 t0, o.mul v2 t0⟩

/-- fp6_mul_art, fp9_mul_art, … -/
def cubArt (nor : E → E) (a : V3 E) : V3 E := ⟨nor a.c2, a.c0, a.c1⟩

/-- fp6_mul_dxs, fp9_mul_dxs: b.c2 is not read (taken as zero) -/
def cubMulDxs (o : FOps E) (nor : E → E) (a b : V3 E) : V3 E :=
  let v0 := o.mul a.c0 b.c0
  let v1 := o.mul a.c1 b.c1
  let t0 := o.add a.c1 a.c2
  let t0 := o.mul t0 b.c1
  let t0 := o.sub t0 v1
  let t2 := nor t0
  let t2 := o.add t2 v0
  let t0 := o.add a.c0 a.c1
  let t1 := o.add b.c0 b.c1
  let c1 := o.mul t0 t1
  let c1 := o.sub c1 v0
  let c1 := o.sub c1 v1
  let t0 := o.add a.c0 a.c2
  let c2 := o.mul t0 b.c0
  let c2 := o.sub c2 v0
  let c2 := o.add c2 v1
  ⟨t2, c1, c2⟩

def cubOps (o : FOps E) (nor : E → E) : FOps (V3 E) where
  zero := ⟨o.zero, o.zero, o.zero⟩
  one := ⟨o.one, o.zero, o.zero⟩
  add := v3Add o
  sub := v3Sub o
  mul := cubMul o nor
  neg := v3Neg o
  sqr := cubSqr o nor
  dbl := v3Dbl o
  hlv := v3Hlv o
  inv := cubInv o nor
  ofNat n := ⟨o.ofNat n, o.zero, o.zero⟩
  isZero a := o.isZero a.c0 && o.isZero a.c1 && o.isZero a.c2

/-! ### fp12 = fp6[w]/(w² − v), fp6 = fp2[v]/(v³ − ξ): the specialised forms. `o` are the fp2 operations, `nor` = fp2_mul_nor -/

abbrev Fp12 (E : Type) := V2 (V3 E)

inductive Twist where
  | dtype | mtype
deriving Repr, DecidableEq, Inhabited

/-- fp12_mul_dxs_basic, EP_ADD = PROJC / JACOB. The sparse operand b has
    D-type: b[0] = (b00, 0, 0), b[1] = (b10, b11, 0);  M-type: b[0] = (b00, b01, 0), b[1] = (0, b11, 0);
    the other coefficients of b are not read -/
def fp12MulDxs (o : FOps E) (nor : E → E) (tw : Twist) (a b : Fp12 E) : Fp12 E :=
  let o6 := cubOps o nor
  let (t0, t1, t2) : V3 E × V3 E × V3 E :=
    match tw with
    | .dtype =>
      let t0 : V3 E := ⟨o.mul a.c0.c0 b.c0.c0, o.mul a.c0.c1 b.c0.c0, o.mul a.c0.c2 b.c0.c0⟩
      -- t2[2] is never written: the C code multiplies with fp6_mul_dxs, which does not read it
      let t2 : V3 E := ⟨o.add b.c0.c0 b.c1.c0, b.c1.c1, o.zero⟩
      let t1 := cubMulDxs o nor a.c1 b.c1
      (t0, t1, t2)
    | .mtype =>
      let t0 := cubMulDxs o nor a.c0 b.c0
      let t20 := o.mul a.c1.c2 b.c1.c1
      let t1 : V3 E := ⟨nor t20, o.mul a.c1.c0 b.c1.c1, o.mul a.c1.c1 b.c1.c1⟩
      let t2 : V3 E := ⟨b.c0.c0, o.add b.c0.c1 b.c1.c1, o.zero⟩
      (t0, t1, t2)
  let c1 := o6.add a.c0 a.c1
  let c1 := cubMulDxs o nor c1 t2
  let c1 := o6.sub c1 t0
  let c1 := o6.sub c1 t1
  let t1 := cubArt nor t1
  let c0 := o6.add t0 t1
  ⟨c0, c1⟩

/-- fp12_sqr_cyc_basic (Granger–Scott) -/
def fp12SqrCyc (o : FOps E) (nor : E → E) (a : Fp12 E) : Fp12 E :=
  let t2 := o.sqr a.c0.c0
  let t3 := o.sqr a.c1.c1
  let t1 := o.add a.c0.c0 a.c1.c1
  let t0 := nor t3
  let t0 := o.add t0 t2
  let t1 := o.sqr t1
  let t1 := o.sub t1 t2
  let t1 := o.sub t1 t3
  let c00 := o.sub t0 a.c0.c0
  let c00 := o.add c00 c00
  let c00 := o.add t0 c00
  let c11 := o.add t1 a.c1.c1
  let c11 := o.add c11 c11
  let c11 := o.add t1 c11
  let t0 := o.sqr a.c0.c1
  let t1 := o.sqr a.c1.c2
  let t5 := o.add a.c0.c1 a.c1.c2
  let t2 := o.sqr t5
  let t3 := o.add t0 t1
  let t5 := o.sub t2 t3
  let t6 := o.add a.c1.c0 a.c0.c2
  let t3 := o.sqr t6
  let t2 := o.sqr a.c1.c0
  let t6 := nor t5
  let t5 := o.add t6 a.c1.c0
  let t5 := o.dbl t5
  let c10 := o.add t5 t6
  let t4 := nor t1
  let t5 := o.add t0 t4
  let t6 := o.sub t5 a.c0.c2
  let t1 := o.sqr a.c0.c2
  let t6 := o.dbl t6
  let c02 := o.add t6 t5
  let t4 := nor t1
  let t5 := o.add t2 t4
  let t6 := o.sub t5 a.c0.c1
  let t6 := o.dbl t6
  let c01 := o.add t6 t5
  let t0 := o.add t2 t1
  let t5 := o.sub t3 t0
  let t6 := o.add t5 a.c1.c2
  let t6 := o.dbl t6
  let c12 := o.add t5 t6
  ⟨⟨c00, c01, c02⟩, ⟨c10, c11, c12⟩⟩

/-- fp12_sqr_pck_basic (Karabina): only c[0][1], c[0][2], c[1][0], c[1][2] are written; the other two coefficients of
    the destination keep their previous content (`c` = destination before the call) -/
def fp12SqrPck (o : FOps E) (nor : E → E) (c a : Fp12 E) : Fp12 E :=
  let t0 := o.sqr a.c0.c1
  let t1 := o.sqr a.c1.c2
  let t5 := o.add a.c0.c1 a.c1.c2
  let t2 := o.sqr t5
  let t3 := o.add t0 t1
  let t5 := o.sub t2 t3
  let t6 := o.add a.c1.c0 a.c0.c2
  let t3 := o.sqr t6
  let t2 := o.sqr a.c1.c0
  let t6 := nor t5
  let t5 := o.add t6 a.c1.c0
  let t5 := o.dbl t5
  let c10 := o.add t5 t6
  let t4 := nor t1
  let t5 := o.add t0 t4
  let t6 := o.sub t5 a.c0.c2
  let t1 := o.sqr a.c0.c2
  let t6 := o.dbl t6
  let c02 := o.add t6 t5
  let t4 := nor t1
  let t5 := o.add t2 t4
  let t6 := o.sub t5 a.c0.c1
  let t6 := o.dbl t6
  let c01 := o.add t6 t5
  let t0 := o.add t2 t1
  let t5 := o.sub t3 t0
  let t6 := o.add t5 a.c1.c2
  let t6 := o.dbl t6
  let c12 := o.add t5 t6
  ⟨⟨c.c0.c0, c01, c02⟩, ⟨c10, c.c1.c1, c12⟩⟩

/-- fp12_back_cyc AS IT WAS BEFORE THE REPAIR of findings C10-F3 / C10-F8 (kept for the record: Lemmas/Fpx.lean states what
    this formula computes in the exceptional branch); `isOne` = (fp12_cmp_dig(a, 1) == RLC_EQ) evaluated on the whole input.
    Not the code of /repo any more. -/
def fp12BackCycOld (o : FOps E) (nor : E → E) (isOne : Bool) (a : Fp12 E) : Fp12 E :=
  let f := o.isZero a.c1.c0
  let t2 := if f then a.c1.c2 else a.c0.c1
  let t0 := o.mul a.c0.c1 t2
  let t2 := o.dbl t0
  let t0 := if f then t2 else t0
  let t1 := o.sub t0 a.c0.c2
  let t1 := o.dbl t1
  let t1 := o.add t1 t0
  let t2 := o.sqr a.c1.c2
  let t0 := nor t2
  let t0 := o.add t0 t1
  let t1 := o.dbl a.c1.c0
  let t1 := o.dbl t1
  let t1 := if f then a.c0.c2 else t1
  let t1 := if isOne then o.one else t1
  let t1 := o.inv t1
  let c11 := o.mul t0 t1
  let t1 := o.mul a.c0.c2 a.c0.c1
  let t2 := o.sqr c11
  let t2 := o.sub t2 t1
  let t2 := o.dbl t2
  let t2 := o.sub t2 t1
  let t1 := o.mul a.c1.c0 a.c1.c2
  let t2 := o.add t2 t1
  let c00 := nor t2
  let c00 := o.add c00 o.one      -- fp_add_dig(c[0][0][0], c[0][0][0], 1)
  ⟨⟨c00, a.c0.c1, a.c0.c2⟩, ⟨a.c1.c0, c11, a.c1.c2⟩⟩

/-- fp12_back_cyc (decompression): in the exceptional branch g2 = 0 the numerator stays 2·g4·g5, and the identity is recognised
    by its compressed form (all four retained coefficients zero). Regenerated from the C text (Gen/Fpx.lean, `rfl`). -/
def fp12BackCyc (o : FOps E) (nor : E → E) (a : Fp12 E) : Fp12 E :=
  let f := o.isZero a.c1.c0
  let t2 := if f then a.c1.c2 else a.c0.c1
  let t0 := o.mul a.c0.c1 t2
  let t2 := o.dbl t0
  let t0 := if f then t2 else t0
  let t1 := o.sub t0 a.c0.c2
  let t1 := o.dbl t1
  let t1 := o.add t1 t0
  let t2 := o.sqr a.c1.c2
  let t2 := nor t2
  let t2 := o.add t2 t1
  let t0 := if f then t0 else t2
  let t1 := o.dbl a.c1.c0
  let t1 := o.dbl t1
  let t1 := if f then a.c0.c2 else t1
  let isId := o.isZero a.c1.c0 && o.isZero a.c0.c2 && o.isZero a.c0.c1 && o.isZero a.c1.c2
  let t1 := if isId then o.one else t1
  let t1 := o.inv t1
  let c11 := o.mul t0 t1
  let t1 := o.mul a.c0.c2 a.c0.c1
  let t2 := o.sqr c11
  let t2 := o.sub t2 t1
  let t2 := o.dbl t2
  let t2 := o.sub t2 t1
  let t1 := o.mul a.c1.c0 a.c1.c2
  let t2 := o.add t2 t1
  let c00 := nor t2
  let c00 := o.add c00 o.one
  ⟨⟨c00, a.c0.c1, a.c0.c2⟩, ⟨a.c1.c0, c11, a.c1.c2⟩⟩

/-- fp8_sqr_cyc / fp16_sqr_cyc: squaring of a unitary element of a quadratic level (o = operations of the sub-level,
    nor = multiplication by the adjoined square) -/
def quadSqrCyc (o : FOps E) (nor : E → E) (a : V2 E) : V2 E :=
  let t0 := o.sqr a.c1
  let t1 := o.add a.c0 a.c1
  let t2 := o.sqr t1
  let t2 := o.sub t2 t0
  let c0 := nor t0
  let c1 := o.sub t2 c0
  let c0 := o.dbl c0
  let c0 := o.add c0 o.one
  let c1 := o.sub c1 o.one
  ⟨c0, c1⟩

/-! ### loops shared by all levels -/

/-- fpN_exp (the plain branch): left-to-right square-and-multiply over the bits below the top one;
    `bits` most significant first, the top bit (1) removed -/
def expBin (o : FOps E) (a : E) (bits : List Bool) : E :=
  bits.foldl (fun t b => let t := o.sqr t; if b then o.mul t a else t) a

/-- fpN_inv_sim (Montgomery's trick): c[i] = a[0]·…·a[i]; u = 1/c[n-1]; for i = n-1 … 1: c[i] = c[i-1]·u, u = u·a[i];
    c[0] = u -/
def invSimPrefix (o : FOps E) : E → List E → List E
  | _, [] => []
  | acc, x :: xs => let acc := o.mul acc x; acc :: invSimPrefix o acc xs

/-- prefixes (last first) and inputs (last first); returns the inverses, first element first -/
def invSimBack (o : FOps E) : List E → List E → E → List E
  | _ :: q :: ps, x :: xs, u => invSimBack o (q :: ps) xs (o.mul u x) ++ [o.mul q u]
  | [_], _, u => [u]
  | _, _, _ => []

def invSim (o : FOps E) (as : List E) : List E :=
  match as with
  | [] => []
  | x :: xs =>
    let pref := x :: invSimPrefix o x xs
    let u := o.inv (pref.getLastD x)
    invSimBack o pref.reverse as.reverse u

end Relic.Model.Fpx
