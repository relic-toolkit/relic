/-
Refinement of the byte-level DRBG model (Model/Drbg.lean, mirrors relic_rand_hashd.c) to the
SP 800-90A Hash_DRBG specification (Spec/HashDrbg.lean), generic in the hash function.
-/
import RelicVerif.Model.Drbg
import RelicVerif.Lemmas.Codec
import RelicVerif.Lemmas.Loops

namespace Relic.Model.Drbg
open Relic.Spec.HashDrbg (Bytes i2os os2i Op Out)
open Relic.Spec

/-- abstraction: V and C are the big-endian integers stored after the prefix byte -/
def Abs (x : Ctx) (s : HashDrbg.State) : Prop :=
  x.seeded = true ∧ x.rand.length = 111 ∧
  os2i ((x.rand.drop 1).take 55) = s.v ∧ os2i ((x.rand.drop 56).take 55) = s.c ∧ x.counter = s.ctr

-- the configuration the library is built with (SHA-256 sizes: mdLen = 32, len = 55), the hash function left open
def mcfg (hash : Bytes → Bytes) : Cfg := { hash := hash }
def sparams (hash : Bytes → Bytes) : HashDrbg.Params := { hash := hash }

theorem os2i_nil : os2i [] = 0 := rfl

theorem os2i_append (a b : Bytes) : os2i (a ++ b) = os2i a * 256 ^ b.length + os2i b := Lemmas.Codec.val_append a b

theorem os2i_cons (x : UInt8) (xs : Bytes) : os2i (x :: xs) = x.toNat * 256 ^ xs.length + os2i xs :=
  Lemmas.Codec.val_cons x xs

theorem os2i_snoc (xs : Bytes) (x : UInt8) : os2i (xs ++ [x]) = os2i xs * 256 + x.toNat := Lemmas.Codec.val_snoc xs x

theorem os2i_lt (b : Bytes) : os2i b < 256 ^ b.length := Lemmas.Codec.val_lt b

theorem i2os_os2i (b : Bytes) (k : Nat) (h : b.length = k) : i2os (os2i b) k = b := h ▸ Lemmas.Codec.bytes_val b

/-! ### rand_add / rand_inc -/

theorem toNat_ofNat_mod (n : Nat) : (UInt8.ofNat (n % 256)).toNat = n % 256 := by
  rw [UInt8.toNat_ofNat']; omega

/-- the adders recurse from the least-significant byte, so the strings are read reversed -/
theorem randAddRev_spec : ∀ (a b : List UInt8) (c : Nat), a.length = b.length →
    os2i (randAddRev a b c).1.reverse + (randAddRev a b c).2 * 256 ^ a.length = os2i a.reverse + os2i b.reverse + c
    ∧ (randAddRev a b c).1.length = a.length ∧ (c ≤ 1 → (randAddRev a b c).2 ≤ 1) := by
  intro a
  induction a with
  | nil => intro b c h; cases b <;> simp_all [randAddRev, os2i_nil]
  | cons x xs ih =>
    intro b c h
    cases b with
    | nil => simp at h
    | cons y ys =>
      simp only [List.length_cons, Nat.add_right_cancel_iff] at h
      have hx : x.toNat < 256 := x.toNat_lt
      have hy : y.toNat < 256 := y.toNat_lt
      obtain ⟨h1, h2, h3⟩ := ih ys ((x.toNat + y.toNat + c) / 256) h
      simp only [randAddRev, List.reverse_cons, os2i_snoc, List.length_cons, toNat_ofNat_mod]
      refine ⟨?_, by omega, fun hc => h3 (by omega)⟩
      rw [Nat.pow_succ, ← Nat.mul_assoc]
      generalize (randAddRev xs ys ((x.toNat + y.toNat + c) / 256)).2 * 256 ^ xs.length = T at *
      omega

theorem os2i_replicate_zero (n : Nat) : os2i (List.replicate n 0) = 0 := by
  induction n with
  | zero => rfl
  | succ n ih => rw [List.replicate_succ, os2i_cons, ih, UInt8.toNat_zero, Nat.zero_mul]

/-- `d + 255 < 2 ^ 32`: the `unsigned int` accumulator of rand_inc does not wrap -/
theorem randIncRev_eq : ∀ (a : List UInt8) (d : Nat), d + 255 < 2 ^ 32 →
    randIncRev a d = randAddRev a (List.replicate a.length 0) d := by
  intro a
  induction a with
  | nil => intro d _; rfl
  | cons x xs ih =>
    intro d hd
    have hx : x.toNat < 256 := x.toNat_lt
    have hs : (x.toNat + d) % 2 ^ 32 = x.toNat + d := Nat.mod_eq_of_lt (by omega)
    simp only [randIncRev, List.length_cons, List.replicate_succ, randAddRev, hs, UInt8.toNat_zero, Nat.add_zero]
    rw [ih _ (by omega)]

theorem randAdd_spec (a b : Bytes) (n : Nat) (ha : a.length = n) (hb : b.length = n) :
    os2i (randAdd a b).1 + (randAdd a b).2 * 256 ^ n = os2i a + os2i b
    ∧ (randAdd a b).1.length = n ∧ (randAdd a b).2 ≤ 1 := by
  subst ha
  obtain ⟨h1, h2, h3⟩ := randAddRev_spec a.reverse b.reverse 0 (by simpa using hb.symm)
  simpa [randAdd] using And.intro h1 (And.intro h2 (h3 (by omega)))

theorem randInc_spec (a : Bytes) (d n : Nat) (ha : a.length = n) (hd : d + 255 < 2 ^ 32) :
    os2i (randInc a d).1 + (randInc a d).2 * 256 ^ n = os2i a + d ∧ (randInc a d).1.length = n := by
  subst ha
  obtain ⟨h1, h2, -⟩ := randAddRev_spec a.reverse (List.replicate a.reverse.length 0) d (by simp)
  rw [List.reverse_replicate, os2i_replicate_zero, Nat.add_zero] at h1
  simpa [randInc, randIncRev_eq _ d hd] using And.intro h1 h2

theorem eq_mod_of_carry (v c P S : Nat) (h : v + c * P = S) (hv : v < P) : v = S % P := by
  rw [← h, Nat.add_mul_mod_self_right, Nat.mod_eq_of_lt hv]

theorem randAdd_mod (a b : Bytes) (h : a.length = b.length) :
    os2i (randAdd a b).1 = (os2i a + os2i b) % 256 ^ a.length := by
  obtain ⟨h1, h2, _⟩ := randAdd_spec a b _ rfl h.symm
  exact eq_mod_of_carry _ _ _ _ h1 (h2 ▸ os2i_lt _)

theorem randInc_mod (a : Bytes) (d : Nat) (hd : d + 255 < 2 ^ 32) :
    os2i (randInc a d).1 = (os2i a + d) % 256 ^ a.length := by
  obtain ⟨h1, h2⟩ := randInc_spec a d _ rfl hd
  exact eq_mod_of_carry _ _ _ _ h1 (h2 ▸ os2i_lt _)

/-! ### rand_hash / rand_gen: Hash_df and Hashgen -/

theorem take_flatMap_succ {o : Nat} (f : Nat → Bytes) (hf : ∀ i, (f i).length = o) (n rem : Nat) :
    ((List.range (n + 1)).flatMap f).take rem
      = (f 0).take (min o rem) ++ ((List.range n).flatMap (fun k => f (k + 1))).take (rem - o) := by
  rw [List.range_succ_eq_map, List.flatMap_cons, List.flatMap_map, List.take_append, hf 0]
  congr 1
  by_cases h : rem ≤ o
  · rw [Nat.min_eq_right h]
  · rw [Nat.min_eq_left (by omega), List.take_of_length_le (by rw [hf]; omega),
      List.take_of_length_le (by rw [hf]; omega)]

theorem randHash_go (hash : Bytes → Bytes) (hlen : ∀ b, (hash b).length = 32) (inp j : Bytes) :
    ∀ (n i rem : Nat) (acc : Bytes),
      randHash.go (mcfg hash) inp j i n rem acc
        = acc ++ ((List.range n).flatMap fun k =>
            hash ([UInt8.ofNat ((1 + (i + k)) % 256)] ++ j ++ inp)).take rem := by
  intro n
  induction n with
  | zero => intro i rem acc; simp [randHash.go]
  | succ n ih =>
    intro i rem acc
    rw [randHash.go, ih, take_flatMap_succ _ (fun _ => hlen _)]
    have e : ∀ k, 1 + (i + 1 + k) = 1 + (i + (k + 1)) := by intro k; omega
    simp only [mcfg, List.append_assoc, Nat.add_zero, e]

theorem i2os_mod (n k : Nat) : i2os (n % 256 ^ k) k = i2os n k := Lemmas.Codec.bytes_mod n k

/-- no bound on `n`: the counter byte and the 32-bit length field wrap identically on both sides -/
theorem randHash_eq_hashDf_all (hash : Bytes → Bytes) (hlen : ∀ b, (hash b).length = 32) (inp : Bytes) (n : Nat) :
    randHash (mcfg hash) n inp = HashDrbg.hashDf (sparams hash) inp n := by
  have hj : i2os (8 * n % 2 ^ 32) 4 = i2os (8 * n) 4 := i2os_mod (8 * n) 4
  have e : ∀ k, 1 + (0 + k) = k + 1 := by intro k; omega
  simp only [randHash, HashDrbg.hashDf, hj]
  rw [randHash_go hash hlen]
  simp only [mcfg, sparams, List.nil_append, e]

theorem randHash_eq_hashDf (hash : Bytes → Bytes) (hlen : ∀ b, (hash b).length = 32) (inp : Bytes) (n : Nat)
    (_hn : 8 * n < 2 ^ 32) (_hcnt : (n + 31) / 32 ≤ 255) :
    randHash (mcfg hash) n inp = HashDrbg.hashDf (sparams hash) inp n :=
  randHash_eq_hashDf_all hash hlen inp n

theorem randGen_go (hash : Bytes → Bytes) (hlen : ∀ b, (hash b).length = 32) :
    ∀ (n : Nat) (data : Bytes) (rem : Nat) (acc : Bytes), data.length = 55 →
      randGen.go (mcfg hash) n data rem acc
        = acc ++ ((List.range n).flatMap fun k =>
            hash (i2os ((os2i data + k) % 256 ^ 55) 55)).take rem := by
  intro n
  induction n with
  | zero => intro data rem acc _; simp [randGen.go]
  | succ n ih =>
    intro data rem acc hd
    have hl : (randInc data 1).1.length = 55 := (randInc_spec data 1 55 hd (by omega)).2
    have hv : os2i (randInc data 1).1 = (os2i data + 1) % 256 ^ 55 := by
      rw [randInc_mod data 1 (by omega), hd]
    have h0 : i2os ((os2i data + 0) % 256 ^ 55) 55 = data := by
      have := os2i_lt data
      rw [hd] at this
      rw [Nat.add_zero, Nat.mod_eq_of_lt this]
      exact i2os_os2i data 55 hd
    have e : ∀ k, ((os2i data + 1) % 256 ^ 55 + k) % 256 ^ 55 = (os2i data + (k + 1)) % 256 ^ 55 := by
      intro k; omega
    rw [randGen.go, ih _ _ _ hl, take_flatMap_succ _ (fun _ => hlen _), hv, h0]
    simp only [mcfg, List.append_assoc, e]

theorem randGen_eq_hashgen (hash : Bytes → Bytes) (hlen : ∀ b, (hash b).length = 32) (v : Bytes)
    (hv : v.length = 55) (n : Nat) :
    randGen (mcfg hash) v n = HashDrbg.hashgen (sparams hash) (os2i v) n := by
  simp only [randGen, HashDrbg.hashgen]
  rw [randGen_go hash hlen _ _ _ _ hv]
  simp only [mcfg, sparams, List.nil_append, HashDrbg.modulus]

/-! ### rand_bytes: the state update -/

theorem os2i_split (l : Bytes) (k n : Nat) (h : l.length = k + n) :
    os2i l = os2i (l.take k) * 256 ^ n + os2i (l.drop k) ∧ os2i (l.drop k) < 256 ^ n := by
  have hn : (l.drop k).length = n := by rw [List.length_drop]; omega
  refine ⟨?_, hn ▸ os2i_lt _⟩
  conv => lhs; rw [← List.take_append_drop k l]
  rw [os2i_append, hn]

/-- the 56 bytes (prefix byte, V) written by rand_bytes -/
def nextV (v cc h : Bytes) (ctr : Nat) : Bytes :=
  let v1 := (randAdd v cc).1
  let r := randAdd (v1.drop 23) h
  let hi := (randInc ([0x03] ++ v1.take 23) r.2).1
  (randInc (hi ++ r.1) ctr).1

theorem randBytes_eq (hash : Bytes → Bytes) (x : Ctx) (n : Nat) :
    randBytes (mcfg hash) x n =
      if n > 65536 then none
      else some (randGen (mcfg hash) ((x.rand.drop 1).take 55) n,
        { rand := nextV ((x.rand.drop 1).take 55) ((x.rand.drop 56).take 55)
                    (hash ([0x03] ++ (x.rand.drop 1).take 55)) x.counter ++ (x.rand.drop 56).take 55,
          counter := x.counter + 1, seeded := x.seeded }) := by
  simp only [randBytes, mcfg, nextV]

/-- the prefix byte absorbs the carries -/
theorem update_spec (v cc h : Bytes) (ctr : Nat) (hv : v.length = 55) (hc : cc.length = 55)
    (hh : h.length = 32) (hctr : ctr + 255 < 2 ^ 32) :
    (nextV v cc h ctr).length = 56
    ∧ os2i ((nextV v cc h ctr).drop 1) = (os2i v + os2i h + os2i cc + ctr) % 256 ^ 55 := by
  simp only [nextV]
  obtain ⟨a1, a2, -⟩ := randAdd_spec v cc 55 hv hc
  generalize (randAdd v cc).1 = v1 at *
  obtain ⟨e1, -⟩ := os2i_split v1 23 32 a2
  obtain ⟨b1, b2, b3⟩ := randAdd_spec (v1.drop 23) h 32 (by rw [List.length_drop]; omega) hh
  generalize randAdd (v1.drop 23) h = r at *
  obtain ⟨c1, c2⟩ := randInc_spec ([0x03] ++ v1.take 23) r.2 24 (by simp; omega) (by omega)
  generalize (randInc ([0x03] ++ v1.take 23) r.2).1 = hi at *
  have c3 : os2i ([0x03] ++ v1.take 23) = 3 * 256 ^ 23 + os2i (v1.take 23) := by
    rw [List.singleton_append, os2i_cons, List.length_take, a2]; rfl
  rw [c3] at c1
  obtain ⟨d1, d2⟩ := randInc_spec (hi ++ r.1) ctr 56 (by simp; omega) hctr
  rw [os2i_append, b2] at d1
  generalize (randInc (hi ++ r.1) ctr).1 = all at *
  obtain ⟨e2, l2⟩ := os2i_split all 1 55 d2
  refine ⟨d2, ?_⟩
  -- the value of all 56 bytes is 3·256^55 + V + C + H + ctr up to multiples of 256^55 (the carries)
  have key : os2i (all.drop 1) + 256 ^ 55 * (os2i (all.take 1) + 256 * (randInc (hi ++ r.1) ctr).2
        + 256 * (randInc ([0x03] ++ v1.take 23) r.2).2 + (randAdd v cc).2)
      = os2i v + os2i h + os2i cc + ctr + 256 ^ 55 * 3 := by
    omega
  rw [← Nat.add_mul_mod_self_left _ (256 ^ 55) 3, ← key, Nat.add_mul_mod_self_left, Nat.mod_eq_of_lt l2]

/-! ### the refinement -/

theorem hashDf_length (hash : Bytes → Bytes) (hlen : ∀ b, (hash b).length = 32) (inp : Bytes) (n : Nat) :
    (HashDrbg.hashDf (sparams hash) inp n).length = n :=
  Lemmas.Loops.length_take_flatMap_ceil 32 (by decide) _ _ (fun _ => hlen _) n List.length_range

theorem abs_mk (p cc : Bytes) (ctr : Nat) (hp : p.length = 56) (hc : cc.length = 55) :
    Abs { rand := p ++ cc, counter := ctr, seeded := true } { v := os2i (p.drop 1), c := os2i cc, ctr := ctr } := by
  have e1 : ((p ++ cc).drop 1).take 55 = p.drop 1 := by
    rw [List.drop_append_of_le_length (by omega), List.take_append_of_le_length (by simp; omega),
      List.take_of_length_le (by simp; omega)]
  have e2 : ((p ++ cc).drop 56).take 55 = cc := by
    rw [← hp, List.drop_left, List.take_of_length_le (by omega)]
  exact ⟨rfl, by simp; omega, congrArg os2i e1, congrArg os2i e2, rfl⟩

/-- the context written by rand_seed represents the state computed by instantiate / reseed -/
theorem seed_abs (hash : Bytes → Bytes) (hlen : ∀ b, (hash b).length = 32) (inp : Bytes) :
    let v := HashDrbg.hashDf (sparams hash) inp 55
    let cc := HashDrbg.hashDf (sparams hash) ([0x00] ++ v) 55
    Abs { rand := [0x00] ++ v ++ cc, counter := 1, seeded := true }
      { v := os2i v,
        c := os2i (HashDrbg.hashDf (sparams hash) ([0x00] ++ i2os (os2i v) 55) 55), ctr := 1 } := by
  intro v cc
  have hv : v.length = 55 := hashDf_length hash hlen inp 55
  rw [i2os_os2i v 55 hv]
  exact abs_mk ([0x00] ++ v) cc 1 (by simp; omega) (hashDf_length hash hlen _ 55)

theorem step_seed (hash : Bytes → Bytes) (hlen : ∀ b, (hash b).length = 32) (x : Ctx) (d : Bytes)
    (hd : d.isEmpty = false) :
    step (mcfg hash) x (.seed d) =
      (let v := HashDrbg.hashDf (sparams hash) (if x.seeded then [0x01] ++ (x.rand.drop 1).take 55 ++ d else d) 55
       { rand := [0x00] ++ v ++ HashDrbg.hashDf (sparams hash) ([0x00] ++ v) 55, counter := 1, seeded := true },
       .ok []) := by
  simp only [step, randSeed, hd, Bool.false_eq_true, if_false]
  cases x.seeded <;>
    simp only [mcfg, Bool.not_false, Bool.not_true, Bool.false_eq_true, if_true, if_false,
      ← randHash_eq_hashDf_all hash hlen]

theorem first_seed_refines (hash : Bytes → Bytes) (hlen : ∀ b, (hash b).length = 32) (d : Bytes) (hd : d ≠ []) :
    (step (mcfg hash) init (.seed d)).2 = (HashDrbg.step (sparams hash) none (.seed d)).2
    ∧ ∃ s', (HashDrbg.step (sparams hash) none (.seed d)).1 = some s' ∧ Abs (step (mcfg hash) init (.seed d)).1 s'
        ∧ s'.ctr = 1 := by
  have hne : d.isEmpty = false := by cases d <;> simp_all
  rw [step_seed hash hlen init d hne]
  simp only [HashDrbg.step, hne, Bool.false_eq_true, if_false]
  exact ⟨trivial, _, rfl, seed_abs hash hlen d, rfl⟩

/-- `hctr`: the proof needs ctr + 255 < 2^32 (`update_spec`); the bound is 2^31 because ctx->counter and the digit of rand_inc are
    C `int`, so the model's reduction mod 2^32 mirrors the code only below 2^31 -/
theorem step_refines (hash : Bytes → Bytes) (hlen : ∀ b, (hash b).length = 32) (x : Ctx) (s : HashDrbg.State)
    (habs : Abs x s) (hctr : s.ctr + 256 < 2 ^ 31) (op : Op) :
    (step (mcfg hash) x op).2 = (HashDrbg.step (sparams hash) (some s) op).2
    ∧ ∃ s', (HashDrbg.step (sparams hash) (some s) op).1 = some s' ∧ Abs (step (mcfg hash) x op).1 s'
        ∧ s'.ctr ≤ s.ctr + 1 := by
  obtain ⟨hseeded, hrl, hV, hC, hK⟩ := id habs
  have hvl : ((x.rand.drop 1).take 55).length = 55 := by simp; omega
  have hcl : ((x.rand.drop 56).take 55).length = 55 := by simp; omega
  have hi : i2os s.v 55 = (x.rand.drop 1).take 55 := by
    rw [← hV]; exact i2os_os2i _ 55 hvl
  cases op with
  | seed d =>
    cases hne : d.isEmpty
    · rw [step_seed hash hlen x d hne, hseeded]
      simp only [HashDrbg.step, hne, Bool.false_eq_true, if_false, if_true]
      refine ⟨trivial, _, rfl, ?_, by simp [HashDrbg.reseed]⟩
      have := seed_abs hash hlen ([0x01] ++ (x.rand.drop 1).take 55 ++ d)
      simpa only [HashDrbg.reseed, sparams, hi] using this
    · simp only [step, randSeed, HashDrbg.step, hne, if_true]
      exact ⟨trivial, s, rfl, habs, by omega⟩
  | gen n =>
    by_cases hn : n > 65536
    · have h2 : n > (sparams hash).maxReq := hn
      simp only [step, randBytes_eq, HashDrbg.step, HashDrbg.generate, if_pos hn, if_pos h2]
      exact ⟨trivial, s, rfl, habs, by omega⟩
    · obtain ⟨hall, hval⟩ := update_spec ((x.rand.drop 1).take 55) ((x.rand.drop 56).take 55)
        (hash ([0x03] ++ (x.rand.drop 1).take 55)) x.counter hvl hcl (hlen _) (by omega)
      have h2 : ¬ n > (sparams hash).maxReq := hn
      simp only [step, randBytes_eq, HashDrbg.step, HashDrbg.generate, if_neg hn, if_neg h2]
      generalize nextV ((x.rand.drop 1).take 55) ((x.rand.drop 56).take 55)
        (hash ([0x03] ++ (x.rand.drop 1).take 55)) x.counter = all at hall hval ⊢
      rw [randGen_eq_hashgen hash hlen _ hvl, hV]
      rw [hseeded, hK]
      refine ⟨rfl, _, rfl, ?_, Nat.le_refl _⟩
      have := abs_mk all ((x.rand.drop 56).take 55) (s.ctr + 1) hall hcl
      rw [hval, hC, hV, hK] at this
      simpa only [sparams, HashDrbg.modulus, hi] using this

theorem run_refines (hash : Bytes → Bytes) (hlen : ∀ b, (hash b).length = 32) :
    ∀ (ops : List Op) (x : Ctx) (s : HashDrbg.State), Abs x s → s.ctr + ops.length + 256 < 2 ^ 31 →
      run (mcfg hash) x ops = HashDrbg.run (sparams hash) (some s) ops := by
  intro ops
  induction ops with
  | nil => intro x s _ _; rfl
  | cons op ops ih =>
    intro x s habs hlen'
    simp only [List.length_cons] at hlen'
    obtain ⟨h1, s', hs', habs', hc⟩ := step_refines hash hlen x s habs (by omega) op
    simp only [run, HashDrbg.run]
    rw [h1, hs', ih _ s' habs' (by omega)]

end Relic.Model.Drbg
