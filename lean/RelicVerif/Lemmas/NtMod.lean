/- Proofs about Model/NtMod.lean: bn_srt returns ⌊√a⌋ and terminates within the supplied fuel. -/
import RelicVerif.Model.NtMod
import RelicVerif.Lemmas.NatBits
import Mathlib.Data.Nat.Sqrt
import Mathlib.Tactic.Linarith
import Mathlib.Tactic.Ring

namespace Relic.Lemmas.NtMod
open Relic.Model.NtMod

theorem srtLoop_last (a fuel h l : Nat) (hl : l * l ≤ a) (hh : a < h * h) (hd : h - l ≤ 1) :
    ∃ r, srtLoop a (fuel + 1) h l = some r ∧ r * r ≤ a ∧ a < (r + 1) * (r + 1) := by
  have hlh := Nat.mul_self_lt_mul_self_iff.1 (Nat.lt_of_le_of_lt hl hh)
  have hm : (h + l) / 2 = l := by omega
  have hh1 : h = l + 1 := by omega
  have hd' : ¬ (h - l > 1) := by omega
  subst hh1
  refine ⟨l, ?_, hl, hh⟩
  simp only [srtLoop, hm]
  have h1 : ¬ (l * l > a) := by omega
  simp only [h1, if_false, hd']
  split <;> rfl

theorem srtLoop_spec (a : Nat) : ∀ (fuel h l : Nat), l * l ≤ a → a < h * h → h - l ≤ 2 ^ fuel →
    ∃ r, srtLoop a (fuel + 1) h l = some r ∧ r * r ≤ a ∧ a < (r + 1) * (r + 1) := by
  intro fuel
  induction fuel with
  | zero =>
    intro h l hl hh hd
    exact srtLoop_last a 0 h l hl hh (by simpa using hd)
  | succ n ih =>
    intro h l hl hh hd
    by_cases hd1 : h - l > 1
    · have hlh := Nat.mul_self_lt_mul_self_iff.1 (Nat.lt_of_le_of_lt hl hh)
      have hp : 2 ^ (n + 1) = 2 * 2 ^ n := by rw [Nat.pow_succ]; omega
      have hml : l ≤ (h + l) / 2 := by omega
      have hmh : (h + l) / 2 < h := by omega
      rw [srtLoop]
      simp only [hd1, if_true]
      by_cases h1 : (h + l) / 2 * ((h + l) / 2) > a
      · simp only [h1, if_true]
        exact ih ((h + l) / 2) l hl h1 (by omega)
      · simp only [h1, if_false]
        by_cases h2 : (h + l) / 2 * ((h + l) / 2) < a
        · simp only [h2, if_true]
          exact ih h ((h + l) / 2) (by omega) hh (by omega)
        · simp only [h2, if_false]
          refine ⟨(h + l) / 2, rfl, by omega, ?_⟩
          have : (h + l) / 2 * ((h + l) / 2) = a := by omega
          rw [← this]
          exact Nat.mul_self_lt_mul_self (Nat.lt_succ_self _)
    · exact srtLoop_last a (n + 1) h l hl hh (by omega)

theorem bitLen_lt_toNat (z : Int) (hz : 0 ≤ z) : z < (2 : Int) ^ bitLen z.toNat := by
  conv_lhs => rw [← Int.toNat_of_nonneg hz]
  exact_mod_cast NatBits.lt_two_pow_bl z.toNat

theorem pow_half_sq (b : Nat) (hb : b % 2 = 0) : 2 ^ (b / 2) * 2 ^ (b / 2) = 2 ^ b := by
  rw [← Nat.pow_add]; congr 1; omega

theorem srtInit_spec (a : Nat) :
    (srtInit a).2.2 * (srtInit a).2.2 ≤ a ∧ a < (srtInit a).2.1 * (srtInit a).2.1 ∧
    (srtInit a).2.1 - (srtInit a).2.2 ≤ 2 ^ ((srtInit a).1 / 2) := by
  simp only [srtInit]
  have heven : (bitLen a + bitLen a % 2) % 2 = 0 := by omega
  refine ⟨?_, ?_, Nat.sub_le _ _⟩
  · split
    · rename_i hb
      have ha : a ≠ 0 := by
        intro h0; subst h0; simp [bitLen] at hb
      have h1 : bitLen a ≥ 1 := NatBits.bl_pos ha
      rw [← Nat.pow_add]
      calc 2 ^ ((bitLen a + bitLen a % 2) / 2 - 1 + ((bitLen a + bitLen a % 2) / 2 - 1))
          ≤ 2 ^ (bitLen a - 1) := Nat.pow_le_pow_right (by omega) (by omega)
        _ ≤ a := NatBits.two_pow_pred_bl_le ha
    · omega
  · rw [pow_half_sq _ heven]
    calc a < 2 ^ bitLen a := NatBits.lt_two_pow_bl a
      _ ≤ 2 ^ (bitLen a + bitLen a % 2) := Nat.pow_le_pow_right (by omega) (by omega)

theorem bnSrt_spec (a : Nat) : ∃ r, bnSrt (a : Int) = some r ∧ r * r ≤ a ∧ a < (r + 1) * (r + 1) := by
  have hi := srtInit_spec a
  have := srtLoop_spec a ((srtInit a).1 / 2) (srtInit a).2.1 (srtInit a).2.2 hi.1 hi.2.1 hi.2.2
  simpa [bnSrt, srtFuel] using this

theorem bnSrt_eq_sqrt (a : Nat) : bnSrt (a : Int) = some (Nat.sqrt a) := by
  obtain ⟨r, hr, h1, h2⟩ := bnSrt_spec a
  rw [hr, Nat.eq_sqrt.2 ⟨h1, h2⟩]

end Relic.Lemmas.NtMod
