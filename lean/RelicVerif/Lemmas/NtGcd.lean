/-
Proofs for Model/NtGcd.lean, the Euclidean family: bn_gcd_basic, bn_gcd_ext_basic / ext_dig, bn_mod_inv, bn_mod_inv_sim
compute the mathematical gcd, Bezout cofactors and modular inverses for all integers (the supplied fuel is sufficient).
-/
import Mathlib.Data.Int.GCD
import Mathlib.Data.Nat.GCD.Basic
import Mathlib.Tactic.Ring
import Mathlib.Tactic.LinearCombination
import RelicVerif.Model.NtGcd

namespace Relic.Lemmas.NtGcd
open Relic.Model.NtGcd

theorem gcdBasicLoop_eq (f u v : Nat) (h : v < f) : gcdBasicLoop f u v = Nat.gcd u v := by
  induction f generalizing u v with
  | zero => omega
  | succ f ih =>
    unfold gcdBasicLoop
    split
    · next hv => subst hv; simp
    · next hv =>
      have : u % v < v := Nat.mod_lt _ (Nat.pos_of_ne_zero hv)
      rw [ih v (u % v) (by omega), Nat.gcd_comm u v, Nat.gcd_rec v u, Nat.gcd_comm]

theorem extBasicLoop_zero (f : Nat) (u d x1 e y1 : Int) : extBasicLoop f u 0 d x1 e y1 = (u, d, e) := by
  cases f <;> simp [extBasicLoop]

theorem extBasicLoop_succ (f : Nat) (u v d x1 e y1 : Int) (hv : v ≠ 0) :
    extBasicLoop (f + 1) u v d x1 e y1 = extBasicLoop f v (u % v) x1 (d - u / v * x1) y1 (e - u / v * y1) := by
  rw [extBasicLoop, if_neg hv]

theorem bezout_emod (A B u v d x1 e y1 : Int) (hu : u = A * d + B * e) (hv : v = A * x1 + B * y1) :
    u % v = A * (d - u / v * x1) + B * (e - u / v * y1) := by
  linear_combination Int.emod_add_mul_ediv u v + hu - u / v * hv

theorem extBasicLoop_spec (A B : Int) (f : Nat) (u v d x1 e y1 : Int) (hu0 : 0 ≤ u) (hv0 : 0 ≤ v)
    (hf : v.toNat < f) (hu : u = A * d + B * e) (hv : v = A * x1 + B * y1) :
    (extBasicLoop f u v d x1 e y1).1 = (Int.gcd u v : Int) ∧
    (extBasicLoop f u v d x1 e y1).1 =
      A * (extBasicLoop f u v d x1 e y1).2.1 + B * (extBasicLoop f u v d x1 e y1).2.2 := by
  induction f generalizing u v d x1 e y1 with
  | zero => omega
  | succ f ih =>
    rcases eq_or_ne v 0 with rfl | hvne
    · rw [extBasicLoop_zero, Int.gcd_zero_right, Int.natAbs_of_nonneg hu0]
      exact ⟨rfl, hu⟩
    · have hr0 := Int.emod_nonneg u hvne
      have hrv := Int.emod_lt_of_pos u (by omega : 0 < v)
      rw [extBasicLoop_succ _ _ _ _ _ _ _ hvne, ← Int.gcd_emod, Int.gcd_comm]
      exact ih v (u % v) x1 _ y1 _ hv0 hr0 (by omega) hv (bezout_emod A B u v d x1 e y1 hu hv)

/-- sign pattern and size of the first cofactor: d = s·p, x1 = −s·r with s = ±1, p, r ≥ 0, and p·v + r·u is invariant;
the loop returns the x1 of the state whose remainder vanishes, where u ≥ 2 unless r = 0 -/
theorem extBasicLoop_dbound (n : Int) (f : Nat) (u v d x1 e y1 s p r : Int) (hs : s = 1 ∨ s = -1) (hp : 0 ≤ p) (hr : 0 ≤ r)
    (hd : d = s * p) (hx : x1 = -s * r) (hu0 : 0 ≤ u) (hv0 : 0 < v) (hf : v.toNat < f)
    (hn : p * v + r * u = n) (hord : r = 0 ∨ v < u) :
    -n ≤ 2 * (extBasicLoop f u v d x1 e y1).2.1 ∧ 2 * (extBasicLoop f u v d x1 e y1).2.1 ≤ n := by
  induction f generalizing u v d x1 e y1 s p r with
  | zero => omega
  | succ f ih =>
    have hrv := Int.emod_lt_of_pos u hv0
    have hr0 := Int.emod_nonneg u hv0.ne'
    have hdiv := Int.emod_add_mul_ediv u v
    rw [extBasicLoop_succ _ _ _ _ _ _ _ hv0.ne']
    rcases eq_or_ne (u % v) 0 with h0 | h0
    · have h2 := Int.mul_nonneg hp hv0.le
      have h2r : 2 * r ≤ n := by
        rcases hord with rfl | hvu
        · omega
        · have h1 := Int.mul_le_mul_of_nonneg_left (by omega : 2 ≤ u) hr
          omega
      rw [h0, extBasicLoop_zero]
      simp only [hx]
      rcases hs with rfl | rfl <;> omega
    · have hq : 0 ≤ u / v := Int.ediv_nonneg hu0 hv0.le
      refine ih v (u % v) x1 _ y1 _ (-s) r (p + u / v * r) (by omega) hr (Int.add_nonneg hp (Int.mul_nonneg hq hr)) hx
        (by rw [hd, hx]; ring) hv0.le (by omega) (by omega) ?_ (Or.inr hrv)
      linear_combination hn + r * hdiv

theorem natAbs_cast_mul_sign (a d : Int) : a * (if a < 0 then -d else d) = (a.natAbs : Int) * d := by
  split
  · next h => rw [Int.ofNat_natAbs_of_nonpos (by omega)]; ring
  · next h => rw [Int.natAbs_of_nonneg (by omega)]

theorem extSign_bezout (a b : Int) (r : Int × Int × Int) :
    a * (extSign a b r).2.1 + b * (extSign a b r).2.2 = (a.natAbs : Int) * r.2.1 + (b.natAbs : Int) * r.2.2 := by
  unfold extSign
  simp only []
  rw [natAbs_cast_mul_sign, natAbs_cast_mul_sign]

theorem gcdExtBasic_spec (a b : Int) :
    (gcdExtBasic a b).1 = (Int.gcd a b : Int) ∧
    a * (gcdExtBasic a b).2.1 + b * (gcdExtBasic a b).2.2 = (gcdExtBasic a b).1 := by
  unfold gcdExtBasic
  rw [extSign_bezout]
  unfold extSign gcdExtBasicImp
  split
  · next h => subst h; simp
  · split
    · next h => subst h; simp
    · have h := extBasicLoop_spec (a.natAbs : Int) (b.natAbs : Int) (b.natAbs + 1) a.natAbs b.natAbs 1 0 0 1
        (Int.natCast_nonneg _) (Int.natCast_nonneg _) (by simp) (by ring) (by ring)
      exact ⟨h.1, h.2.symm⟩

theorem gcdExtBasic_dbound (a b : Int) (ha : a ≠ 0) (hb : b ≠ 0) :
    -(b.natAbs : Int) ≤ 2 * (gcdExtBasic a b).2.1 ∧ 2 * (gcdExtBasic a b).2.1 ≤ (b.natAbs : Int) := by
  have h := extBasicLoop_dbound (b.natAbs : Int) (b.natAbs + 1) a.natAbs b.natAbs 1 0 0 1 1 1 0 (Or.inl rfl)
    (by omega) (by omega) (by ring) (by ring) (by omega) (by omega) (by simp) (by ring) (Or.inl rfl)
  unfold gcdExtBasic extSign gcdExtBasicImp
  simp only [ha, hb, if_false]
  split <;> omega

theorem gcdExtDig_spec (a : Int) (b : Nat) :
    (gcdExtDig a b).1 = (Int.gcd a b : Int) ∧
    a * (gcdExtDig a b).2.1 + (b : Int) * (gcdExtDig a b).2.2 = (gcdExtDig a b).1 := by
  unfold gcdExtDig extSign
  simp only [Int.lt_irrefl, if_false]
  rw [natAbs_cast_mul_sign]
  unfold gcdExtDigImp
  split
  · next h => subst h; simp
  · split
    · next h => subst h; simp
    · next ha hb =>
      -- the state after the first division step satisfies the invariant of the loop
      have hb0 : (b : Int) ≠ 0 := by omega
      have hnn := Int.emod_nonneg (a.natAbs : Int) hb0
      have h := extBasicLoop_spec (a.natAbs : Int) (b : Int) (((a.natAbs : Int) % (b : Int)).toNat + 1) b
        ((a.natAbs : Int) % (b : Int)) 0 (1 - (a.natAbs : Int) / (b : Int) * 0) 1 (0 - (a.natAbs : Int) / (b : Int) * 1)
        (Int.natCast_nonneg _) hnn (Nat.lt_succ_self _) (by ring) (bezout_emod _ _ _ _ 1 0 0 1 (by ring) (by ring))
      rw [Int.gcd_comm, Int.gcd_emod] at h
      exact ⟨h.1, h.2.symm⟩

theorem modInv_spec (a b : Int) (hb : 1 < b) :
    (∀ c, modInv a b = some c → 0 ≤ c ∧ c < b ∧ (a * c) % b = 1) ∧
    (modInv a b = none ↔ Int.gcd a b ≠ 1) := by
  obtain ⟨ht, hbez⟩ := gcdExtBasic_spec a b
  have hbd := gcdExtBasic_dbound a b
  unfold modInv
  generalize gcdExtBasic a b = r at ht hbez hbd ⊢
  obtain ⟨t, d, e⟩ := r
  simp only [] at ht hbez hbd ⊢
  subst ht
  constructor
  · intro c hc
    split at hc
    · next ht1 =>
      injection hc with hc
      subst hc
      -- a ≠ 0 as gcd(0, b) = b > 1; then 2·|d| ≤ b, so one addition of b makes d non-negative
      have ha0 : a ≠ 0 := by
        rintro rfl
        rw [Int.gcd_zero_left] at ht1
        omega
      have hd := hbd ha0 (by omega)
      refine ⟨by split <;> omega, by split <;> omega, ?_⟩
      rw [show a * (if d < 0 then d + b else d) = 1 + b * ((if d < 0 then a else 0) - e) by
        split <;> linear_combination hbez + ht1, Int.add_mul_emod_self_left]
      exact Int.emod_eq_of_lt (by omega) hb
    · cases hc
  · rw [Ne, ← Nat.cast_eq_one (R := Int)]
    split <;> simp [*]

def IsInv (b x y : Int) : Prop := (x * y) % b = 1 ∧ 0 ≤ y ∧ y < b

theorem isInv_fmod (b : Int) (hb : 1 < b) (x v : Int) (h : (x * v) % b = 1) : IsInv b x (Int.fmod v b) := by
  rw [Int.fmod_eq_emod_of_nonneg _ (by omega)]
  exact ⟨by rwa [Int.mul_emod, Int.emod_emod, ← Int.mul_emod], Int.emod_nonneg _ (by omega), Int.emod_lt_of_pos _ (by omega)⟩

theorem simGo_spec (b : Int) (hb : 1 < b) (xs : List Int) (cPrev u : Int) (invs : List Int)
    (h : simGo b cPrev xs = some (u, invs)) :
    IsInv b cPrev u ∧ List.Forall₂ (IsInv b) xs invs := by
  induction xs generalizing cPrev u invs with
  | nil =>
    obtain ⟨c, hm, hc⟩ := Option.map_eq_some_iff.1 h
    cases hc
    have := (modInv_spec cPrev b hb).1 _ hm
    exact ⟨⟨this.2.2, this.1, this.2.1⟩, List.Forall₂.nil⟩
  | cons x xs ih =>
    unfold simGo at h
    simp only [] at h
    split at h
    · cases h
    · next u' invs' hr =>
      cases h
      obtain ⟨⟨hcu, _, _⟩, hall⟩ := ih _ _ _ hr
      -- u' inverts the reduced prefix product c = cPrev·x mod b, hence cPrev·x itself
      have hcxu : (cPrev * x * u') % b = 1 := by
        rwa [Int.fmod_eq_emod_of_nonneg _ (by omega), Int.mul_emod, Int.emod_emod, ← Int.mul_emod] at hcu
      exact ⟨isInv_fmod b hb _ _ (by rw [← hcxu]; congr 1; ring),
        List.Forall₂.cons (isInv_fmod b hb _ _ (by rw [← hcxu]; congr 1; ring)) hall⟩

end Relic.Lemmas.NtGcd
