/-
bn_smb_jac, multi-digit path: what the approximation loop does to the TRUE pair (X, Y).  If the approximation words agree with X, Y
modulo 2^m, then after i ≤ m steps  ai·X + bi·Y = 2^(k+i)·(n' − 2^(m−i)·c),  ci·X + di·Y = 2^(k+i)·(d' − 2^(m−i)·e): the combinations are
exactly divisible by the power of two that bn_rsh removes, and the quotients agree with the new words n', d' in their low m − i bits, the
bits the `t` updates read (m = w/2, i = w/2 − 2 in the code: agreement modulo 4 at the end, at least 3 bits whenever an update reads
`d ^ (d >> 1)` or `n & d`).  Also the low-half-digit property of the approximation words and (−1)^(bit 1 of d) = χ₄(d) for odd d.
-/
import RelicVerif.Lemmas.NtSmb

namespace Relic.Lemmas.NtSmb
open Relic.Model.NtSmb

/-- the true-pair invariant: k = steps consumed, m = low bits still exact -/
def TInv (X Y : ℤ) (k m : ℕ) (st : Relic.Model.NtSmb.Inner) : Prop :=
  ∃ c e : ℤ, st.ai * X + st.bi * Y = 2 ^ k * ((st.n : ℤ) - 2 ^ m * c) ∧
             st.ci * X + st.di * Y = 2 ^ k * ((st.d : ℤ) - 2 ^ m * e) ∧ st.d % 2 = 1

theorem TInv.d_odd {X Y : ℤ} {k m : ℕ} {st : Inner} (h : TInv X Y k m st) : st.d % 2 = 1 := by
  obtain ⟨-, -, -, -, hd⟩ := h
  exact hd

theorem TInv.swap {X Y : ℤ} {k m : ℕ} {st : Inner} (h : TInv X Y k m st) (hn : st.n % 2 = 1) : TInv X Y k m (swapSt st) := by
  obtain ⟨c, e, hP, hQ, -⟩ := h
  exact ⟨e, c, hQ, hP, hn⟩

/-- subtract-and-halve: one more factor 2 comes out, one low bit of agreement is used up -/
theorem TInv.sub {X Y : ℤ} {k m : ℕ} {st : Inner} (h : TInv X Y k (m + 1) st) (hn : st.n % 2 = 1) (hle : st.d ≤ st.n) :
    TInv X Y (k + 1) m (subSt st) := by
  obtain ⟨c, e, hP, hQ, hd⟩ := h
  have hZ : (st.n : ℤ) - st.d = 2 * (((st.n - st.d) >>> 1 : ℕ) : ℤ) := by
    have h2 : 2 * ((st.n - st.d) >>> 1) = st.n - st.d := by
      rw [Nat.shiftRight_eq_div_pow, pow_one, Nat.mul_div_cancel' (Nat.dvd_of_mod_eq_zero (by omega))]
    have := congrArg (Nat.cast : ℕ → ℤ) h2
    rw [Nat.cast_mul, Nat.cast_sub hle, Nat.cast_ofNat] at this
    exact this.symm
  refine ⟨c - e, 2 * e, ?_, ?_, hd⟩
  · show (st.ai - st.ci) * X + (st.bi - st.di) * Y = 2 ^ (k + 1) * ((((st.n - st.d) >>> 1 : ℕ) : ℤ) - 2 ^ m * (c - e))
    linear_combination hP - hQ + 2 ^ k * hZ
  · show (st.ci + st.ci) * X + (st.di + st.di) * Y = 2 ^ (k + 1) * ((st.d : ℤ) - 2 ^ m * (2 * e))
    linear_combination 2 * hQ

theorem TInv.odd {X Y : ℤ} {k m : ℕ} {st : Inner} (h : TInv X Y k (m + 1) st) (hn : st.n % 2 = 1) :
    TInv X Y (k + 1) m (oddSt st) := by
  unfold oddSt
  split
  · next hlt => exact (h.swap hn).sub h.d_odd (le_of_lt hlt)
  · exact h.sub hn (by omega)

/-- strip of z trailing zeros of n: the factor 2^z moves to the d row, z low bits of agreement are used up -/
theorem TInv.shl {X Y : ℤ} {k m z : ℕ} {st : Inner} (h : TInv X Y k (m + z) st) (hdvd : 2 ^ z ∣ st.n) :
    TInv X Y (k + z) m (shlSt z st) := by
  obtain ⟨c, e, hP, hQ, hd⟩ := h
  have hZ : (st.n : ℤ) = ((st.n >>> z : ℕ) : ℤ) * 2 ^ z := by
    rw [Nat.shiftRight_eq_div_pow]
    exact_mod_cast (Nat.div_mul_cancel hdvd).symm
  refine ⟨c, 2 ^ z * e, ?_, ?_, hd⟩
  · show st.ai * X + st.bi * Y = 2 ^ (k + z) * (((st.n >>> z : ℕ) : ℤ) - 2 ^ m * c)
    linear_combination hP + 2 ^ k * hZ
  · show st.ci * 2 ^ z * X + st.di * 2 ^ z * Y = 2 ^ (k + z) * ((st.d : ℤ) - 2 ^ m * (2 ^ z * e))
    linear_combination 2 ^ z * hQ

theorem inner_TInv (w : ℕ) (X Y : ℤ) (fuel i k m : ℕ) (st : Inner) (hi : i ≤ fuel) (hw : k + i + 2 ≤ w) (him : i ≤ m)
    (hb : Bd (2 ^ k) st) (hinv : TInv X Y k m st) :
    Bd (2 ^ (k + i)) (inner w fuel i st) ∧ TInv X Y (k + i) (m - i) (inner w fuel i st) := by
  have h := inner_induction w (fun k j s => TInv X Y k (j + (m - i)) s)
    (fun k j s hp hn => TInv.odd (by rwa [Nat.add_right_comm] at hp) hn)
    (fun k j z s hp hd => TInv.shl (by rwa [Nat.add_right_comm] at hp) hd)
    fuel i k st hi hw hb (by rwa [Nat.add_sub_cancel' him])
  rwa [Nat.zero_add] at h

/-- `(x & RLC_HMASK) | (y & RLC_LMASK)`, how bn_smb_jac builds its approximation words -/
theorem masks_low (w x y : ℕ) : ((x &&& hmask w) ||| (y &&& lmask w)) % 2 ^ (w / 2) = y % 2 ^ (w / 2) := by
  unfold hmask lmask
  rw [Nat.or_mod_two_pow, Nat.and_mod_two_pow, Nat.and_mod_two_pow (a := y), Nat.shiftLeft_eq, Nat.mul_mod_left,
    Nat.and_zero, Nat.zero_or, Nat.mod_eq_of_lt (a := 2 ^ (w / 2) - 1) (by have := Nat.two_pow_pos (w / 2); omega),
    Nat.and_two_pow_sub_one_eq_mod, Nat.mod_mod]

theorem exists_of_mod_two_pow_eq {a b m : ℕ} (h : a % 2 ^ m = b % 2 ^ m) : ∃ c : ℤ, (b : ℤ) = (a : ℤ) - 2 ^ m * c := by
  obtain ⟨c, hc⟩ := (Nat.modEq_iff_dvd (n := 2 ^ m) (a := a) (b := b)).mp h
  rw [Nat.cast_pow, Nat.cast_ofNat] at hc
  exact ⟨-c, by rw [mul_neg, ← hc]; ring⟩

theorem sgn_mod_two_pow {w : ℕ} (hw : 2 ≤ w) (d : ℕ) : sgn (d % 2 ^ w) = sgn d := by
  unfold sgn
  rw [Nat.testBit_mod_two_pow, decide_eq_true (show 1 < w from hw), Bool.true_and]

theorem sgn_eq_χ₄ {d : ℕ} (hd : d % 2 = 1) : sgn d = ZMod.χ₄ d := by
  rw [ZMod.χ₄_nat_eq_if_mod_four, if_neg (by omega)]
  unfold sgn
  rw [testBit_one]
  by_cases h : d % 4 = 1
  · rw [if_pos h, if_neg (by rw [decide_eq_true_eq]; omega)]
  · rw [if_neg h, if_pos (by rw [decide_eq_true_eq]; omega)]

end Relic.Lemmas.NtSmb
