/-
Partial correctness of a model function that returns an `Option`: `Ret r P` says that whatever `r` returns satisfies `P`
(`none` is the reported error and promises nothing). A proof follows the control flow of the function: `guard` for a check
that reports an error, `ite` for a branch, `bind` for a call whose result is used, `ok` for the value returned.
-/

namespace Relic.Lemmas

def Ret {α : Type _} (r : Option α) (P : α → Prop) : Prop := ∀ c, r = some c → P c

namespace Ret
variable {α β : Type _} {P : α → Prop} {Q : β → Prop} {r : Option α}

theorem fail : Ret none P := fun _ h => nomatch h

theorem ok {c : α} (h : P c) : Ret (some c) P := fun _ hc => Option.some.inj hc ▸ h

theorem mono {P' : α → Prop} (h : Ret r P) (hp : ∀ c, P c → P' c) : Ret r P' := fun c hc => hp c (h c hc)

theorem guard {p : Prop} [Decidable p] (h : ¬p → Ret r P) : Ret (if p then none else r) P := by
  split
  · exact fail
  · exact h ‹_›

theorem ite {p : Prop} [Decidable p] {s : Option α} (h1 : p → Ret r P) (h2 : ¬p → Ret s P) :
    Ret (if p then r else s) P := by
  split
  · exact h1 ‹_›
  · exact h2 ‹_›

theorem bind {f : α → Option β} (h : Ret r P) (hf : ∀ c, P c → Ret (f c) Q) : Ret (r.bind f) Q := by
  intro c hc
  obtain ⟨x, hx, hfx⟩ := Option.bind_eq_some_iff.1 hc
  exact hf x (h x hx) c hfx

end Ret

end Relic.Lemmas
