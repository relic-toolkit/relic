/-
Montgomery's simultaneous inversion (fp_inv_sim, fb_inv_sim, fpN_inv_sim) over any carrier `α` whose multiplication `mul` a
map `φ` carries to the product of a commutative monoid (`Nat.cast` into `ZMod p` for canonical residues, the identity for
a field): the forward pass lists the running products, and the backward pass, started from an inverse `u` of the last one,
returns an inverse of every operand.  `S` is any property that every product has (being canonical).  Around an inversion
that reports zero, the routine reports it exactly when an operand is zero (`inverses_or_error`).
-/
import Mathlib.Algebra.BigOperators.Group.List.Basic
import Mathlib.Algebra.BigOperators.Ring.List
import Mathlib.Data.List.Forall2

namespace Relic.Lemmas.SimInv
variable {α M : Type*}

/-- c[0] = a[0], c[i] = c[i−1]·a[i] (without c[0]) -/
def prods (mul : α → α → α) : α → List α → List α
  | _, [] => []
  | acc, a :: as => mul acc a :: prods mul (mul acc a) as

/-- `for (i = n−1; i > 0; i--) { c[i] = u·c[i−1]; u = u·a[i] }  c[0] = u`.
    Arguments: c[i−1], c[i−2], … ; a[i], a[i−1], … ; u ; the outputs already produced (indices > i) -/
def back (mul : α → α → α) : List α → List α → α → List α → List α
  | cprev :: cs, ai :: as, u, acc => back mul cs as (mul u ai) (mul u cprev :: acc)
  | _, _, u, acc => u :: acc

/-- reversed products against reversed operands: [P_i, …, P_0] and [a_i, …, a_0] with P_0 = a_0, P_j = P_{j−1}·a_j -/
inductive Rel (mul : α → α → α) : List α → List α → Prop
  | base (a0 : α) : Rel mul [a0] [a0]
  | step (P a : α) (rc ra : List α) : Rel mul (P :: rc) ra → Rel mul (mul P a :: P :: rc) (a :: ra)

theorem rel_build (mul : α → α → α) : ∀ (rest : List α) (P : α) (rc ra : List α), Rel mul (P :: rc) ra →
    Rel mul ((P :: prods mul P rest).reverse ++ rc) (rest.reverse ++ ra)
  | [], _, _, _, h => by simpa [prods] using h
  | a :: rest, P, rc, ra, h => by
    have := rel_build mul rest (mul P a) (P :: rc) (a :: ra) (Rel.step P a rc ra h)
    simpa [prods, List.reverse_cons, List.append_assoc] using this

theorem rel_prods (mul : α → α → α) (a0 : α) (rest : List α) :
    Rel mul (a0 :: prods mul a0 rest).reverse (a0 :: rest).reverse := by
  simpa using rel_build mul rest a0 [] [a0] (Rel.base a0)

theorem getLastD_prods (mul : α → α → α) : ∀ (rest : List α) (a0 d : α),
    (a0 :: prods mul a0 rest).getLastD d = rest.foldl mul a0
  | [], _, _ => rfl
  | a :: rest, a0, _ => by
    rw [prods, List.getLastD_cons, getLastD_prods mul rest (mul a0 a) a0, List.foldl_cons]

theorem foldl_mem (mul : α → α → α) (S : α → Prop) (hS : ∀ x y, S (mul x y)) :
    ∀ (rest : List α) (a0 : α), S a0 → S (rest.foldl mul a0)
  | [], _, h => h
  | a :: rest, a0, _ => foldl_mem mul S hS rest (mul a0 a) (hS a0 a)

section monoid
variable [CommMonoid M] (φ : α → M) {mul : α → α → α} (hφ : ∀ x y, φ (mul x y) = φ x * φ y)
include hφ

theorem map_foldl : ∀ (rest : List α) (a0 : α), φ (rest.foldl mul a0) = ((a0 :: rest).map φ).prod
  | [], a0 => by simp
  | a :: rest, a0 => by
    rw [List.foldl_cons, map_foldl rest, List.map_cons, List.map_cons, List.map_cons, List.prod_cons, List.prod_cons,
      List.prod_cons, hφ, mul_assoc]

variable (S : α → Prop) (hS : ∀ x y, S (mul x y))
include hS

/-- with u an inverse of P_i the backward pass emits u·P_{i−1} as the inverse of a_i and goes on with u·a_i, an inverse
    of P_{i−1} -/
theorem back_rel {rcs ra : List α} (hr : Rel mul rcs ra) (d : α) :
    ∀ (u : α) (acc : List α), S u → φ (rcs.headD d) * φ u = 1 →
    ∃ out, back mul rcs.tail ra u acc = out.reverse ++ acc ∧
      List.Forall₂ (fun a x => S x ∧ φ a * φ x = 1) ra out := by
  induction hr with
  | base a0 =>
    intro u acc hu h1
    exact ⟨[u], by simp [back], List.Forall₂.cons ⟨hu, h1⟩ List.Forall₂.nil⟩
  | step P a rc ra _ ih =>
    intro u acc hu h1
    rw [List.headD_cons, hφ] at h1
    obtain ⟨out', ho, hf⟩ := ih (mul u a) (mul u P :: acc) (hS u a) (by
      rw [List.headD_cons, hφ, ← h1, mul_comm (φ u), mul_assoc])
    refine ⟨mul u P :: out', ?_, List.Forall₂.cons ⟨hS u P, ?_⟩ hf⟩
    · rw [List.tail_cons] at ho ⊢
      rw [back, ho]; simp
    · rw [hφ, ← h1, mul_comm (φ u), ← mul_assoc, mul_comm (φ a)]

theorem back_inverses (a0 : α) (rest : List α) (u : α) (hu : S u) (h1 : φ (rest.foldl mul a0) * φ u = 1) :
    List.Forall₂ (fun a x => S x ∧ φ a * φ x = 1) (a0 :: rest)
      (back mul (a0 :: prods mul a0 rest).reverse.tail (a0 :: rest).reverse u []) := by
  obtain ⟨out, ho, hf⟩ := back_rel φ hφ S hS (rel_prods mul a0 rest) a0 u [] hu (by
    rwa [List.headD_eq_head?_getD, List.head?_reverse, ← List.getLastD_eq_getLast?, getLastD_prods])
  rw [ho, List.append_nil]
  simpa using List.rel_reverse hf

end monoid

section zero
variable [CommMonoidWithZero M] [NoZeroDivisors M] [Nontrivial M] (φ : α → M) {mul : α → α → α}
  (hφ : ∀ x y, φ (mul x y) = φ x * φ y) (S : α → Prop) (hS : ∀ x y, S (mul x y))
include hφ hS

/-- the product of all operands is zero exactly when one of them is -/
theorem inverses_or_error (z : α) (hz : ∀ a, S a → (φ a = 0 ↔ a = z)) (inv : α → Option α) (hinv0 : inv z = none)
    (hinv : ∀ a, S a → a ≠ z → ∃ u, inv a = some u ∧ S u ∧ φ a * φ u = 1)
    (a0 : α) (rest : List α) (hel : ∀ a ∈ a0 :: rest, S a) :
    ((∃ a ∈ a0 :: rest, a = z) → inv (rest.foldl mul a0) = none) ∧
    ((∀ a ∈ a0 :: rest, a ≠ z) → ∃ u, inv (rest.foldl mul a0) = some u ∧
      List.Forall₂ (fun a x => S x ∧ φ a * φ x = 1) (a0 :: rest)
        (back mul (a0 :: prods mul a0 rest).reverse.tail (a0 :: rest).reverse u [])) := by
  have hP := foldl_mem mul S hS rest a0 (hel a0 List.mem_cons_self)
  have hPz : rest.foldl mul a0 = z ↔ ∃ a ∈ a0 :: rest, a = z := by
    rw [← hz _ hP, map_foldl φ hφ, List.prod_eq_zero_iff, List.mem_map]
    constructor
    · rintro ⟨a, ha, h0⟩; exact ⟨a, ha, (hz a (hel a ha)).1 h0⟩
    · rintro ⟨a, ha, rfl⟩; exact ⟨a, ha, (hz a (hel a ha)).2 rfl⟩
  refine ⟨fun h => by rw [hPz.2 h, hinv0], fun hnz => ?_⟩
  obtain ⟨u, hu, hSu, h1⟩ := hinv _ hP fun e => let ⟨a, ha, h0⟩ := hPz.1 e; hnz a ha h0
  exact ⟨u, hu, back_inverses φ hφ S hS a0 rest u hSu h1⟩

end zero

end Relic.Lemmas.SimInv
