/-
`divnLow` cut into named pieces (normalising shift, multiply by a digit, subtract and add at an offset,
quotient estimate, loop body), what each piece computes, and the loop body as a whole: one iteration
produces one exact quotient digit.
-/
import RelicVerif.Lemmas.BnLowMul
import RelicVerif.Lemmas.BnLowShift
import RelicVerif.Lemmas.KnuthDList
import RelicVerif.Lemmas.KnuthDArith

namespace Relic.Model

/-- `if (carry) { x[s++] = carry; }` -/
def pushCarry (p : List Nat × Nat) : List Nat := if p.2 ≠ 0 then p.1 ++ [p.2] else p.1

/-- `carry = bn_lshb_low(x, x, s, norm)`, then the carry is pushed -/
def shlN (w norm : Nat) (x : List Nat) : List Nat := pushCarry (lshbLow w norm x 0)

/-- `carry = bn_mul1_low(d, b, q, sb)`, then the carry is pushed -/
def mulD (B : Nat) (b : List Nat) (qh : Nat) : List Nat := pushCarry (mul1Low B b qh 0)

/-- `bn_subn_low` of `d` at offset `k` of `a` (which has `sa` digits), then `bn_sub1_low` of the borrow
    on the digits above, if there are any; returns the last borrow -/
def winSub (B sa : Nat) (a : List Nat) (k : Nat) (d : List Nat) : List Nat × Nat :=
  let s := subnLow B ((a.drop k).take d.length) d 0
  let a1 := splice a k s.1
  if sa > d.length + k then
    let u := sub1Low B (a1.drop (d.length + k)) s.2
    (splice a1 (d.length + k) u.1, u.2)
  else (a1, s.2)

/-- `bn_addn_low` of `b` at offset `k` of `a`, then `bn_add1_low` of the carry on the digits above; the
    last carry is dropped -/
def winAdd (B : Nat) (a : List Nat) (k : Nat) (b : List Nat) : List Nat :=
  let s := addnLow B ((a.drop k).take b.length) b 0
  let a1 := splice a k s.1
  splice a1 (b.length + k) (add1Low B (a1.drop (b.length + k)) s.2).1

/-- the quotient estimate `c[i - t - 1]` when the `do … while` loop is left -/
def qHat (B : Nat) (b a : List Nat) (i : Nat) : Nat :=
  qhatLoop B (if b.length - 1 = 0 then 0 else b.getD (b.length - 1 - 1) 0) (b.getD (b.length - 1) 0)
    (if i < 2 then 0 else a.getD (i - 2) 0) (a.getD (i - 1) 0) (a.getD i 0) B
    ((qEst B (b.getD (b.length - 1) 0) (a.getD i 0) (a.getD (i - 1) 0) + 1) % B)

/-- the branch counters of `DivTrace` for step `i` -/
def trUpd (B : Nat) (b a : List Nat) (i : Nat) (tr : DivTrace) : DivTrace :=
  { tr with
    qhatFix := tr.qhatFix +
      (if qHat B b a i = qEst B (b.getD (b.length - 1) 0) (a.getD i 0) (a.getD (i - 1) 0) then 0 else 1),
    qmax := tr.qmax + (if a.getD i 0 = b.getD (b.length - 1) 0 then 1 else 0) }

/-- the body of `for (i = n; i >= t + 1; i--)`: estimate, multiply-subtract, add back on borrow -/
def divStepS (B sa : Nat) (b : List Nat) (st : List Nat × List Nat × DivTrace) (i : Nat) :
    List Nat × List Nat × DivTrace :=
  let k := i - (b.length - 1) - 1
  let qh := qHat B b st.1 i
  let r := winSub B sa st.1 k (mulD B b qh)
  let tr := trUpd B b st.1 i st.2.2
  if r.2 ≠ 0 then
    (winAdd B r.1 k b, setAt st.2.1 k ((qh + B - 1) % B), { tr with addback := tr.addback + 1 })
  else (r.1, setAt st.2.1 k qh, tr)

/-- `util_bits_dig(b[sb - 1]) % RLC_DIG` -/
def nbOf (w : Nat) (b0 : List Nat) : Nat := bitsDig (b0.getD (b0.length - 1) 0) % w

/-- the normalising shift `norm` -/
def normOf (w : Nat) (b0 : List Nat) : Nat := if nbOf w b0 < w - 1 then (w - 1) - nbOf w b0 else 0

def normAB (w : Nat) (a0 b0 : List Nat) : List Nat × List Nat :=
  if nbOf w b0 < w - 1 then (shlN w (normOf w b0) a0, shlN w (normOf w b0) b0) else (a0, b0)

/-- the values `n, n - 1, …, t + 1` of `i`, where `m = n - t` -/
def idxsOf (m t : Nat) : List Nat := (List.range m).reverse.map (fun j => j + t + 1)

/-- the final `bn_rshb_low(d, a, sb, norm)`, which `divnLow` skips for `norm = 0` -/
def denorm (w norm : Nat) (x : List Nat) : List Nat := if norm = 0 then x else (rshbLow w norm x).1

/-- algorithm D proper, on normalised operands: the initial `while (dv_cmp(a, b, sa) != RLC_LT)` loop
    against the shifted divisor, then the main loop; `L` is the length of the quotient array -/
def divMain (B L : Nat) (a b : List Nat) : List Nat × List Nat × DivTrace :=
  let m := a.length - 1 - (b.length - 1)
  let top := divTopLoop B (List.replicate m 0 ++ b) B a 0
  (idxsOf m (b.length - 1)).foldl (divStepS B a.length b)
    (top.1, setAt (List.replicate L 0) m top.2, { topLoop := top.2 })

/-- `divnLow` put together from the named pieces (the suffix `S`, here and in `divStepS`, marks this structured form) -/
def divnLowS (w : Nat) (a0 b0 : List Nat) : List Nat × List Nat × DivTrace :=
  let fin := divMain (2 ^ w) (a0.length - b0.length + 3) (normAB w a0 b0).1 (normAB w a0 b0).2
  (fin.2.1, denorm w (normOf w b0) (fin.1.take (normAB w a0 b0).2.length), fin.2.2)

-- unfolding first keeps the two sides in step; a bare `rfl` unfolds them lazily and is far slower
theorem divnLow_eq_S (w : Nat) (a0 b0 : List Nat) : divnLow w a0 b0 = divnLowS w a0 b0 := by
  unfold divnLow divnLowS divMain normAB idxsOf normOf nbOf shlN denorm divStepS trUpd qHat qEst winSub winAdd
    mulD pushCarry
  simp only []

/-! ### What the pieces compute -/

theorem pushCarry_spec (B : Nat) (p : List Nat × Nat) (hd : ∀ x ∈ p.1, x < B) (hc : p.2 < B) :
    val B (pushCarry p) = val B p.1 + p.2 * B ^ p.1.length ∧ (∀ x ∈ pushCarry p, x < B)
    ∧ p.1.length ≤ (pushCarry p).length ∧ (pushCarry p).length ≤ p.1.length + 1
    ∧ (B ^ (p.1.length - 1) ≤ val B (pushCarry p) →
        B ^ ((pushCarry p).length - 1) ≤ val B (pushCarry p)) := by
  unfold pushCarry
  by_cases hc0 : p.2 = 0
  · rw [if_neg (fun h => h hc0), hc0, Nat.zero_mul]
    exact ⟨rfl, hd, Nat.le_refl _, Nat.le_succ _, id⟩
  · rw [if_pos hc0, val_append, val_cons, val_nil, List.length_append, Nat.mul_zero, Nat.add_zero,
      Nat.mul_comm]
    exact ⟨rfl, digs_append hd (by simpa using hc), Nat.le_add_right _ _, Nat.le_refl _, fun _ =>
      Nat.le_trans (Nat.le_mul_of_pos_left _ (Nat.pos_of_ne_zero hc0)) (Nat.le_add_left _ _)⟩

theorem mulD_spec (B : Nat) (hB : 1 < B) (b : List Nat) (q : Nat) (hq : q < B) (hb : ∀ x ∈ b, x < B) :
    val B (mulD B b q) = val B b * q ∧ (∀ x ∈ mulD B b q, x < B)
    ∧ b.length ≤ (mulD B b q).length ∧ (mulD B b q).length ≤ b.length + 1 := by
  obtain ⟨s1, s2, s3, s4⟩ := mul1Low_spec B hB b q 0 hq (by omega) hb
  obtain ⟨p1, p2, p3, p4, _⟩ := pushCarry_spec B _ s3 s2
  rw [s4] at p1 p3 p4
  exact ⟨by rw [mulD, p1, s1, Nat.add_zero], p2, p3, p4⟩

theorem shlN_spec (w bits : Nat) (hbw : bits < w) (x : List Nat)
    (hx : ∀ d ∈ x, d < 2 ^ w) :
    val (2 ^ w) (shlN w bits x) = 2 ^ bits * val (2 ^ w) x ∧ (∀ d ∈ shlN w bits x, d < 2 ^ w)
    ∧ x.length ≤ (shlN w bits x).length ∧ (shlN w bits x).length ≤ x.length + 1
    ∧ ((2 ^ w) ^ (x.length - 1) ≤ val (2 ^ w) (shlN w bits x) →
        (2 ^ w) ^ ((shlN w bits x).length - 1) ≤ val (2 ^ w) (shlN w bits x)) := by
  obtain ⟨s1, s2, s3, s4⟩ := lshbLow_spec w bits (Nat.le_of_lt hbw) x 0 (Nat.pow_pos (by omega)) hx
  obtain ⟨p1, p2, p3, p4, p5⟩ := pushCarry_spec (2 ^ w) _ s3
    (Nat.lt_trans s2 (Nat.pow_lt_pow_right (by omega) hbw))
  rw [s4] at p1 p3 p4 p5
  exact ⟨by rw [shlN, p1, s1, Nat.add_zero], p2, p3, p4, p5⟩

theorem denorm_spec (w norm : Nat) (h : norm < w) (x : List Nat) (hx : ∀ d ∈ x, d < 2 ^ w) :
    val (2 ^ w) (denorm w norm x) = val (2 ^ w) x / 2 ^ norm ∧ (∀ d ∈ denorm w norm x, d < 2 ^ w)
    ∧ (denorm w norm x).length = x.length := by
  unfold denorm
  by_cases h0 : norm = 0
  · rw [if_pos h0, h0, Nat.pow_zero, Nat.div_one]
    exact ⟨rfl, hx, rfl⟩
  · rw [if_neg h0]
    obtain ⟨r1, _, r3, r4⟩ := rshbLow_spec w norm (Nat.le_of_lt h) x hx
    exact ⟨r1, r3, r4⟩

theorem winSub_spec (B : Nat) (hB : 1 < B) (a : List Nat) (k : Nat) (d : List Nat)
    (hlen : k + d.length ≤ a.length) (ha : ∀ x ∈ a, x < B) (hd : ∀ x ∈ d, x < B) :
    let r := winSub B a.length a k d
    val B r.1 + B ^ k * val B d = val B a + r.2 * B ^ a.length
    ∧ r.2 ≤ 1 ∧ (∀ x ∈ r.1, x < B) ∧ r.1.length = a.length := by
  have hmid := length_window a hlen
  obtain ⟨s1, s2, s3, s4⟩ := subnLow_spec B hB _ d 0 hmid (Nat.zero_le 1) (digs_take (digs_drop ha k) _) hd
  rw [hmid] at s1 s4
  rw [Nat.add_zero] at s1
  unfold winSub
  generalize subnLow B ((a.drop k).take d.length) d 0 = s at s1 s2 s3 s4 ⊢
  simp only []
  have d1 := digs_splice ha s3 k
  have l1 := length_splice a s.1 k (s4.symm ▸ hlen)
  by_cases hh : a.length > d.length + k
  · rw [if_pos hh]
    have hhi : ((splice a k s.1).drop (d.length + k)).length = a.length - (d.length + k) := by
      rw [List.length_drop, l1]
    obtain ⟨u1, u2, u3, u4⟩ := sub1Low_spec B hB _ s.2 (Nat.lt_of_le_of_lt s2 hB) (digs_drop d1 (d.length + k))
    rw [hhi] at u1 u4
    generalize sub1Low B ((splice a k s.1).drop (d.length + k)) s.2 = u at u1 u2 u3 u4 ⊢
    have v := val_splice2 B a s.1 u.1 k (s4.symm ▸ hlen) (by rw [u4, s4])
    rw [s4] at v
    refine ⟨pow_split3 B hlen ▸ ripple s1 u1 v, u2 (.inl s2), digs_splice d1 u3 _, ?_⟩
    rw [length_splice _ _ _ (by omega), l1]
  · rw [if_neg hh]
    refine ⟨?_, s2, d1, l1⟩
    dsimp only
    have v1 := val_splice B a s.1 k (s4.symm ▸ hlen)
    have e := congrArg (B ^ k * ·) s1
    have : a.length = k + d.length := by omega
    rw [s4] at v1
    rw [this, Nat.pow_add, ← Nat.mul_left_comm]
    simp only [Nat.mul_add] at e
    omega

theorem winAdd_spec (B : Nat) (hB : 1 < B) (a : List Nat) (k : Nat) (b : List Nat)
    (hlen : k + b.length ≤ a.length) (ha : ∀ x ∈ a, x < B) (hb : ∀ x ∈ b, x < B) :
    (∃ c, val B (winAdd B a k b) + c * B ^ a.length = val B a + B ^ k * val B b)
    ∧ (∀ x ∈ winAdd B a k b, x < B) ∧ (winAdd B a k b).length = a.length := by
  have hmid := length_window a hlen
  obtain ⟨s1, s2, s3, s4⟩ := addnLow_spec B hB _ b 0 hmid (Nat.zero_le 1) (digs_take (digs_drop ha k) _) hb
  rw [hmid] at s1 s4
  rw [Nat.add_zero] at s1
  unfold winAdd
  generalize addnLow B ((a.drop k).take b.length) b 0 = s at s1 s2 s3 s4 ⊢
  simp only []
  have d1 := digs_splice ha s3 k
  have l1 := length_splice a s.1 k (s4.symm ▸ hlen)
  have hhi : ((splice a k s.1).drop (b.length + k)).length = a.length - (b.length + k) := by
    rw [List.length_drop, l1]
  obtain ⟨u1, _, u3, u4⟩ := add1Low_spec B hB _ s.2 (Nat.lt_of_le_of_lt s2 hB) (digs_drop d1 (b.length + k))
  rw [hhi] at u1 u4
  generalize add1Low B ((splice a k s.1).drop (b.length + k)) s.2 = u at u1 u3 u4 ⊢
  have v := val_splice2 B a s.1 u.1 k (s4.symm ▸ hlen) (by rw [u4, s4])
  rw [s4] at v
  -- the same chain as in `winSub_spec`, read from the result back to `a`
  refine ⟨⟨u.2, pow_split3 B hlen ▸ (ripple s1.symm u1.symm v.symm).symm⟩, digs_splice d1 u3 _, ?_⟩
  rw [length_splice _ _ _ (by omega), l1]

/-! ### The two fuelled loops -/

theorem dec_mod {B x : Nat} (hx : x < B) : ((x + 1) % B + B - 1) % B = x := by
  by_cases h : x + 1 < B
  · rw [Nat.mod_eq_of_lt h, Nat.add_right_comm, Nat.add_sub_cancel, Nat.add_mod_right,
      Nat.mod_eq_of_lt hx]
  · rw [show x + 1 = B by omega, Nat.mod_self, Nat.zero_add, Nat.mod_eq_of_lt (by omega)]
    omega

theorem qhatLoop_spec (B : Nat) (hB : 1 < B) (bt1 bt a2 a1 a0 : Nat) (hbt1 : bt1 < B) (hbt : bt < B)
    (ha2 : a2 < B) (ha1 : a1 < B) (ha0 : a0 < B) (hV : 0 < bt1 + B * bt) :
    ∀ fuel x, x < B → x < fuel →
      qhatLoop B bt1 bt a2 a1 a0 fuel ((x + 1) % B)
        = min x ((a2 + B * (a1 + B * a0)) / (bt1 + B * bt)) := by
  intro fuel
  induction fuel with
  | zero => intro x _ h; omega
  | succ fuel ih =>
    intro x hx hf
    have hd2 : ∀ d ∈ [bt1, bt], d < B := by simp [hbt1, hbt]
    obtain ⟨m1, m2, m3, m4⟩ := mul1Low_spec B hB [bt1, bt] x 0 hx (by omega) hd2
    have hd3 : ∀ d ∈ [a2, a1, a0], d < B := by simp [ha2, ha1, ha0]
    unfold qhatLoop
    simp only [dec_mod hx]
    generalize mul1Low B [bt1, bt] x 0 = s at m1 m2 m3 m4 ⊢
    obtain ⟨c1, _, _⟩ := dvCmp_spec B (s.1 ++ [s.2]) [a2, a1, a0] (by simp [m4])
      (digs_append m3 (by simpa using m2)) hd3
    have hv1 : val B (s.1 ++ [s.2]) = x * (bt1 + B * bt) := by
      rw [val_append, m4]
      simp only [val, List.length_cons, List.length_nil, Nat.mul_zero, Nat.add_zero] at m1 ⊢
      rw [Nat.mul_comm x, ← m1, Nat.mul_comm]
    have hv2 : val B [a2, a1, a0] = a2 + B * (a1 + B * a0) := by simp [val]
    rw [hv1, hv2] at c1
    by_cases hgt : x * (bt1 + B * bt) > a2 + B * (a1 + B * a0)
    · rw [if_pos (c1.mpr hgt)]
      have hdl := (Nat.div_lt_iff_lt_mul hV).2 hgt
      have hx1 : 0 < x := Nat.lt_of_le_of_lt (Nat.zero_le _) hdl
      have := ih (x - 1) (by omega) (by omega)
      rw [Nat.sub_add_cancel hx1, Nat.mod_eq_of_lt hx] at this
      rw [this, Nat.min_eq_right (Nat.le_sub_one_of_lt hdl), Nat.min_eq_right (Nat.le_of_lt hdl)]
    · rw [if_neg (fun h => hgt (c1.mp h))]
      exact (Nat.min_eq_left ((Nat.le_div_iff_mul_le hV).2 (by omega))).symm

theorem divTopLoop_spec (B : Nat) (hB : 1 < B) (bs : List Nat) (hbs : ∀ d ∈ bs, d < B) :
    ∀ fuel (a : List Nat) (cnt : Nat), a.length = bs.length → (∀ d ∈ a, d < B) →
      val B a < fuel * val B bs → cnt + fuel ≤ B →
      let r := divTopLoop B bs fuel a cnt
      ∃ m, r.2 = cnt + m ∧ cnt + m < B ∧ val B r.1 + m * val B bs = val B a ∧ val B r.1 < val B bs
        ∧ (∀ d ∈ r.1, d < B) ∧ r.1.length = a.length := by
  intro fuel
  induction fuel with
  | zero => intro a cnt _ _ h; exact absurd (Nat.zero_mul _ ▸ h) (Nat.not_lt_zero _)
  | succ fuel ih =>
    intro a cnt hl ha hv hc
    obtain ⟨_, c2, _⟩ := dvCmp_spec B a bs hl ha hbs
    unfold divTopLoop
    by_cases hlt : val B a < val B bs
    · rw [if_neg (fun h => h (c2.mpr hlt))]
      exact ⟨0, rfl, by omega, by rw [Nat.zero_mul, Nat.add_zero], hlt, ha, rfl⟩
    · rw [if_pos (fun h => hlt (c2.mp h))]
      obtain ⟨s1, s2, s3, s4⟩ := subnLow_spec B hB a bs 0 hl (Nat.zero_le 1) ha hbs
      have hlt' := val_lt B _ s3
      rw [s4] at hlt'
      rw [Nat.add_mul, Nat.one_mul] at hv
      generalize subnLow B a bs 0 = s at s1 s2 s3 s4 hlt' ⊢
      -- `a ≥ bs`, so the subtraction does not borrow
      have hc0 : s.2 = 0 := by
        rcases Nat.le_one_iff_eq_zero_or_eq_one.1 s2 with h | h
        · exact h
        · rw [h] at s1; omega
      rw [hc0] at s1
      have hf : 0 < fuel := Nat.pos_of_ne_zero (by rintro rfl; omega)
      rw [Nat.mod_eq_of_lt (show cnt + 1 < B by omega)]
      obtain ⟨m, e1, e2, e3, e4, e5, e6⟩ := ih s.1 (cnt + 1) (by rw [s4, hl]) s3 (by omega) (by omega)
      refine ⟨m + 1, by rw [e1]; omega, by omega, ?_, e4, e5, by rw [e6, s4]⟩
      rw [Nat.add_mul, Nat.one_mul]
      omega

/-! ### The quotient estimate and one iteration -/

/-- the digits that the quotient estimate reads are the leading parts of the dividend and of the shifted
    divisor at a common scale -/
theorem top_lead (B : Nat) (hB : 0 < B) (a b : List Nat) (i : Nat)
    (ha : ∀ d ∈ a, d < B) (hb : ∀ d ∈ b, d < B) (hbne : 0 < b.length) (hi1 : b.length ≤ i)
    (hz : val B (a.drop (i + 1)) = 0) :
    ∃ S c, 0 < c ∧
      Lead S c (val B a)
        ((if i < 2 then 0 else a.getD (i - 2) 0) + B * (a.getD (i - 1) 0 + B * a.getD i 0)) ∧
      Lead S c (B ^ (i - (b.length - 1) - 1) * val B b)
        ((if b.length - 1 = 0 then 0 else b.getD (b.length - 1 - 1) 0) + B * b.getD (b.length - 1) 0) := by
  have hV := val_split_top B b hbne
  by_cases hi : i < 2
  · -- one divisor digit under a two-digit dividend: the digits are `B * val a` and `B * val b` exactly
    obtain rfl : i = 1 := by omega
    have hl : b.length = 1 := by omega
    have hA : val B a = a.getD 0 0 + B * a.getD 1 0 := by
      have := val_drop_succ B 0 a
      rwa [val_drop_succ B 1 a, hz, Nat.mul_zero, Nat.add_zero, List.drop_zero] at this
    rw [hl, Nat.sub_self, List.take_zero, val_nil, Nat.zero_add, Nat.pow_zero, Nat.one_mul] at hV
    refine ⟨1, B, hB, ?_, ?_⟩
    · rw [if_pos hi, Nat.zero_add, Nat.sub_self, ← hA]
      exact Lead.exact B _
    · rw [hl, Nat.sub_self, if_pos rfl, Nat.zero_add, Nat.pow_zero, Nat.one_mul, ← hV]
      exact Lead.exact B _
  · obtain ⟨j, rfl⟩ : ∃ j, i = j + 2 := ⟨i - 2, by omega⟩
    refine ⟨B ^ j, 1, Nat.one_pos, ?_, ?_⟩
    · rw [if_neg hi, Nat.add_sub_cancel, show j + 2 - 1 = j + 1 from rfl, val_top3 B a j hz]
      exact Lead.of_add _ (val_take_lt B hB a ha j)
    · by_cases ht : b.length - 1 = 0
      · -- one divisor digit: `0 + B * b₀` at scale `B ^ j` is `B ^ (j + 1) * b₀`
        rw [ht, List.take_zero, val_nil, Nat.zero_add, Nat.pow_zero, Nat.one_mul] at hV
        rw [ht, if_pos rfl, Nat.sub_zero, show j + 2 - 1 = j + 1 from rfl, hV, Nat.pow_succ,
          Nat.mul_assoc, Nat.zero_add]
        exact Nat.zero_add (B ^ j * _) ▸ Lead.of_add _ (Nat.pow_pos hB)
      · obtain ⟨m, hm⟩ : ∃ m, b.length - 1 = m + 1 := ⟨b.length - 2, by omega⟩
        have e : B ^ (j - m) * B ^ m = B ^ j := by rw [← Nat.pow_add, Nat.sub_add_cancel (by omega)]
        rw [hm, if_neg (Nat.succ_ne_zero m), Nat.add_sub_cancel, show j + 2 - (m + 1) - 1 = j - m by omega,
          val_top2 B b m (by omega)]
        exact e ▸ (Lead.of_add _ (val_take_lt B hB b hb m)).scale _ (Nat.pow_pos hB)

/-- (`hinv` is the loop invariant for the shifted divisor `W = B^k * val b`; the step is `i = k + t + 1`) -/
theorem qHat_spec (B : Nat) (hB : 1 < B) (a b : List Nat) (k : Nat)
    (ha : ∀ d ∈ a, d < B) (hb : ∀ d ∈ b, d < B) (hbt : 0 < b.getD (b.length - 1) 0)
    (hinv : val B a < B * (B ^ k * val B b)) :
    val B a / (B ^ k * val B b) ≤ qHat B b a (k + (b.length - 1) + 1)
    ∧ qHat B b a (k + (b.length - 1) + 1) ≤ val B a / (B ^ k * val B b) + 1
    ∧ qHat B b a (k + (b.length - 1) + 1) < B := by
  have hB0 : 0 < B := by omega
  have hbne := length_pos_of_top hbt
  have hWpos : 0 < B ^ k * val B b :=
    Nat.mul_pos (Nat.pow_pos hB0) (Nat.lt_of_lt_of_le (Nat.pow_pos hB0) (pow_le_val B b hbt))
  generalize hi : k + (b.length - 1) + 1 = i
  have hAlt : val B a < B ^ (i + 1) := by
    rw [show i + 1 = 1 + k + b.length by omega, Nat.pow_add, Nat.pow_add, Nat.pow_one, Nat.mul_assoc]
    exact Nat.lt_trans hinv (Nat.mul_lt_mul_of_pos_left
      (Nat.mul_lt_mul_of_pos_left (val_lt B b hb) (Nat.pow_pos hB0)) hB0)
  obtain ⟨S, c, hc, hA, hV⟩ :=
    top_lead B hB0 a b i ha hb hbne (by omega) (val_drop_eq_zero B a (i + 1) hAlt)
  rw [show i - (b.length - 1) - 1 = k by omega] at hV
  have hbt1 : (if b.length - 1 = 0 then 0 else b.getD (b.length - 1 - 1) 0) < B :=
    ite_zero_lt hB0 (getD_lt B hB0 b hb _)
  have hai2 : (if i < 2 then 0 else a.getD (i - 2) 0) < B := ite_zero_lt hB0 (getD_lt B hB0 a ha _)
  have hai1 := getD_lt B hB0 a ha (i - 1)
  have hai := getD_lt B hB0 a ha i
  have hbtB := getD_lt B hB0 b hb (b.length - 1)
  unfold qHat
  generalize (if b.length - 1 = 0 then 0 else b.getD (b.length - 1 - 1) 0) = bt1 at *
  generalize (if i < 2 then 0 else a.getD (i - 2) 0) = ai2 at *
  generalize b.getD (b.length - 1) 0 = bt at *
  generalize B ^ k * val B b = W at *
  have hBV : B ≤ bt1 + B * bt :=
    Nat.le_trans (Nat.le_mul_of_pos_right B hbt) (Nat.le_add_left _ _)
  obtain ⟨hqe, hmin⟩ := qEst_min hai1 hai2 hbt (lead_lt hB0 hA hV hinv) hbt1
  obtain ⟨q1, q2⟩ := qhat_correct hB0 hc hWpos hA hV hBV hinv
  rw [qhatLoop_spec B hB bt1 bt ai2 _ _ hbt1 hbtB hai2 hai1 hai (by omega) B _ hqe hqe, hmin]
  exact ⟨q1, q2, Nat.lt_of_le_of_lt (Nat.min_le_left _ _) (Nat.sub_lt hB0 Nat.one_pos)⟩

theorem divStepS_spec (B : Nat) (hB : 1 < B) (b : List Nat) (st : List Nat × List Nat × DivTrace)
    (k : Nat) (ha : ∀ d ∈ st.1, d < B) (hb : ∀ d ∈ b, d < B)
    (hbt : 0 < b.getD (b.length - 1) 0) (hk2 : k + b.length < st.1.length)
    (hinv : val B st.1 < B * (B ^ k * val B b)) :
    let r := divStepS B st.1.length b st (k + (b.length - 1) + 1)
    val B r.1 = val B st.1 % (B ^ k * val B b) ∧ r.2.1 = setAt st.2.1 k (val B st.1 / (B ^ k * val B b))
    ∧ (∀ d ∈ r.1, d < B) ∧ r.1.length = st.1.length := by
  obtain ⟨hq1, hq2, hqB⟩ := qHat_spec B hB st.1 b k ha hb hbt hinv
  obtain ⟨d1, d2, d3, d4⟩ := mulD_spec B hB b _ hqB hb
  obtain ⟨w1, w2, w3, w4⟩ := winSub_spec B hB st.1 k (mulD B b (qHat B b st.1 (k + (b.length - 1) + 1)))
    (by omega) ha d2
  have hRlt := val_lt B _ w3
  have hAP := val_lt B st.1 ha
  rw [w4] at hRlt
  rw [d1, Nat.mul_comm (val B b), Nat.mul_left_comm] at w1
  unfold divStepS
  simp only [show k + (b.length - 1) + 1 - (b.length - 1) - 1 = k by omega]
  generalize qHat B b st.1 (k + (b.length - 1) + 1) = qh at *
  generalize winSub B st.1.length st.1 k (mulD B b qh) = r at *
  generalize hW : B ^ k * val B b = W at *
  have hWpos : 0 < W := Nat.pos_of_ne_zero (by rintro rfl; omega)
  by_cases hc2 : r.2 = 0
  · rw [if_neg (fun h => h hc2)]
    rw [hc2, Nat.zero_mul, Nat.add_zero] at w1
    obtain ⟨e1, e2⟩ := sub_no_borrow hWpos hq1 w1
    exact ⟨e2, by rw [e1], w3, w4⟩
  · rw [if_pos hc2]
    rw [show r.2 = 1 by omega, Nat.one_mul] at w1
    obtain ⟨⟨c3, x1⟩, x2, x3⟩ := winAdd_spec B hB r.1 k b (by omega) w3 hb
    have hXlt := val_lt B _ x2
    rw [w4] at x1 x3
    rw [x3] at hXlt
    rw [hW] at x1
    obtain ⟨e1, e2⟩ := sub_borrow_addback hq1 hq2 w1 hRlt hAP x1 hXlt
    refine ⟨e2, ?_, x2, x3⟩
    have hq : val B st.1 / W < B := (Nat.div_lt_iff_lt_mul hWpos).2 (Nat.mul_comm B W ▸ hinv)
    dsimp only
    rw [e1, Nat.add_right_comm, Nat.add_sub_cancel, Nat.add_mod_right, Nat.mod_eq_of_lt hq]

end Relic.Model
