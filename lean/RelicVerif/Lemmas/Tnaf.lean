/-
The τ-adic recodings of Model/Tnaf.lean (bn_rec_tnaf_mod, bn_rec_tnaf) in an arbitrary commutative ring with an element τ
satisfying τ² = μτ - 2 (μ = u = ±1; e.g. Z[τ], or the ring generated by the Frobenius endomorphism of a Koblitz curve):
the partial reduction changes k by a multiple of τ^m - 1, and the digits of the width-w τ-NAF evaluate (Σ α(d_i) τ^i, with
α(d) = ±(β + γτ)[|d|/2] the representative a digit stands for) to the reduced element.
-/
import Mathlib.Algebra.Ring.Basic
import Mathlib.Algebra.Ring.Int.Defs
import Mathlib.Data.Int.Cast.Lemmas
import Mathlib.Tactic.Ring
import Mathlib.Tactic.LinearCombination
import Mathlib.Tactic.Linarith
import RelicVerif.Model.Tnaf

namespace Relic.Lemmas.Tnaf
open Relic.Model.Tnaf

variable {R : Type} [CommRing R] (τ : R) (u : ℤ)

def ev (r : ZT) : R := (r.1 : R) + (r.2 : R) * τ

/-- the value of a digit string, least significant first: Σ α(d_i) τ^i -/
def evalTau (w : Nat) (ds : List Int) : R := ds.foldr (fun d acc => ev τ (alpha u w d) + τ * acc) 0

theorem evalTau_append (w : Nat) (a b : List Int) :
    evalTau τ u w (a ++ b) = evalTau τ u w a + τ ^ a.length * evalTau τ u w b := by
  induction a with
  | nil => simp [evalTau]
  | cons d a ih =>
    have h1 : evalTau τ u w (d :: (a ++ b)) = ev τ (alpha u w d) + τ * evalTau τ u w (a ++ b) := rfl
    have h2 : evalTau τ u w (d :: a) = ev τ (alpha u w d) + τ * evalTau τ u w a := rfl
    rw [List.cons_append, h1, h2, ih, List.length_cons, pow_succ]
    ring

theorem divTau_spec (hτ : τ ^ 2 = (u : R) * τ - 2) (r : ZT) (h : r.1 % 2 = 0) :
    τ * ev τ (divTau u r) = ev τ r := by
  obtain ⟨r0, r1⟩ := r
  simp only at h
  obtain ⟨t, ht⟩ := Int.dvd_of_emod_eq_zero h
  subst ht
  have h2 : (2 * t).tdiv 2 = t := Int.mul_tdiv_cancel_left t (by norm_num)
  simp only [divTau, ev, h2]
  push_cast
  linear_combination (-(t : R)) * hτ

theorem sub_even {a b : ℤ} (ha : ¬a % 2 = 0) (hb : b % 2 = 1) : (a - b) % 2 = 0 := by
  rw [Int.sub_emod, hb, (Int.emod_two_eq_zero_or_one a).resolve_left ha]
  rfl

theorem ev_zero : ev τ (0, 0) = 0 := by simp [ev]

theorem ev_sub (a b : ZT) : ev τ ((a.1 - b.1, a.2 - b.2) : ZT) = ev τ a - ev τ b := by
  simp only [ev]
  push_cast
  ring

theorem ev_add (a b : ZT) : ev τ ((a.1 + b.1, a.2 + b.2) : ZT) = ev τ a + ev τ b := by
  simp only [ev]
  push_cast
  ring

theorem ev_sub_one (r : ZT) : ev τ ((r.1 - 1, r.2) : ZT) = ev τ r - 1 := by
  simp only [ev]
  push_cast
  ring

theorem ev_mulTau (hτ : τ ^ 2 = (u : R) * τ - 2) (a : ZT) :
    ev τ ((-(2 * a.2), a.1 + u * a.2) : ZT) = τ * ev τ a := by
  simp only [ev]
  push_cast
  linear_combination (-(a.2 : R)) * hτ

/-- one iteration of bn_rec_tnaf_mod on the state (r, a, b) -/
def modStep (u : ℤ) (s : ZT × ZT × ZT) : ZT × ZT × ZT :=
  let r := s.1
  let a := s.2.1
  let b := s.2.2
  let odd := r.1 % 2 ≠ 0
  let r0 := if odd then r.1 - 1 else r.1
  let b := if odd then (b.1 + a.1, b.2 + a.2) else b
  let r := divTau u (r0, r.2)
  let a : ZT := (-(2 * a.2), a.1 + u * a.2)
  (r, a, b)

theorem tnafMod_eq (k : Nat) (u : ℤ) (m : Nat) :
    tnafMod k u m =
      (((List.range m).foldl (fun s _ => modStep u s) (((k : Int), 0), (1, 0), (0, 0))).1.1 +
        ((List.range m).foldl (fun s _ => modStep u s) (((k : Int), 0), (1, 0), (0, 0))).2.2.1,
       ((List.range m).foldl (fun s _ => modStep u s) (((k : Int), 0), (1, 0), (0, 0))).1.2 +
        ((List.range m).foldl (fun s _ => modStep u s) (((k : Int), 0), (1, 0), (0, 0))).2.2.2) := rfl

/-- an iteration multiplies a by τ and keeps b + a·r -/
theorem modStep_inv (hτ : τ ^ 2 = (u : R) * τ - 2) (s : ZT × ZT × ZT) :
    ev τ (modStep u s).2.1 = τ * ev τ s.2.1 ∧
    ev τ (modStep u s).2.2 + ev τ (modStep u s).2.1 * ev τ (modStep u s).1 = ev τ s.2.2 + ev τ s.2.1 * ev τ s.1 := by
  obtain ⟨r, a, b⟩ := s
  refine ⟨ev_mulTau τ u hτ a, ?_⟩
  simp only [modStep]
  rw [ev_mulTau τ u hτ a]
  split
  · rename_i hodd
    have hd := divTau_spec τ u hτ (r.1 - 1, r.2) (sub_even (by simpa using hodd) rfl)
    rw [ev_sub_one] at hd
    rw [ev_add]
    linear_combination (ev τ a) * hd
  · rename_i hodd
    have hd := divTau_spec τ u hτ r (by simpa using hodd)
    linear_combination (ev τ a) * hd

theorem modFold_inv (hτ : τ ^ 2 = (u : R) * τ - 2) (l : List Nat) : ∀ s : ZT × ZT × ZT,
    ev τ (l.foldl (fun s _ => modStep u s) s).2.1 = τ ^ l.length * ev τ s.2.1 ∧
    ev τ (l.foldl (fun s _ => modStep u s) s).2.2 +
        ev τ (l.foldl (fun s _ => modStep u s) s).2.1 * ev τ (l.foldl (fun s _ => modStep u s) s).1 =
      ev τ s.2.2 + ev τ s.2.1 * ev τ s.1 := by
  induction l with
  | nil => intro s; exact ⟨by simp, rfl⟩
  | cons j l ih =>
    intro s
    obtain ⟨h1, h2⟩ := ih (modStep u s)
    obtain ⟨h3, h4⟩ := modStep_inv τ u hτ s
    exact ⟨by rw [List.foldl_cons, h1, h3, List.length_cons, pow_succ, mul_assoc], by rw [List.foldl_cons, h2, h4]⟩

theorem tnafMod_spec (hτ : τ ^ 2 = (u : R) * τ - 2) (k m : Nat) :
    ∃ ρ : R, (k : R) = ev τ (tnafMod k u m) + (τ ^ m - 1) * ρ := by
  obtain ⟨h1, h2⟩ := modFold_inv τ u hτ (List.range m) (((k : Int), 0), (1, 0), (0, 0))
  rw [tnafMod_eq]
  generalize (List.range m).foldl (fun s _ => modStep u s) (((k : Int), 0), (1, 0), (0, 0)) = st at h1 h2
  refine ⟨ev τ st.1, ?_⟩
  rw [ev_add, ← sub_eq_zero]
  rw [h1, List.length_range] at h2
  simp only [ev] at h2 ⊢
  push_cast at h2 ⊢
  linear_combination -h2

/-- needed so that r0 - β is even after a digit is taken; the table does not depend on u, so it is decided at u = 1 -/
theorem beta_odd (w : Nat) (hw : 3 ≤ w ∧ w ≤ 8) (i : Nat) (hi : i < 2 ^ (w - 2)) :
    (beta u w).getD i 0 % 2 = 1 := by
  have h : ∀ w < 9, 3 ≤ w → ∀ i < 2 ^ (w - 2), (beta 1 w).getD i 0 % 2 = 1 := by decide +kernel
  exact h w (by omega) hw.1 i hi

theorem tw_even (u : ℤ) (w : Nat) : tw u w % 2 = 0 := by
  unfold tw
  omega

theorem centre_odd (Q : ℕ) (v : ℤ) (h0 : 0 ≤ v) (hlt : v < 4 * Q) (hodd : v % 2 = 1) :
    (if v ≥ 4 * Q / 2 then v - 4 * Q else v) % 2 ≠ 0 ∧
      (if v ≥ 4 * Q / 2 then v - 4 * Q else v).natAbs < 2 * Q := by
  split <;> omega

/-- t_w is even, so the residue modulo 2^w is odd, and centring an odd residue never meets ±2^(w-1) -/
theorem digit_spec (u : ℤ) (w : Nat) (hw : 2 ≤ w) (r : ZT) (hr : r.1 % 2 ≠ 0) :
    digit u w r % 2 ≠ 0 ∧ (digit u w r).natAbs < 2 ^ (w - 1) := by
  unfold digit
  split
  · subst w
    omega
  · obtain ⟨s, rfl⟩ : ∃ s, w = s + 2 := ⟨w - 2, by omega⟩
    have hpw : (2 : ℤ) ^ (s + 2) = 4 * (2 ^ s : ℕ) := by
      rw [pow_succ, pow_succ, Nat.cast_pow, mul_assoc, mul_comm]
      rfl
    have h4 : (0 : ℤ) < 4 * (2 ^ s : ℕ) := by
      have := Nat.pow_pos (n := s) (show 0 < 2 by omega)
      omega
    rw [hpw, show 2 ^ (s + 2 - 1) = 2 * 2 ^ s from Nat.pow_succ']
    refine centre_odd _ _ (Int.emod_nonneg _ (by omega)) (Int.emod_lt_of_pos _ h4) ?_
    obtain ⟨T, hT⟩ := Int.dvd_of_emod_eq_zero (tw_even u (s + 2))
    rw [Int.emod_emod_of_dvd _ ⟨2 * (2 ^ s : ℕ), by omega⟩, hT, mul_assoc, Int.add_mul_emod_self_left]
    omega

theorem alpha_fst_odd (w : Nat) (hw : 2 ≤ w ∧ w ≤ 8) (d : ℤ)
    (hd : d % 2 ≠ 0) (hb : d.natAbs < 2 ^ (w - 1)) : (alpha u w d).1 % 2 = 1 := by
  unfold alpha
  rw [if_neg (by rintro rfl; exact hd rfl)]
  split
  · show d % 2 = 1
    omega
  · obtain ⟨s, rfl⟩ : ∃ s, w = s + 3 := ⟨w - 3, by omega⟩
    have hβ := beta_odd u (s + 3) ⟨by omega, hw.2⟩ (d.natAbs / 2)
      (Nat.div_lt_of_lt_mul (by rw [← Nat.pow_succ']; exact hb))
    simp only
    split
    · show (-(beta u (s + 3)).getD (d.natAbs / 2) 0) % 2 = 1
      omega
    · exact hβ

theorem alpha_zero (w : Nat) : alpha u w 0 = (0, 0) := by simp [alpha]

theorem evalTau_snoc (w : Nat) (acc : List Int) (d : ℤ) :
    evalTau τ u w (acc ++ [d]) = evalTau τ u w acc + τ ^ acc.length * ev τ (alpha u w d) := by
  rw [evalTau_append]
  simp [evalTau]

theorem recTnafLoop_spec (hτ : τ ^ 2 = (u : R) * τ - 2) (w : Nat) (hw : 2 ≤ w ∧ w ≤ 8)
    (fuel : Nat) (r : ZT) (acc : List Int) :
    ∀ ds, recTnafLoop u w fuel r acc = some ds →
      (∀ d ∈ acc, d = 0 ∨ (d % 2 ≠ 0 ∧ d.natAbs < 2 ^ (w - 1))) →
      evalTau τ u w ds = evalTau τ u w acc + τ ^ acc.length * ev τ r ∧
      ∀ d ∈ ds, d = 0 ∨ (d % 2 ≠ 0 ∧ d.natAbs < 2 ^ (w - 1)) := by
  fun_induction recTnafLoop u w fuel r acc with
  | case1 acc | case3 _ acc =>
    intro ds h hacc
    cases h
    exact ⟨by rw [ev_zero, mul_zero, add_zero], hacc⟩
  | case2 => intro ds h; cases h
  | case4 fuel r acc hr he ih =>
    intro ds h hacc
    obtain ⟨h1, h2⟩ := ih ds h (List.forall_mem_append.2 ⟨hacc, by simp⟩)
    refine ⟨?_, h2⟩
    rw [h1, evalTau_snoc, alpha_zero, ev_zero, List.length_append, List.length_singleton, pow_succ,
      ← divTau_spec τ u hτ r he, mul_zero, add_zero, mul_assoc]
  | case5 fuel r acc hr he d a ih =>
    intro ds h hacc
    have hd := digit_spec u w hw.1 r he
    obtain ⟨h1, h2⟩ := ih ds h (List.forall_mem_append.2 ⟨hacc, by simpa using Or.inr hd⟩)
    refine ⟨?_, h2⟩
    -- r0 and the first coordinate of α(d) are both odd, so the division by τ is exact
    have hdiv := divTau_spec τ u hτ (r.1 - a.1, r.2 - a.2) (sub_even he (alpha_fst_odd u w hw _ hd.1 hd.2))
    rw [ev_sub] at hdiv
    rw [h1, evalTau_snoc, List.length_append, List.length_singleton, pow_succ, mul_assoc, hdiv, add_assoc,
      ← mul_add, add_sub_cancel]

theorem recTnaf_spec (hτ : τ ^ 2 = (u : R) * τ - 2) (cap k m w : Nat) (hw : 2 ≤ w ∧ w ≤ 8)
    (ds : List Int) (h : recTnaf cap k u m w = some ds) :
    (∃ ρ : R, (k : R) = evalTau τ u w ds + (τ ^ m - 1) * ρ) ∧
    (∀ d ∈ ds, d = 0 ∨ (d % 2 ≠ 0 ∧ d.natAbs < 2 ^ (w - 1))) := by
  have key : ∀ fuel, recTnafLoop u w fuel (tnafMod k u m) [] = some ds →
      (∃ ρ : R, (k : R) = evalTau τ u w ds + (τ ^ m - 1) * ρ) ∧
      (∀ d ∈ ds, d = 0 ∨ (d % 2 ≠ 0 ∧ d.natAbs < 2 ^ (w - 1))) := by
    intro fuel h
    obtain ⟨h1, h2⟩ := recTnafLoop_spec τ u hτ w hw _ _ _ ds h (by simp)
    obtain ⟨ρ, hρ⟩ := tnafMod_spec τ u hτ k m
    refine ⟨⟨ρ, ?_⟩, h2⟩
    rw [h1, hρ]
    simp [evalTau]
  simp only [recTnaf] at h
  split_ifs at h <;> exact key _ h

end Relic.Lemmas.Tnaf
