/-
The ep point codec (Model/EpConv.lean). The first part is shared with the Edwards, twist and Fp2 codecs (Lemmas/EdConv, Ep2Conv,
Fp2Conv): the reader of one field element, the framing (dispatch on length and tag byte) of the three point decoders, and the
choice between the two square roots of a value by a sign bit.
-/
import RelicVerif.Model.EpConv
import RelicVerif.Lemmas.Codec

namespace Relic.Model.EpConv
open Relic.Lemmas.Codec

theorem beBytes_length (n k : Nat) : (beBytes n k).length = k := bytes_length n k

theorem length_comp (tag : UInt8) (v nb : Nat) : (tag :: beBytes v nb).length = nb + 1 := by
  simp [beBytes_length]

theorem length_unc (tag : UInt8) (v w nb : Nat) : (tag :: (beBytes v nb ++ beBytes w nb)).length = 2 * nb + 1 := by
  simp [beBytes_length]
  omega

theorem beBytes_succ (n k : Nat) : beBytes n (k + 1) = beBytes (n / 256) k ++ [UInt8.ofNat (n % 256)] := bytes_snoc n k

theorem beVal_concat (b : Bytes) (a : UInt8) : beVal (b ++ [a]) = beVal b * 256 + a.toNat := val_snoc b a

theorem beVal_beBytes_mod (k n : Nat) : beVal (beBytes n k) = n % 256 ^ k := val_bytes n k

theorem beVal_beBytes (k : Nat) : ∀ n, n < 256 ^ k → beVal (beBytes n k) = n :=
  fun n h => (beVal_beBytes_mod k n).trans (Nat.mod_eq_of_lt h)

theorem beBytes_beVal (b : Bytes) : beBytes (beVal b) b.length = b := bytes_val b

end Relic.Model.EpConv

namespace Relic.Lemmas.Codec
open Relic.Model.EpConv (Bytes beBytes beVal beBytes_length beVal_beBytes beBytes_beVal)

/-- fp_read_bin on exactly `nb` bytes: none unless the value is below `p` (the body of `fpRead` of both point models) -/
def fpRd (nb p : Nat) (b : Bytes) : Option Nat :=
  if b.length ≠ nb then none else if beVal b < p then some (beVal b) else none

theorem fpRd_eq_some {nb p v : Nat} {b : Bytes} : fpRd nb p b = some v ↔ b.length = nb ∧ beVal b = v ∧ v < p := by
  constructor
  · intro h
    unfold fpRd at h
    split at h
    · cases h
    · split at h
      · cases h; exact ⟨by omega, rfl, by assumption⟩
      · cases h
  · rintro ⟨hl, rfl, hv⟩
    simp [fpRd, hl, hv]

theorem fpRd_bytes {nb p v : Nat} {b : Bytes} (h : fpRd nb p b = some v) : b = beBytes v nb := by
  obtain ⟨rfl, rfl, _⟩ := fpRd_eq_some.mp h
  exact (beBytes_beVal b).symm

theorem fpRd_beBytes {nb p v : Nat} (hnb : p ≤ 256 ^ nb) (hv : v < p) : fpRd nb p (beBytes v nb) = some v :=
  fpRd_eq_some.mpr ⟨beBytes_length v nb, beVal_beBytes _ _ (by omega), hv⟩

section Frame
variable {β φ α : Type} [DecidableEq β]

/-- The dispatch shared by ep_read_bin, ed_read_bin and ep2_read_bin: the byte `z` alone is the neutral element, a tag
    2 | s followed by one field element is a compressed point, the tag `four` followed by two field elements an
    uncompressed one. `rd` reads a field element from exactly `n` bytes, `tg` is the value of a byte, `comp` and `unc`
    finish the two forms (decompression and the curve check). -/
def frame (z four : β) (tg : β → Nat) (n : Nat) (rd : List β → Option φ) (zero : α)
    (comp : φ → Nat → Option α) (unc : φ → φ → Option α) (bin : List β) : Option α :=
  if bin.length = 1 then (if bin.head? = some z then some zero else none)
  else if bin.length = n + 1 then
    match rd (bin.drop 1) with
    | none => none
    | some v =>
      let tag := tg (bin.headD z)
      if tag ≠ 2 ∧ tag ≠ 3 then none else comp v (tag - 2)
  else if bin.length = 2 * n + 1 then
    if bin.head? ≠ some four then none
    else match rd ((bin.drop 1).take n), rd (bin.drop (1 + n)) with
      | some v, some w => unc v w
      | _, _ => none
  else none

variable {z four : β} {tg : β → Nat} {n : Nat} {rd : List β → Option φ} {zero : α}
  {comp : φ → Nat → Option α} {unc : φ → φ → Option α}

theorem frame_one (a : β) : frame z four tg n rd zero comp unc [a] = if a = z then some zero else none := by
  simp [frame]

theorem frame_comp (hn : n ≠ 0) (tag : β) (r : List β) (hr : r.length = n) :
    frame z four tg n rd zero comp unc (tag :: r) =
      (rd r).bind fun v => if tg tag ≠ 2 ∧ tg tag ≠ 3 then none else comp v (tg tag - 2) := by
  have h1 : (tag :: r).length ≠ 1 := by simp [hr, hn]
  have h2 : (tag :: r).length = n + 1 := by simp [hr]
  simp only [frame, if_neg h1, if_pos h2, List.drop_succ_cons, List.drop_zero, List.headD_cons]
  cases rd r <;> rfl

theorem frame_unc (hn : n ≠ 0) (tag : β) (r s : List β) (hr : r.length = n) (hs : s.length = n) :
    frame z four tg n rd zero comp unc (tag :: (r ++ s)) =
      if tag = four then (rd r).bind fun v => (rd s).bind fun w => unc v w else none := by
  have h1 : (tag :: (r ++ s)).length ≠ 1 := by simp [hr, hn]
  have h2 : (tag :: (r ++ s)).length ≠ n + 1 := by simp [hr, hs, hn]
  have h3 : (tag :: (r ++ s)).length = 2 * n + 1 := by simp [hr, hs]; omega
  have ht : ((tag :: (r ++ s)).drop 1).take n = r := by simp [← hr]
  have hd : (tag :: (r ++ s)).drop (1 + n) = s := by simp [← hr, Nat.add_comm 1]
  simp only [frame, if_neg h1, if_neg h2, if_pos h3, ht, hd, List.head?_cons, Option.some.injEq, ne_eq, ite_not]
  split
  · cases rd r <;> cases rd s <;> rfl
  · rfl

theorem frame_cases {bin : List β} {P : α} (h : frame z four tg n rd zero comp unc bin = some P) :
    (bin = [z] ∧ P = zero) ∨
    (n ≠ 0 ∧ ∃ tag r v, bin = tag :: r ∧ rd r = some v ∧ (tg tag = 2 ∨ tg tag = 3) ∧ comp v (tg tag - 2) = some P) ∨
    (n ≠ 0 ∧ ∃ r s v w, bin = four :: (r ++ s) ∧ r.length = n ∧ rd r = some v ∧ rd s = some w ∧ unc v w = some P) := by
  by_cases h1 : bin.length = 1
  · match bin, h1 with
    | [a], _ =>
      rw [frame_one] at h
      split at h
      · next ha => cases h; exact .inl ⟨by rw [ha], rfl⟩
      · cases h
  · by_cases h2 : bin.length = n + 1
    · have hn : n ≠ 0 := by omega
      match bin, h2 with
      | tag :: r, h2 =>
        rw [frame_comp hn tag r (by simpa using h2)] at h
        obtain ⟨v, hv, h⟩ := Option.bind_eq_some_iff.mp h
        split at h
        · cases h
        · exact .inr (.inl ⟨hn, tag, r, v, rfl, hv, by omega, h⟩)
    · by_cases h3 : bin.length = 2 * n + 1
      · have hn : n ≠ 0 := by omega
        match bin, h3 with
        | tag :: l, h3 =>
          rw [List.length_cons] at h3
          rw [← List.take_append_drop n l, frame_unc hn tag _ _ (by rw [List.length_take]; omega)
            (by rw [List.length_drop]; omega)] at h
          split at h
          · next ht =>
            obtain ⟨v, hv, h⟩ := Option.bind_eq_some_iff.mp h
            obtain ⟨w, hw, h⟩ := Option.bind_eq_some_iff.mp h
            exact .inr (.inr ⟨hn, _, _, v, w, by rw [ht, List.take_append_drop], by rw [List.length_take]; omega, hv, hw, h⟩)
          · cases h
      · rw [frame, if_neg h1, if_neg h2, if_neg h3] at h
        cases h

end Frame

theorem tag_toNat {bit : Nat} (hbit : bit ≤ 1) : (UInt8.ofNat (2 + bit)).toNat = 2 + bit := by
  rw [UInt8.toNat_ofNat']; omega

theorem tag_ofNat {t : UInt8} (h : t.toNat = 2 ∨ t.toNat = 3) : UInt8.ofNat (2 + (t.toNat - 2)) = t := by
  rw [show 2 + (t.toNat - 2) = t.toNat by omega, UInt8.ofNat_toNat]

end Relic.Lemmas.Codec

namespace Relic.Model.EpConv
open Relic.Spec.Curve Relic.Lemmas.Codec

/-! ### square roots modulo a prime and the choice between them by a sign bit -/

theorem prime_dvd_mul {p : Nat} (hprime : ∀ d, d ∣ p → d = 1 ∨ d = p) {a b : Nat} (h : p ∣ a * b) :
    p ∣ a ∨ p ∣ b := by
  rcases hprime (Nat.gcd p a) (Nat.gcd_dvd_left p a) with h1 | hp
  · exact .inr (Nat.Coprime.dvd_of_dvd_mul_left h1 h)
  · exact .inl (hp ▸ Nat.gcd_dvd_right p a)

theorem sq_eq {p : Nat} (hprime : ∀ d, d ∣ p → d = 1 ∨ d = p) {r y : Nat} (hr : r < p)
    (hy : y < p) (h : r * r % p = y * y % p) : r = y ∨ r + y = p := by
  -- the smaller root first: p divides (y − r)·(y + r)
  have ordered : ∀ {r y : Nat}, r ≤ y → y < p → r * r % p = y * y % p → r = y ∨ r + y = p := by
    intro r y hry hy h
    have h1 : (y * y - r * r) % p = 0 := Nat.sub_mod_eq_zero_of_mod_eq h.symm
    rw [Nat.mul_self_sub_mul_self_eq] at h1
    rcases prime_dvd_mul hprime (Nat.dvd_of_mod_eq_zero h1) with h2 | h2
    · obtain ⟨k, hk⟩ := h2
      rcases k with _ | _ | k
      · omega
      · omega
      · rw [Nat.mul_add, Nat.mul_add] at hk; omega
    · have := Nat.eq_zero_of_dvd_of_lt h2 (by omega)
      omega
  rcases Nat.le_total r y with hry | hry
  · exact ordered hry hy h
  · rcases ordered hry hr h.symm with h1 | h1
    · exact .inl h1.symm
    · exact .inr (by omega)

theorem pick_root {p : Nat} (hprime : ∀ d, d ∣ p → d = 1 ∨ d = p) {sign : Nat → Nat}
    (hsep : ∀ v, 0 < v → v < p → sign v ≠ sign (p - v)) {r y : Nat} (hr : r < p) (hy : y < p)
    (h : r * r % p = y * y % p) : (if sign r ≠ sign y then (p - r) % p else r) = y := by
  by_cases hry : r = y
  · subst hry; simp
  · have hr' : r = p - y := by have := sq_eq hprime hr hy h; omega
    rw [if_pos (hr' ▸ (hsep y (by omega) hy).symm), Nat.mod_eq_of_lt (by omega)]
    omega

/-- `h0`: the negation of the root 0 is 0, whatever bit is requested -/
theorem pick_sign {p : Nat} {sign : Nat → Nat} (hsep : ∀ v, 0 < v → v < p → sign v ≠ sign (p - v))
    (hle : ∀ v, sign v ≤ 1) {r bit : Nat} (hr : r < p) (hbit : bit ≤ 1)
    (h0 : (if sign r ≠ bit then (p - r) % p else r) ≠ 0) :
    sign (if sign r ≠ bit then (p - r) % p else r) = bit := by
  by_cases hr0 : r = 0
  · subst hr0; simp at h0
  · split
    · rw [Nat.mod_eq_of_lt (by omega)]
      have h1 := hsep r (by omega) hr
      have h2 := hle r
      have h3 := hle (p - r)
      omega
    · next heq => simpa using heq

/-- the sign bit of the stored (Montgomery) form separates v from −v: p is odd and R is a unit, so v·R mod p and
    (p − v)·R mod p = p − (v·R mod p) have different parities -/
theorem parity_neg {p R : Nat} (hodd : p % 2 = 1) (hR : ∀ v, v < p → v * R % p = 0 → v = 0) (v : Nat) (h0 : 0 < v)
    (hv : v < p) : v * R % p % 2 ≠ (p - v) * R % p % 2 := by
  have hp0 : 0 < p := by omega
  have hm : v * R % p ≠ 0 := fun h => by have := hR v hv h; omega
  have hsum : ((p - v) * R % p + v * R % p) % p = 0 := by
    rw [← Nat.add_mod, ← Nat.add_mul, Nat.sub_add_cancel (by omega)]; exact Nat.mul_mod_right _ _
  have h1 := Nat.mod_lt ((p - v) * R) hp0
  have h2 := Nat.mod_lt (v * R) hp0
  generalize (p - v) * R % p = m1 at hsum h1 ⊢
  generalize v * R % p = m2 at hsum h2 hm ⊢
  have hs : m1 + m2 = p := by
    rcases Nat.lt_or_ge (m1 + m2) p with h | h
    · rw [Nat.mod_eq_of_lt h] at hsum; omega
    · rw [Nat.mod_eq_sub_mod h, Nat.mod_eq_of_lt (by omega)] at hsum; omega
  omega

theorem bf_sound {p a r : Nat} (h : ((List.range p).find? fun r => r * r % p = a % p) = some r) :
    r < p ∧ r * r % p = a % p :=
  ⟨List.mem_range.mp (List.mem_of_find?_eq_some h), by simpa using List.find?_some h⟩

theorem bf_complete {p a y : Nat} (hy : y < p) (hyy : y * y % p = a % p) :
    ((List.range p).find? fun r => r * r % p = a % p).isSome := by
  rw [List.find?_isSome]
  exact ⟨y, List.mem_range.mpr hy, by simpa using hyy⟩

/-! ### the ep codec -/

/-- contract of the square-root parameter (fp_srt): soundness -/
def SrtSound (x : Ctx) : Prop := ∀ a r, x.srt a = some r → r < x.c.p ∧ r * r % x.c.p = a % x.c.p
/-- … and completeness -/
def SrtComplete (x : Ctx) : Prop := ∀ a y, y < x.c.p → y * y % x.c.p = a % x.c.p → (x.srt a).isSome

/-- holds for odd p: always under the pairing convention (`signSeparates_pairf`), under the Montgomery-parity convention when R is a
    unit modulo p (`parity_neg`); kept as a hypothesis on the context -/
def SignSeparates (x : Ctx) : Prop := ∀ y, 0 < y → y < x.c.p → signBit x y ≠ signBit x (x.c.p - y)

theorem signSeparates_pairf (x : Ctx) (hpf : x.pairf = true) (hodd : x.c.p % 2 = 1) : SignSeparates x := by
  intro y h0 hy
  simp only [signBit, hpf, if_true]
  split <;> split <;> omega

theorem signBit_le_one (x : Ctx) (y : Nat) : signBit x y ≤ 1 := by
  unfold signBit
  split
  · split <;> omega
  · omega

theorem signBit_zero (x : Ctx) : signBit x 0 = 0 := by
  simp [signBit]

/-- the right-hand side of the curve equation, whose square root ep_upk takes -/
def upkRhs (c : Curve) (px : Nat) : Nat := (px * px % c.p * px + c.a * px + c.b) % c.p

theorem onCurve_some {c : Curve} {px py : Nat} (h : onCurve c (some (px, py)) = true) :
    px < c.p ∧ py < c.p ∧ py * py % c.p = upkRhs c px := by
  simpa [onCurve, upkRhs, and_assoc] using h

theorem upk_eq_some {x : Ctx} {px bit py : Nat} : upk x px bit = some py ↔
    ∃ r, x.srt (upkRhs x.c px) = some r ∧ (if signBit x r ≠ bit then (x.c.p - r) % x.c.p else r) = py := by
  unfold upk upkRhs
  dsimp only
  cases x.srt _ with
  | none => simp
  | some r => simp only [Option.some.injEq, exists_eq_left']; split <;> simp

theorem upk_signBit {x : Ctx} (hs : SrtSound x) (hsep : SignSeparates x) {px bit py : Nat} (hbit : bit ≤ 1)
    (h : upk x px bit = some py) (hpy : py ≠ 0) : signBit x py = bit := by
  obtain ⟨r, hr, rfl⟩ := upk_eq_some.mp h
  exact pick_sign hsep (signBit_le_one x) (hs _ _ hr).1 hbit hpy

theorem srt_onCurve {x : Ctx} (hs : SrtSound x) (hc : SrtComplete x) {px py : Nat}
    (hon : onCurve x.c (some (px, py)) = true) :
    ∃ r, x.srt (upkRhs x.c px) = some r ∧ r < x.c.p ∧ r * r % x.c.p = py * py % x.c.p := by
  obtain ⟨_, hpy, heq⟩ := onCurve_some hon
  have hmod : upkRhs x.c px % x.c.p = upkRhs x.c px := Nat.mod_mod _ _
  obtain ⟨r, hr⟩ := Option.isSome_iff_exists.mp (hc (upkRhs x.c px) py hpy (by rw [hmod, heq]))
  obtain ⟨hrp, hrr⟩ := hs _ _ hr
  exact ⟨r, hr, hrp, by rw [hrr, hmod, heq]⟩

theorem upk_complete {x : Ctx} (hprime : ∀ d, d ∣ x.c.p → d = 1 ∨ d = x.c.p) (hs : SrtSound x)
    (hc : SrtComplete x) (hsep : SignSeparates x) {px py : Nat} (hon : onCurve x.c (some (px, py)) = true) :
    upk x px (signBit x py) = some py := by
  obtain ⟨r, hr, hrp, hrr⟩ := srt_onCurve hs hc hon
  exact upk_eq_some.mpr ⟨r, hr, pick_root hprime hsep hrp (onCurve_some hon).2.1 hrr⟩

theorem upk_twoTorsion {x : Ctx} (hprime : ∀ d, d ∣ x.c.p → d = 1 ∨ d = x.c.p) (hs : SrtSound x)
    (hc : SrtComplete x) {px : Nat} (hon : onCurve x.c (some (px, 0)) = true) (bit : Nat) :
    upk x px bit = some 0 := by
  obtain ⟨r, hr, hrp, hrr⟩ := srt_onCurve hs hc hon
  have hr0 : r = 0 := by
    rcases sq_eq hprime hrp (onCurve_some hon).2.1 hrr with h1 | h1 <;> omega
  subst hr0
  exact upk_eq_some.mpr ⟨0, hr, by split <;> simp⟩

theorem writeBin_error_iff (x : Ctx) (len : Nat) (P : Point) (pack : Bool) :
    writeBin x len P pack = none ↔ len < sizeBin x P pack := by
  unfold writeBin sizeBin
  rcases P with _ | ⟨px, py⟩
  · simp
  · cases pack <;> simp

theorem writeBin_none (x : Ctx) (pack : Bool) : writeBin x 1 none pack = some [0] := by
  simp [writeBin]

theorem writeBin_pack (x : Ctx) (px py : Nat) :
    writeBin x (x.nb + 1) (some (px, py)) true = some (UInt8.ofNat (2 + signBit x py) :: beBytes px x.nb) := by
  simp [writeBin]

theorem writeBin_unpack (x : Ctx) (px py : Nat) :
    writeBin x (2 * x.nb + 1) (some (px, py)) false = some (4 :: (beBytes px x.nb ++ beBytes py x.nb)) := by
  simp [writeBin]

-- the two sides differ only in the names of the auxiliary functions `match` is compiled to, which `rfl` unfolds
-- only without smart unfolding
set_option smartUnfolding false in
theorem readBin_eq (x : Ctx) : readBin x = frame 0 4 UInt8.toNat x.nb (fpRd x.nb x.c.p) none
    (fun px bit => (upk x px bit).bind fun py => Option.guard (onCurve x.c) (some (px, py)))
    (fun px py => Option.guard (onCurve x.c) (some (px, py))) := rfl

theorem readBin_cases {x : Ctx} {bin : Bytes} {P : Point} (h : readBin x bin = some P) :
    (bin = [0] ∧ P = none) ∨
    (x.nb ≠ 0 ∧ ∃ tag px py, bin = tag :: beBytes px x.nb ∧ (tag.toNat = 2 ∨ tag.toNat = 3) ∧
      upk x px (tag.toNat - 2) = some py ∧ onCurve x.c (some (px, py)) = true ∧ P = some (px, py)) ∨
    (x.nb ≠ 0 ∧ ∃ px py, bin = 4 :: (beBytes px x.nb ++ beBytes py x.nb) ∧
      onCurve x.c (some (px, py)) = true ∧ P = some (px, py)) := by
  rw [readBin_eq] at h
  rcases frame_cases h with h | ⟨hn, tag, r, px, rfl, hpx, ht, hc⟩ | ⟨hn, r, s, px, py, rfl, -, hpx, hpy, hc⟩
  · exact .inl h
  · obtain ⟨py, hpy, hc⟩ := Option.bind_eq_some_iff.mp hc
    obtain ⟨rfl, hon⟩ := Option.guard_eq_some_iff.mp hc
    exact .inr (.inl ⟨hn, tag, px, py, by rw [fpRd_bytes hpx], ht, hpy, hon, rfl⟩)
  · obtain ⟨rfl, hon⟩ := Option.guard_eq_some_iff.mp hc
    exact .inr (.inr ⟨hn, px, py, by rw [fpRd_bytes hpx, fpRd_bytes hpy], hon, rfl⟩)

theorem readBin_tag (x : Ctx) (hnb : x.c.p ≤ 256 ^ x.nb) (hnb0 : 0 < x.nb) (px py bit : Nat) (hbit : bit ≤ 1)
    (hupk : upk x px bit = some py) (hon : onCurve x.c (some (px, py)) = true) :
    readBin x (UInt8.ofNat (2 + bit) :: beBytes px x.nb) = some (some (px, py)) := by
  rw [readBin_eq, frame_comp (by omega) _ _ (beBytes_length px x.nb), fpRd_beBytes hnb (onCurve_some hon).1,
    Option.bind_some, tag_toNat hbit, if_neg (by omega), Nat.add_sub_cancel_left, hupk]
  exact if_pos hon

/-- every accepting path of ep_read_bin ends with the explicit `onCurve` check, which includes canonical coordinates -/
theorem readBin_valid (x : Ctx) (bin : Bytes) (P : Point) (h : readBin x bin = some P) : onCurve x.c P = true := by
  rcases readBin_cases h with ⟨_, rfl⟩ | ⟨_, _, _, _, _, _, _, hon, rfl⟩ | ⟨_, _, _, _, hon, rfl⟩
  · rfl
  · exact hon
  · exact hon

theorem readBin_shape (x : Ctx) (bin : Bytes) (P : Point) (h : readBin x bin = some P) :
    (bin = [0] ∧ P = none) ∨
    (bin.length = x.nb + 1 ∧ (bin.head? = some 2 ∨ bin.head? = some 3) ∧ P ≠ none) ∨
    (bin.length = 2 * x.nb + 1 ∧ bin.head? = some 4 ∧ P ≠ none) := by
  rcases readBin_cases h with h | ⟨_, tag, px, py, rfl, ht, _, _, rfl⟩ | ⟨_, px, py, rfl, _, rfl⟩
  · exact .inl h
  · refine .inr (.inl ⟨length_comp _ _ _, ?_, by simp⟩)
    rw [← tag_ofNat ht]
    rcases ht with ht | ht <;> rw [ht]
    · exact .inl rfl
    · exact .inr rfl
  · exact .inr (.inr ⟨length_unc _ _ _ _, rfl, by simp⟩)

-- `hy0` (a compressed input must not decode to a point with y = 0) cannot be dropped: without it the statement is
-- false, and this is a property of the C code, not of the model: ep_upk negates the root when its sign bit differs
-- from the requested one, but -0 = 0, so for a point (x, 0) of order 2 both `02 ‖ x` and `03 ‖ x` are accepted and
-- decode to the same point, while ep_write_bin always emits `02 ‖ x`. Counterexample (p = 11, y² = x³ + x, nb = 1):
-- readBin [3, 0] = some (0, 0) and writeBin 2 (0, 0) pack = [2, 0] ≠ [3, 0] — see the `example`s at the end.
-- Curves of odd order (all prime-order curves) have no such point, so there `hy0` is vacuous.
theorem writeBin_readBin (x : Ctx) (hs : SrtSound x) (hsep : SignSeparates x)
    (bin : Bytes) (P : Point) (h : readBin x bin = some P)
    (hy0 : bin.length = x.nb + 1 → ∀ px, P ≠ some (px, 0)) :
    writeBin x bin.length P (bin.length = x.nb + 1) = some bin := by
  rcases readBin_cases h with ⟨rfl, rfl⟩ | ⟨hn, tag, px, py, rfl, ht, hupk, hon, rfl⟩ | ⟨hn, px, py, rfl, hon, rfl⟩
  · exact writeBin_none x _
  · have hl := length_comp tag px x.nb
    have hbit := upk_signBit hs hsep (by omega) hupk fun h0 => hy0 hl px (by rw [h0])
    rw [hl, decide_eq_true rfl, writeBin_pack, hbit, tag_ofNat ht]
  · have hl := length_unc 4 px py x.nb
    rw [hl, decide_eq_false (by omega), writeBin_unpack]

-- `hprime` (p is prime, in divisor form: this file imports core Lean only) cannot be dropped: for composite p a
-- square has more than two roots: p = 15, y² = x³ + 1, P = (0, 4): writeBin gives [2, 0], brute-force srt 1 = 1, and
-- readBin [2, 0] = some (0, 1) ≠ P, although SrtSound, SrtComplete, SignSeparates all hold (see the `example` at the
-- end). Not a defect of the C code (fp contexts are prime fields).
theorem readBin_writeBin (x : Ctx) (hnb : x.c.p ≤ 256 ^ x.nb) (hnb0 : 0 < x.nb) (hs : SrtSound x)
    (hc : SrtComplete x) (hsep : SignSeparates x)
    (hprime : ∀ d, d ∣ x.c.p → d = 1 ∨ d = x.c.p)
    (P : Point) (hP : onCurve x.c P = true) (pack : Bool) (b : Bytes)
    (h : writeBin x (sizeBin x P pack) P pack = some b) :
    readBin x b = some P := by
  rcases P with _ | ⟨px, py⟩
  · rw [show sizeBin x none pack = 1 from rfl, writeBin_none] at h
    cases h
    rw [readBin_eq, frame_one]
    rfl
  · obtain ⟨hpx, hpy, _⟩ := onCurve_some hP
    cases pack
    · rw [show sizeBin x (some (px, py)) false = 2 * x.nb + 1 from rfl, writeBin_unpack] at h
      cases h
      rw [readBin_eq, frame_unc (by omega) _ _ _ (beBytes_length px x.nb) (beBytes_length py x.nb), if_pos rfl,
        fpRd_beBytes hnb hpx, fpRd_beBytes hnb hpy]
      exact if_pos hP
    · rw [show sizeBin x (some (px, py)) true = x.nb + 1 from rfl, writeBin_pack] at h
      cases h
      exact readBin_tag x hnb hnb0 px py _ (signBit_le_one x py) (upk_complete hprime hs hc hsep hP) hP

theorem readBin_inj (x : Ctx) (hs : SrtSound x) (hsep : SignSeparates x) (b1 b2 : Bytes) (P : Point)
    (h1 : readBin x b1 = some P) (h2 : readBin x b2 = some P) (hl : b1.length = b2.length)
    (hy0 : b1.length = x.nb + 1 → ∀ px, P ≠ some (px, 0)) : b1 = b2 := by
  have e1 := writeBin_readBin x hs hsep b1 P h1 hy0
  have e2 := writeBin_readBin x hs hsep b2 P h2 (hl ▸ hy0)
  rw [hl, e2] at e1
  exact (Option.some.inj e1).symm

/-- FINDING: compressed points of order 2 are malleable: ep_read_bin accepts them under both tags, ep_write_bin emits only `02`.
    This is why `writeBin_readBin` needs `hy0`. -/
theorem readBin_twoTorsion_malleable (x : Ctx) (hnb : x.c.p ≤ 256 ^ x.nb) (hnb0 : 0 < x.nb) (hs : SrtSound x)
    (hc : SrtComplete x) (hprime : ∀ d, d ∣ x.c.p → d = 1 ∨ d = x.c.p) (px : Nat)
    (hon : onCurve x.c (some (px, 0)) = true) :
    readBin x (2 :: beBytes px x.nb) = some (some (px, 0)) ∧
    readBin x (3 :: beBytes px x.nb) = some (some (px, 0)) ∧
    writeBin x (x.nb + 1) (some (px, 0)) true = some (2 :: beBytes px x.nb) := by
  refine ⟨?_, ?_, ?_⟩
  · exact readBin_tag x hnb hnb0 px 0 0 (by omega) (upk_twoTorsion hprime hs hc hon 0) hon
  · exact readBin_tag x hnb hnb0 px 0 1 (by omega) (upk_twoTorsion hprime hs hc hon 1) hon
  · rw [writeBin_pack, signBit_zero]; rfl

/-! ### counterexamples: `hy0` and `hprime` cannot be dropped -/

section Counterexamples

private def bfSrt (p : Nat) : Nat → Option Nat := fun a => (List.range p).find? fun r => r * r % p = a % p

/-- y² = x³ + x over F₁₁ with the point (0, 0) of order 2; 1-byte field elements, plain parity -/
private def cex1 : Ctx := { c := { p := 11, a := 1, b := 0 }, nb := 1, pairf := false, R := 1, srt := bfSrt 11 }

private theorem bfSrt_sound (x : Ctx) (h : x.srt = bfSrt x.c.p) : SrtSound x :=
  fun _ _ hr => bf_sound (by rw [h] at hr; exact hr)

private theorem bfSrt_complete (x : Ctx) (h : x.srt = bfSrt x.c.p) : SrtComplete x :=
  fun _ _ hy hyy => by rw [h]; exact bf_complete hy hyy

/-- the counterexample context satisfies every other hypothesis of `writeBin_readBin` (and p = 11 is prime) -/
example : 1 < cex1.c.p ∧ cex1.c.p ≤ 256 ^ cex1.nb ∧ 0 < cex1.nb ∧ SrtSound cex1 ∧ SrtComplete cex1 ∧
    SignSeparates cex1 ∧ ∀ d, d ∣ cex1.c.p → d = 1 ∨ d = cex1.c.p := by
  refine ⟨by decide, by decide, by decide, bfSrt_sound _ rfl, bfSrt_complete _ rfl, ?_, ?_⟩
  · exact parity_neg (p := 11) (R := 1) rfl fun v hv h => by rwa [Nat.mul_one, Nat.mod_eq_of_lt hv] at h
  · intro d hd
    have hle : d ≤ 11 := Nat.le_of_dvd (by decide) hd
    have : ∀ d, d ≤ 11 → d ∣ 11 → d = 1 ∨ d = 11 := by decide
    exact this d hle hd

/-- `writeBin_readBin` without `hy0` fails: `03 00` is accepted but re-encodes as `02 00` (both conventions) -/
example : readBin cex1 [3, 0] = some (some (0, 0)) ∧ readBin cex1 [2, 0] = some (some (0, 0)) ∧
    writeBin cex1 [3, 0].length (some (0, 0)) ([3, 0].length = cex1.nb + 1) = some [2, 0] := by decide
example : readBin { cex1 with pairf := true } [3, 0] = some (some (0, 0)) ∧
    writeBin { cex1 with pairf := true } 2 (some (0, 0)) true = some [2, 0] := by decide

/-- y² = x³ + 1 over Z/15 (composite): 1 has the square roots 1, 4, 11, 14 -/
private def cex2 : Ctx := { c := { p := 15, a := 0, b := 1 }, nb := 1, pairf := true, R := 1, srt := bfSrt 15 }

/-- … and satisfies every hypothesis of `readBin_writeBin` but primality -/
example : 1 < cex2.c.p ∧ cex2.c.p ≤ 256 ^ cex2.nb ∧ 0 < cex2.nb ∧ SrtSound cex2 ∧ SrtComplete cex2 ∧
    SignSeparates cex2 :=
  ⟨by decide, by decide, by decide, bfSrt_sound _ rfl, bfSrt_complete _ rfl, signSeparates_pairf _ rfl rfl⟩

/-- `readBin_writeBin` without the primality hypothesis fails: (0, 4) encodes to `02 00`, which decodes to (0, 1) -/
example : onCurve cex2.c (some (0, 4)) = true ∧
    writeBin cex2 (sizeBin cex2 (some (0, 4)) true) (some (0, 4)) true = some [2, 0] ∧
    readBin cex2 [2, 0] = some (some (0, 1)) := by decide

end Counterexamples

end Relic.Model.EpConv
