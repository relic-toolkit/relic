/-
Paillier and Benaloh for property C06: (1+n)^m ≡ 1 + m·n (mod n²); decryption of every representative of a well-formed ciphertext
(1+n)^m r^n returns m mod n for every exponent m (from which Props/C06 `paillier_homomorphic` gets that multiplying ciphertexts adds
plaintexts modulo n, wrap-around included); the CRT decryption of `bn_mxp_crt(…, 1)`
(L-function modulo p² and q²) returns the same value; Benaloh decryption by search returns the plaintext.
The statements are about the executable definitions of Spec/Cp.lean and Model/Cp.lean.
-/
import Mathlib.FieldTheory.Finite.Basic
import Mathlib.Data.ZMod.Basic
import Mathlib.Data.Nat.Totient
import Mathlib.GroupTheory.OrderOfElement
import RelicVerif.Lemmas.RsaC06

namespace Relic.Lemmas.PaillierC06
open Relic.Spec.Curve (powMod powMod_eq invEuclid)
open Relic.Spec.Cp Relic.Model.Cp
open Relic.Lemmas.NumC06 (invEuclid_mul_mod one_lt_mul_primes modEq_mul_of_primes)

theorem one_add_mul_pow_modEq (n k m : Nat) : (1 + k * n) ^ m ≡ 1 + m * k * n [MOD n * n] := by
  induction m with
  | zero => simp [Nat.ModEq]
  | succ m ih =>
    have h2 : (1 + m * k * n) * (1 + k * n) = 1 + (m + 1) * k * n + n * n * (m * k * k) := by ring
    rw [pow_succ]
    refine (ih.mul_right _).trans ?_
    rw [h2]
    exact Nat.add_mul_mod_self_left _ _ _

theorem pow_mul_modsq (n r lam : Nat) (hr : r ^ lam % n = 1) : r ^ (n * lam) ≡ 1 [MOD n * n] := by
  have hk : r ^ lam = 1 + (r ^ lam / n) * n := by
    have := Nat.div_add_mod (r ^ lam) n
    rw [hr, Nat.mul_comm] at this; omega
  generalize r ^ lam / n = k at hk
  rw [pow_mul', hk]
  refine (one_add_mul_pow_modEq n k n).trans ?_
  rw [show 1 + n * k * n = 1 + n * n * k by ring]
  exact Nat.add_mul_mod_self_left _ _ _

/-- k = 1 is Paillier's g = 1 + n; the CRT half uses it modulo p² with k = q -/
theorem L_gen (n k lam m r c : Nat) (hn : 1 < n) (hr : r ^ lam % n = 1)
    (hc : c % (n * n) = (1 + k * n) ^ m * r ^ n % (n * n)) :
    (powMod c lam (n * n) - 1) / n = m * lam * k % n := by
  have h1 : c ^ lam ≡ (1 + k * n) ^ (m * lam) * r ^ (n * lam) [MOD n * n] := by
    rw [pow_mul, pow_mul, ← mul_pow]; exact Nat.ModEq.pow _ hc
  -- (1 + k·n)^(m·λ) ≡ 1 + (m·λ·k)·n, in which only m·λ·k mod n matters
  have h2 : 1 + m * lam * k * n = 1 + (m * lam * k % n) * n + n * n * (m * lam * k / n) := by
    conv_lhs => rw [← Nat.div_add_mod (m * lam * k) n]
    ring
  have h3 : c ^ lam ≡ 1 + (m * lam * k % n) * n [MOD n * n] := by
    refine h1.trans (((one_add_mul_pow_modEq n k (m * lam)).mul (pow_mul_modsq n r lam hr)).trans ?_)
    rw [Nat.mul_one, h2]
    exact Nat.add_mul_mod_self_left _ _ _
  have hlt : 1 + (m * lam * k % n) * n < n * n := by
    have := Nat.mul_le_mul_right n (Nat.mod_lt (m * lam * k) (Nat.zero_lt_of_lt hn))
    rw [Nat.succ_mul] at this
    omega
  rw [powMod_eq, h3, Nat.mod_eq_of_lt hlt, Nat.add_sub_cancel_left,
    Nat.mul_div_cancel _ (Nat.zero_lt_of_lt hn)]

theorem pow_modEq_one {s r lam : Nat} (hs : s.Prime) (hrs : Nat.Coprime r s) (h : (s - 1) ∣ lam) : r ^ lam ≡ 1 [MOD s] := by
  obtain ⟨j, rfl⟩ := h
  have := (Nat.ModEq.pow_totient hrs).pow j
  rwa [Nat.totient_prime hs, one_pow, ← pow_mul] at this

theorem pow_eq_one_mod_mul (p q r lam : Nat) (hp : p.Prime) (hq : q.Prime) (hpq : p ≠ q)
    (hr : Nat.Coprime r (p * q)) (h1 : (p - 1) ∣ lam) (h2 : (q - 1) ∣ lam) : r ^ lam % (p * q) = 1 := by
  rw [modEq_mul_of_primes hp hq hpq (pow_modEq_one hp (hr.coprime_dvd_right (Dvd.intro _ rfl)) h1)
    (pow_modEq_one hq (hr.coprime_dvd_right (Dvd.intro_left _ rfl)) h2), Nat.mod_eq_of_lt (one_lt_mul_primes hp hq)]

theorem mul_mod_mul_inv {n a i : Nat} (hi : i * (a % n) % n = 1) (m : Nat) : m * a % n * i % n = m % n := by
  rw [Nat.mul_mod_mod] at hi
  rw [Nat.mod_mul_mod, Nat.mul_assoc, Nat.mul_comm a i, Nat.mul_mod, hi, Nat.mul_one, Nat.mod_mod]

/-- common core of both non-CRT decryption routines: any λ that kills the units modulo n and is invertible modulo n works -/
theorem decrypt_core (n lam m r c : Nat) (hn : 1 < n) (hlam : Nat.Coprime lam n) (hr : r ^ lam % n = 1)
    (hc : c % (n * n) = (1 + n) ^ m * r ^ n % (n * n)) :
    (powMod c lam (n * n) - 1) / n * invEuclid n (lam % n) % n = m % n := by
  have hcop : Nat.Coprime (lam % n) n := by
    rw [Nat.Coprime, ← Nat.gcd_rec, Nat.gcd_comm]; exact hlam
  rw [L_gen n 1 lam m r c hn hr (by rw [Nat.one_mul]; exact hc), Nat.mul_one]
  exact mul_mod_mul_inv (invEuclid_mul_mod n (lam % n) hn hcop) m

theorem paillierEncrypt_eq (n m r : Nat) : paillierEncrypt n m r = (1 + n) ^ m * r ^ n % (n * n) := by
  rw [paillierEncrypt, powMod_eq, powMod_eq, ← Nat.mul_mod, Nat.add_comm]

theorem paillier_decrypt (p q m r c : Nat) (hp : p.Prime) (hq : q.Prime) (hpq : p ≠ q)
    (hg : Nat.Coprime (p * q) ((p - 1) * (q - 1))) (hr : Nat.Coprime r (p * q))
    (hc : c % (p * q * (p * q)) = (1 + p * q) ^ m * r ^ (p * q) % (p * q * (p * q))) :
    paillierDecrypt (p * q) p q c = m % (p * q) := by
  have hn := one_lt_mul_primes hp hq
  have hlam : Nat.Coprime (Nat.lcm (p - 1) (q - 1)) (p * q) :=
    (Nat.Coprime.coprime_dvd_right (Nat.lcm_dvd_mul _ _) hg).symm
  have hr1 := pow_eq_one_mod_mul p q r _ hp hq hpq hr (Nat.dvd_lcm_left (p - 1) (q - 1)) (Nat.dvd_lcm_right (p - 1) (q - 1))
  have hL : paillierL (p * q) (powMod (p * q + 1) (Nat.lcm (p - 1) (q - 1)) (p * q * (p * q)))
      = Nat.lcm (p - 1) (q - 1) % (p * q) := by
    have := L_gen (p * q) 1 (Nat.lcm (p - 1) (q - 1)) 1 1 (p * q + 1) hn (by rw [one_pow, Nat.mod_eq_of_lt hn])
      (by rw [Nat.one_mul, pow_one, one_pow, Nat.mul_one, Nat.add_comm])
    rw [Nat.one_mul, Nat.mul_one] at this
    exact this
  unfold paillierDecrypt
  simp only []
  rw [hL]
  exact decrypt_core (p * q) _ m r c hn hlam hr1 hc

/-- the plain (non-CRT) branch of cp_phpe_dec, which uses φ(n) in place of λ -/
theorem phpeDecPlain_eq (p q m r c : Nat) (hp : p.Prime) (hq : q.Prime) (hpq : p ≠ q)
    (hg : Nat.Coprime (p * q) ((p - 1) * (q - 1))) (hr : Nat.Coprime r (p * q))
    (hc : c % (p * q * (p * q)) = (1 + p * q) ^ m * r ^ (p * q) % (p * q * (p * q))) :
    phpeDecPlain (p * q) p q c = m % (p * q) := by
  have hn := one_lt_mul_primes hp hq
  have hr1 := pow_eq_one_mod_mul p q r _ hp hq hpq hr (Dvd.intro _ rfl : (p - 1) ∣ (p - 1) * (q - 1))
    (Dvd.intro_left _ rfl : (q - 1) ∣ (p - 1) * (q - 1))
  unfold phpeDecPlain
  exact decrypt_core (p * q) _ m r c hn hg.symm hr1 hc

theorem crt_half (p q m r c dp : Nat) (hp : p.Prime) (hrp : Nat.Coprime r p)
    (hdp : dp * ((p - 1) * q % p) % p = 1)
    (hc : c % (p * p) = (1 + q * p) ^ m * (r ^ q) ^ p % (p * p)) :
    (powMod c (p - 1) (p * p) - 1) / p * dp % p = m % p := by
  have hp1 : 1 < p := hp.one_lt
  have hr1 : (r ^ q) ^ (p - 1) % p = 1 :=
    Eq.trans (pow_modEq_one hp (Nat.Coprime.pow_left q hrp) (Nat.dvd_refl _)) (Nat.mod_eq_of_lt hp1)
  rw [L_gen p q (p - 1) m (r ^ q) c hp1 hr1 hc, Nat.mul_assoc]
  exact mul_mod_mul_inv hdp m

/-- cp_phpe_dec, CRT branch (L_p, L_q, Garner) with the constants dp, dq, qi that cp_phpe_gen precomputes -/
theorem phpeDecCrt_eq (p q m r c dp dq qi : Nat) (hp : p.Prime) (hq : q.Prime) (hr : Nat.Coprime r (p * q))
    (hdp : dp * ((p - 1) * q % p) % p = 1) (hdq : dq * ((q - 1) * p % q) % q = 1) (hqi : qi * q % p = 1)
    (hc : c % (p * q * (p * q)) = (1 + p * q) ^ m * r ^ (p * q) % (p * q * (p * q))) :
    phpeDecCrt p q dp dq qi c = m % (p * q) := by
  have hrp : Nat.Coprime r p := Nat.Coprime.coprime_dvd_right (Dvd.intro _ rfl) hr
  have hrq : Nat.Coprime r q := Nat.Coprime.coprime_dvd_right (Dvd.intro_left _ rfl) hr
  have hcm : c ≡ (1 + p * q) ^ m * r ^ (p * q) [MOD p * q * (p * q)] := hc
  have hcp : c % (p * p) = (1 + q * p) ^ m * (r ^ q) ^ p % (p * p) := by
    have := Nat.ModEq.of_dvd (⟨q * q, by ring⟩ : p * p ∣ p * q * (p * q)) hcm
    rw [Nat.mul_comm p q, pow_mul] at this
    exact this
  have hcq : c % (q * q) = (1 + p * q) ^ m * (r ^ p) ^ q % (q * q) := by
    have := Nat.ModEq.of_dvd (⟨p * p, by ring⟩ : q * q ∣ p * q * (p * q)) hcm
    rw [pow_mul] at this
    exact this
  unfold phpeDecCrt mxpCrtL
  simp only []
  rw [crt_half p q m r c dp hp hrp hdp hcp, crt_half q p m r c dq hq hrq hdq hcq]
  exact Relic.Lemmas.RsaC06.garner_eq p q qi m hp.one_lt hq.pos hqi

theorem pow_ne_of_prime_order {M : Type*} [Monoid M] (g : M) (t : Nat) (ht : t.Prime) (hgt : g ^ t = 1) (hg1 : g ≠ 1)
    (i j : Nat) (hij : i < j) (hj : j < t) : g ^ i ≠ g ^ j := by
  have : Fact t.Prime := ⟨ht⟩
  have ho := orderOf_eq_prime hgt hg1
  intro h
  exact hij.ne (pow_injOn_Iio_orderOf (by rw [Set.mem_Iio, ho]; exact hij.trans hj) (by rw [Set.mem_Iio, ho]; exact hj) h)

theorem benaloh_decrypt (p q y t M u c : Nat) (hp : p.Prime) (hq : q.Prime) (hpq : p ≠ q) (ht : t.Prime)
    (htp : t ∣ p - 1) (hy : Nat.Coprime y (p * q)) (hu : Nat.Coprime u (p * q))
    (hy1 : y ^ ((p - 1) * (q - 1) / t) % (p * q) ≠ 1)
    (hc : c % (p * q) = y ^ M * u ^ t % (p * q)) :
    bdpeDecrypt (p * q) p q y t c = some (M % t) := by
  have hn := one_lt_mul_primes hp hq
  have hte : t * ((p - 1) * (q - 1) / t) = (p - 1) * (q - 1) :=
    Nat.mul_div_cancel' (Dvd.dvd.mul_right htp _)
  unfold bdpeDecrypt
  simp only [powMod_eq]
  generalize he : (p - 1) * (q - 1) / t = e at hte hy1 ⊢
  have hone : ∀ x, Nat.Coprime x (p * q) → x ^ (t * e) ≡ 1 [MOD p * q] := fun x hx => by
    rw [Nat.ModEq, pow_eq_one_mod_mul p q x _ hp hq hpq hx (hte ▸ Dvd.intro _ rfl) (hte ▸ Dvd.intro_left _ rfl),
      Nat.mod_eq_of_lt hn]
  have hGt : (y ^ e) ^ t ≡ 1 [MOD p * q] := by
    rw [← pow_mul, Nat.mul_comm e t]; exact hone y hy
  have hce : c ^ e ≡ (y ^ e) ^ (M % t) [MOD p * q] := by
    -- y^(M·e) = ((y^e)^t)^(M / t) · (y^e)^(M mod t), and (y^e)^t ≡ 1 ≡ u^(t·e)
    have h1 : (y ^ M * u ^ t) ^ e = ((y ^ e) ^ t) ^ (M / t) * (y ^ e) ^ (M % t) * u ^ (t * e) := by
      rw [← pow_mul (y ^ e), ← pow_add, Nat.div_add_mod, mul_pow, ← pow_mul, ← pow_mul, ← pow_mul, Nat.mul_comm M e]
    have h2 := ((hGt.pow (M / t)).mul_right ((y ^ e) ^ (M % t))).mul (hone u hu)
    rw [one_pow, Nat.one_mul, Nat.mul_one, ← h1] at h2
    exact (Nat.ModEq.pow _ hc).trans h2
  have hg1 : ((y ^ e : Nat) : ZMod (p * q)) ≠ 1 := fun h => hy1 <| by
    rwa [← Nat.cast_one, ZMod.natCast_eq_natCast_iff', Nat.mod_eq_of_lt hn] at h
  have hgt : ((y ^ e : Nat) : ZMod (p * q)) ^ t = 1 := by
    have := (ZMod.natCast_eq_natCast_iff _ _ _).2 hGt
    rwa [Nat.cast_pow, Nat.cast_one] at this
  rw [List.find?_range_eq_some]
  refine ⟨?_, List.mem_range.2 (Nat.mod_lt _ ht.pos), ?_⟩
  · rw [beq_iff_eq, ← Nat.pow_mod]
    exact hce.symm
  · intro j hj
    rw [Bool.not_eq_true', beq_eq_false_iff_ne, ← Nat.pow_mod]
    intro h
    have h5 : (y ^ e) ^ j ≡ (y ^ e) ^ (M % t) [MOD p * q] := Nat.ModEq.trans h hce
    have h6 : ((y ^ e : Nat) : ZMod (p * q)) ^ j = ((y ^ e : Nat) : ZMod (p * q)) ^ (M % t) := by
      have := (ZMod.natCast_eq_natCast_iff _ _ _).2 h5
      simpa only [Nat.cast_pow] using this
    exact pow_ne_of_prime_order _ t ht hgt hg1 j (M % t) hj (Nat.mod_lt _ ht.pos) h6

end Relic.Lemmas.PaillierC06
