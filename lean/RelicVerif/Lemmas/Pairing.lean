/-
The discrete-logarithm-oracle formulation of the pairing-based verification equations (Spec/Sig.lean) is equivalent to
the pairing equations the C code checks, for ANY bilinear map that is non-degenerate at the generator of G2:
e(A, [k]g) = e(B, g) ⟺ [k]A = B.  Groups are written additively (GT too); `e : G1 →+ G2 →+ GT`.
-/
import Mathlib.Algebra.Group.Hom.Defs
import Mathlib.Algebra.Module.Defs
import Mathlib.Algebra.Module.Hom
import Mathlib.Algebra.Group.Hom.Instances

namespace Relic.Lemmas.Pairing

variable {G1 G2 GT : Type} [AddCommGroup G1] [AddCommGroup G2] [AddCommGroup GT]

theorem pair_smul_right (e : G1 →+ G2 →+ GT) (a : G1) (k : Nat) (g : G2) : e a (k • g) = e (k • a) g := by
  rw [map_nsmul, map_nsmul, AddMonoidHom.coe_smul, Pi.smul_apply]

theorem pair_eq_iff (e : G1 →+ G2 →+ GT) (g : G2) (hinj : ∀ a : G1, e a g = 0 → a = 0) (a b : G1) (k : Nat) :
    e a (k • g) = e b g ↔ k • a = b := by
  rw [pair_smul_right]
  constructor
  · intro h
    have h0 : e (k • a - b) g = 0 := by
      rw [map_sub, AddMonoidHom.sub_apply, h, sub_self]
    exact sub_eq_zero.mp (hinj _ h0)
  · intro h; rw [h]

theorem pair_eq_iff_left (e : G1 →+ G2 →+ GT) (g : G1) (hinj : ∀ s : G2, e g s = 0 → s = 0) (s t : G2) (k : Nat) :
    e (k • g) s = e g t ↔ k • s = t :=
  pair_eq_iff e.flip g hinj s t k

/-- Pointcheval–Sanders: b = [r + m s]a by construction; re-randomisation ([t]a, [t]b) preserves the equation -/
theorem ps_rerandomise (a b : G1) (k t : Nat) (h : b = k • a) : t • b = k • t • a := by
  rw [h, smul_smul, smul_smul, Nat.mul_comm]

end Relic.Lemmas.Pairing
