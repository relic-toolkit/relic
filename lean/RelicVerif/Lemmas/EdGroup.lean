/-
The affine twisted-Edwards law  (x1,y1) + (x2,y2) = ((x1y2 + y1x2)/(1 + d x1x2y1y2), (y1y2 − a x1x2)/(1 − d x1x2y1y2))
on the curve a·x² + y² = 1 + d·x²·y², over an arbitrary field of characteristic ≠ 2:

* COMPLETENESS (Bernstein–Lange, "Faster addition and doubling on elliptic curves", Thm 3.3; Bernstein–Birkner–Joye–
  Lange–Peters, "Twisted Edwards curves", §6): if a is a non-zero square and d is not a square, the denominators never
  vanish on curve points: the hypothesis every formula theorem of Lemmas/EdFormulas.lean carries (the driver evaluates
  "a square, d non-square" by Euler's criterion on the running library);
* CLOSURE: the sum of two curve points is a curve point;
* neutral element (0, 1), inverse (−x, y), commutativity.
Associativity is the classical theorem that this law is the group law of the curve; it is NOT re-proved here.
-/
import RelicVerif.Lemmas.EdFormulas

namespace Relic.Lemmas.EdGroup
open Relic.Lemmas.EdFormulas

variable {F : Type} [Field F]

/-- the curve equation with explicit constants -/
def OnC (a d x y : F) : Prop := a * x ^ 2 + y ^ 2 = 1 + d * x ^ 2 * y ^ 2

/-- core of the completeness proof: with ε = d·x1·x2·y1·y2 and ε² = 1, d would be a square, namely of
    (s·x1 + σ·ε·y1)/(x1·y1·(s·x2 + σ·y2)) for a sign σ that keeps the denominator from vanishing -/
theorem eps_sq_ne_one (s d x1 y1 x2 y2 : F) (h2 : (2 : F) ≠ 0) (hd : ∀ t : F, t ^ 2 ≠ d)
    (h1 : OnC (s ^ 2) d x1 y1) (h2' : OnC (s ^ 2) d x2 y2) : (d * x1 * x2 * y1 * y2) ^ 2 ≠ 1 := by
  intro hsq
  unfold OnC at h1 h2'
  have hε : d * x1 * x2 * y1 * y2 ≠ 0 := fun h => zero_ne_one (by rw [← hsq, h, zero_pow two_ne_zero])
  have hxy : x1 * y1 ≠ 0 := fun h => hε (by linear_combination (d * x2 * y2) * h)
  have hy2 : y2 ≠ 0 := fun h => hε (by rw [h, mul_zero])
  have key : ∀ σ : F, σ ^ 2 = 1 → s * x2 + σ * y2 ≠ 0 → False := fun σ hσ hne => by
    refine hd ((s * x1 + σ * (d * x1 * x2 * y1 * y2) * y1) / (x1 * y1 * (s * x2 + σ * y2))) ?_
    rw [div_pow, div_eq_iff (pow_ne_zero _ (mul_ne_zero hxy hne))]
    linear_combination h1 - d * x1 ^ 2 * y1 ^ 2 * h2' + (y1 ^ 2 - 1) * hsq +
      ((d * x1 * x2 * y1 * y2) ^ 2 * y1 ^ 2 - d * x1 ^ 2 * y1 ^ 2 * y2 ^ 2) * hσ
  by_cases hp : s * x2 + 1 * y2 = 0
  · refine key (-1) (by ring) fun hm => hy2 ?_
    exact (mul_eq_zero.1 (by linear_combination hp - hm : 2 * y2 = 0)).resolve_left h2
  · exact key 1 (by ring) hp

theorem complete (a d s : F) (h2 : (2 : F) ≠ 0) (ha : a = s ^ 2) (hd : ∀ t : F, t ^ 2 ≠ d)
    (x1 y1 x2 y2 : F) (h1 : OnC a d x1 y1) (h2' : OnC a d x2 y2) :
    1 + d * x1 * x2 * y1 * y2 ≠ 0 ∧ 1 - d * x1 * x2 * y1 * y2 ≠ 0 := by
  subst ha
  have key := eps_sq_ne_one s d x1 y1 x2 y2 h2 hd h1 h2'
  constructor
  · intro h
    apply key
    have : d * x1 * x2 * y1 * y2 = -1 := by linear_combination h
    rw [this]; ring
  · intro h
    apply key
    have : d * x1 * x2 * y1 * y2 = 1 := by linear_combination -h
    rw [this]; ring

/-- the polynomial identity behind closure. With Aᵢ = a xᵢ² + yᵢ², Bᵢ = 1 + d xᵢ² yᵢ², N1 = x1 y2 + y1 x2, N2 = y1 y2 − a x1 x2 one has
    a N1² + N2² = A1 A2,  a N1² − N2² = 4a x1x2y1y2 − C1 C2  and  N1 N2 = −(x1y1 C2 + x2y2 C1)  with Cᵢ² = Aᵢ² − 4a xᵢ²yᵢ²;
    so the difference of the two sides is a polynomial in A1, A2 that vanishes at (B1, B2), and the cofactors below are its
    divided differences -/
theorem closure_poly (a d x1 y1 x2 y2 : F) (h1 : OnC a d x1 y1) (h2 : OnC a d x2 y2) :
    a * (x1 * y2 + y1 * x2) ^ 2 * (1 - d * x1 * x2 * y1 * y2) ^ 2 +
      (y1 * y2 - a * x1 * x2) ^ 2 * (1 + d * x1 * x2 * y1 * y2) ^ 2 =
    (1 + d * x1 * x2 * y1 * y2) ^ 2 * (1 - d * x1 * x2 * y1 * y2) ^ 2 +
      d * (x1 * y2 + y1 * x2) ^ 2 * (y1 * y2 - a * x1 * x2) ^ 2 := by
  unfold OnC at h1 h2
  linear_combination
    ((a * x2 ^ 2 + y2 ^ 2) * (1 + (d * x1 * x2 * y1 * y2) ^ 2) -
      d * x2 ^ 2 * y2 ^ 2 * (a * x1 ^ 2 + y1 ^ 2 + (1 + d * x1 ^ 2 * y1 ^ 2))) * h1 +
    ((1 + d * x1 ^ 2 * y1 ^ 2) * (1 + (d * x1 * x2 * y1 * y2) ^ 2) -
      d * x1 ^ 2 * y1 ^ 2 * (a * x2 ^ 2 + y2 ^ 2 + (1 + d * x2 ^ 2 * y2 ^ 2))) * h2

theorem add_onCurve (a d x1 y1 x2 y2 : F) (h1 : OnC a d x1 y1) (h2 : OnC a d x2 y2)
    (hD1 : 1 + d * x1 * x2 * y1 * y2 ≠ 0) (hD2 : 1 - d * x1 * x2 * y1 * y2 ≠ 0) :
    OnC a d (addX d x1 y1 x2 y2) (addY a d x1 y1 x2 y2) := by
  have hp := closure_poly a d x1 y1 x2 y2 h1 h2
  unfold OnC addX addY
  generalize 1 + d * x1 * x2 * y1 * y2 = D1 at *
  generalize 1 - d * x1 * x2 * y1 * y2 = D2 at *
  generalize x1 * y2 + y1 * x2 = N1 at *
  generalize y1 * y2 - a * x1 * x2 = N2 at *
  field_simp
  linear_combination hp

theorem neutral_onCurve (a d : F) : OnC a d 0 1 := by unfold OnC; ring

theorem add_neutral (a d x y : F) : addX d x y 0 1 = x ∧ addY a d x y 0 1 = y := by
  unfold addX addY; constructor <;> simp

theorem neg_onCurve (a d x y : F) (h : OnC a d x y) : OnC a d (-x) y := by
  unfold OnC at *; linear_combination h

theorem add_neg (a d x y : F) (h : OnC a d x y) (hD : 1 - d * x * (-x) * y * y ≠ 0) :
    addX d x y (-x) y = 0 ∧ addY a d x y (-x) y = 1 := by
  unfold addX addY OnC at *
  constructor
  · have : x * y + y * -x = 0 := by ring
    rw [this, zero_div]
  · rw [div_eq_one_iff_eq hD]; linear_combination h

theorem add_comm_law (a d x1 y1 x2 y2 : F) :
    addX d x1 y1 x2 y2 = addX d x2 y2 x1 y1 ∧ addY a d x1 y1 x2 y2 = addY a d x2 y2 x1 y1 := by
  unfold addX addY
  constructor
  · congr 1 <;> ring
  · congr 1 <;> ring

example (a d : F) : OnC a d 0 1 ∧ OnC a d 0 (-1) := by
  unfold OnC; constructor <;> ring

end Relic.Lemmas.EdGroup
