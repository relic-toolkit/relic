/-
The codec of Fp2 elements (Model/Fp2Conv.lean): a0 + a1·u is unitary exactly when a1² = (a0² − 1)/β, so fp2_upk, which takes that
square root and fixes its parity, inverts fp2_pck on unitary elements (prime modulus, under the contracts of the field square root
and of the parity of the stored form).
-/
import Mathlib.Data.ZMod.Basic
import Mathlib.Tactic.Ring
import Mathlib.Tactic.LinearCombination
import RelicVerif.Lemmas.EpConv
import RelicVerif.Model.Fp2Conv

namespace Relic.Lemmas.Fp2Conv
open Relic.Model.Fp2Conv
open Relic.Model.Ep2Conv (Bytes beVal)

/-- contract of fp_srt: soundness -/
def SrtSound (x : Ctx) : Prop := ∀ t r, x.srt t = some r → r < x.p ∧ r * r % x.p = t % x.p

/-- … and completeness -/
def SrtComplete (x : Ctx) : Prop := ∀ t y, y < x.p → y * y % x.p = t % x.p → ∃ r, x.srt t = some r

/-- β⁻¹ is the inverse of β, and β is given reduced: `unitary` writes −β as `p − qnr` -/
def QinvOk (x : Ctx) : Prop := x.qinv * x.qnr % x.p = 1 % x.p ∧ x.qnr ≤ x.p

/-- contract of `bit`, the parity of the stored form: holds for odd p, since a·R mod p and p − a·R mod p differ in parity -/
def BitSep (x : Ctx) : Prop := ∀ a, 0 < a → a < x.p → x.bit (x.p - a) ≠ x.bit a

/-- the value whose square root fp2_upk takes: (a0² − 1)/β -/
def upkRhs (x : Ctx) (a0 : Nat) : Nat := (a0 * a0 + x.p - 1) % x.p * x.qinv % x.p

theorem upk_eq_some {x : Ctx} {a0 par a1 : Nat} : upk x a0 par = some a1 ↔
    ∃ r, x.srt (upkRhs x a0) = some r ∧ x.bit a1 = par ∧ (if x.bit r ≠ par then (x.p - r) % x.p else r) = a1 := by
  unfold upk upkRhs
  cases x.srt _ with
  | none => simp
  | some r =>
    simp only [Option.some.injEq, exists_eq_left', Option.ite_some_none_eq_some]
    exact and_congr_left fun h => h ▸ Iff.rfl

theorem unitary_iff {x : Ctx} (hp : 1 < x.p) (hq : QinvOk x) (a0 a1 : Nat) :
    unitary x a0 a1 = true ↔ a1 * a1 % x.p = upkRhs x a0 % x.p := by
  have : NeZero x.p := ⟨by omega⟩
  have e2 := (ZMod.natCast_eq_natCast_iff' _ _ _).mpr hq.1
  have hsub : 1 ≤ a0 * a0 + x.p := by omega
  unfold unitary upkRhs
  rw [beq_iff_eq, ← ZMod.natCast_eq_natCast_iff', ← ZMod.natCast_eq_natCast_iff']
  push_cast [ZMod.natCast_mod, Nat.cast_sub hq.2, Nat.cast_sub hsub, ZMod.natCast_self] at e2 ⊢
  constructor <;> intro e3
  · linear_combination (-(x.qinv : ZMod x.p)) * e3 + (-((a1 : ZMod x.p) * a1)) * e2
  · linear_combination (-(x.qnr : ZMod x.p)) * e3 + (-((a0 : ZMod x.p) * a0 - 1)) * e2

theorem neg_sq {p r : Nat} (hr : r < p) : (p - r) % p * ((p - r) % p) % p = r * r % p := by
  have : NeZero p := ⟨by omega⟩
  rw [← ZMod.natCast_eq_natCast_iff']
  push_cast [ZMod.natCast_mod, Nat.cast_sub (Nat.le_of_lt hr), ZMod.natCast_self]
  ring

theorem upk_unitary (x : Ctx) (hprime : Nat.Prime x.p) (hs : SrtSound x) (hc : SrtComplete x) (hq : QinvOk x) (hsep : BitSep x)
    (a0 a1 : Nat) (h1 : a1 < x.p) (hu : unitary x a0 a1 = true) : upk x a0 (x.bit a1) = some a1 := by
  have hsq := (unitary_iff hprime.one_lt hq a0 a1).mp hu
  obtain ⟨r, hr⟩ := hc _ a1 h1 hsq
  obtain ⟨hrlt, hrr⟩ := hs _ _ hr
  exact upk_eq_some.mpr ⟨r, hr, rfl, Relic.Model.EpConv.pick_root hprime.eq_one_or_self_of_dvd
    (fun v h0 hv => (hsep v h0 hv).symm) hrlt h1 (hrr.trans hsq.symm)⟩

theorem upk_sound {x : Ctx} (hs : SrtSound x) {a0 par a1 : Nat} (h : upk x a0 par = some a1) :
    a1 * a1 % x.p = upkRhs x a0 % x.p ∧ x.bit a1 = par := by
  obtain ⟨r, hr, hbit, rfl⟩ := upk_eq_some.mp h
  obtain ⟨hrlt, hrr⟩ := hs _ _ hr
  refine ⟨?_, hbit⟩
  rw [← hrr]
  split
  · exact neg_sq hrlt
  · rfl

theorem readBin_packed (x : Ctx) (bin : Bytes) (hl : bin.length = x.nb + 1) :
    readBin x bin = if bin.getD x.nb 0 > 1 then none
      else if beVal (bin.take x.nb) < x.p then
        (upk x (beVal (bin.take x.nb)) (bin.getD x.nb 0)).map fun a1 => (beVal (bin.take x.nb), a1)
      else none := by
  rw [readBin, if_pos hl]

theorem readBin_plain (x : Ctx) (b0 b1 : Bytes) (hnb : 1 < x.nb) (h0 : b0.length = x.nb) (h1 : b1.length = x.nb) :
    readBin x (b0 ++ b1) = if beVal b0 < x.p ∧ beVal b1 < x.p then some (beVal b0, beVal b1) else none := by
  have hlen : (b0 ++ b1).length = 2 * x.nb := by simp [h0, h1]; omega
  rw [readBin, hlen, if_neg (by omega), if_pos rfl]
  simp only [List.take_left' h0, List.drop_left' h0]

end Relic.Lemmas.Fp2Conv
