/-
RSA-PSS (RFC 8017 §8.1, §9.1 with sLen = 0) on the definitions of Spec/Sig.lean: EMSA-PSS-VERIFY (by parsing) accepts exactly the
output of EMSA-PSS-ENCODE (`emsaPssVerify_iff`), what it accepts is an integer below 2^emBits of ⌈emBits / 8⌉ octets
(`emsaPssVerify_bound`), and a signature made from the signature representative verifies (`rsaPss_sign_verify`).
OS2IP / I2OSP of Spec/Sig.lean are those of Spec/Cp.lean (`os2ip_eq`, `i2osp_eq`), whose lemmas are in Lemmas/PadC06.lean.
-/
import Mathlib.Tactic.IntervalCases
import RelicVerif.Spec.Sig
import RelicVerif.Lemmas.PadC06
import RelicVerif.Lemmas.PowMod
import RelicVerif.Lemmas.NatBits

namespace Relic.Lemmas.Pss
open Relic.Spec.Sig Relic.Spec
open PadC06 (mgf1_length xorBytes_cancel xorBytes_length)

theorem os2ip_eq (b : Bytes) : os2ip b = Cp.os2ip b := rfl

theorem i2osp_eq (n k : Nat) : i2osp n k = Cp.i2osp n k := (PadC06.i2osp_eq_bytes n k).symm

theorem os2ip_nil : os2ip [] = 0 := rfl

theorem i2osp_zero (n : Nat) : i2osp n 0 = [] := rfl

theorem os2ip_lt (b : Bytes) : os2ip b < 256 ^ b.length := PadC06.os2ip_lt b

theorem i2osp_length (n k : Nat) : (i2osp n k).length = k := by
  rw [i2osp_eq, PadC06.i2osp_length]

theorem os2ip_i2osp (n k : Nat) : os2ip (i2osp n k) = n % 256 ^ k := by
  rw [i2osp_eq, os2ip_eq, PadC06.os2ip_i2osp]

theorem i2osp_os2ip (b : Bytes) : i2osp (os2ip b) b.length = b := by
  rw [i2osp_eq, os2ip_eq, PadC06.i2osp_os2ip]

theorem os2ip_inj (a b : Bytes) (hl : a.length = b.length) (h : os2ip a = os2ip b) : a = b :=
  PadC06.os2ip_inj a b hl h

theorem byte_mask (a k m : UInt8) (h : a &&& m = a) : (((a ^^^ k) &&& m) ^^^ k) &&& m = a := by
  rw [NatBits.xor_and, UInt8.and_assoc, UInt8.and_self, ← NatBits.xor_and, UInt8.xor_assoc,
    UInt8.xor_self, UInt8.xor_zero, h]

theorem mask_toNat (top : Nat) (h : top ≤ 7) : (UInt8.ofNat (255 / 2 ^ top)).toNat = 2 ^ (8 - top) - 1 := by
  interval_cases top <;> rfl

/-- step 6 of the verification holds after the masking of the encoding -/
theorem and_mask_lt (b : UInt8) (top : Nat) (h : top ≤ 7) :
    (b &&& UInt8.ofNat (255 / 2 ^ top)).toNat < 2 ^ (8 - top) := by
  rw [UInt8.toNat_and, mask_toNat top h]
  have h1 : b.toNat &&& (2 ^ (8 - top) - 1) ≤ 2 ^ (8 - top) - 1 := Nat.and_le_right
  have : 0 < 2 ^ (8 - top) := Nat.pow_pos (by omega)
  omega

theorem and_mask_of_lt (x : UInt8) (top : Nat) (h : top ≤ 7) (hx : x.toNat < 2 ^ (8 - top)) :
    x &&& UInt8.ofNat (255 / 2 ^ top) = x := by
  rw [← UInt8.toNat_inj, UInt8.toNat_and, mask_toNat top h, Nat.and_two_pow_sub_one_eq_mod, Nat.mod_eq_of_lt hx]

/-- clear the leftmost `top` bits of the first octet (RFC 8017 §9.1.1 step 11, §9.1.2 step 9) -/
def topMask (top : Nat) : Bytes → Bytes
  | [] => []
  | b :: rest => (b &&& UInt8.ofNat (255 / 2 ^ top)) :: rest

theorem topMask_length (top : Nat) (l : Bytes) : (topMask top l).length = l.length := by
  cases l <;> rfl

theorem topMask_roundtrip (top : Nat) (M K : Bytes) (hM : topMask top M = M) (hlen : M.length ≤ K.length) :
    topMask top (Mac.xorBytes (topMask top (Mac.xorBytes M K)) K) = M := by
  match M, K, hM, hlen with
  | [], _, _, _ => simp [Mac.xorBytes, topMask]
  | _ :: _, [], _, h => simp at h
  | a :: M, k :: K, hM, h =>
    have ha : a &&& UInt8.ofNat (255 / 2 ^ top) = a := by
      simp only [topMask] at hM
      exact (List.cons.inj hM).1
    have hx := xorBytes_cancel M K (by simpa using h)
    unfold Mac.xorBytes at hx ⊢
    simp only [List.zipWith_cons_cons, topMask]
    rw [hx, byte_mask a k _ ha]

theorem os2ip_lt_of_head (l : Bytes) (hne : l ≠ []) (t : Nat) (h : (l.headD 0).toNat < 2 ^ t) :
    os2ip l < 2 ^ (t + 8 * (l.length - 1)) := by
  cases l with
  | nil => exact absurd rfl hne
  | cons x r =>
    have hx : x.toNat + 1 ≤ 2 ^ t := h
    have hr := PadC06.os2ip_lt r
    have h1 := Nat.mul_le_mul_right (256 ^ r.length) hx
    rw [os2ip_eq, PadC06.os2ip_cons, List.length_cons, Nat.add_sub_cancel, Nat.pow_add, ← PadC06.pow256]
    rw [Nat.add_mul] at h1
    omega

/-! ## EMSA-PSS with `emLen` and `top` as parameters -/

/-- `emsaPssEncode` / `emsaPssVerify` of Spec/Sig.lean are these two at emLen = ⌈emBits / 8⌉, top = 8·emLen − emBits, by `rfl`;
    the proofs need nothing else about the two numbers than top ≤ 7 -/
def pssEncode (H : Mac.Hash) (mHash : Bytes) (emLen top : Nat) : Option Bytes :=
  if emLen < H.outLen + 2 then none else
  some (topMask top
      (Mac.xorBytes (List.replicate (emLen - H.outLen - 2) (0 : UInt8) ++ [1])
        (Mac.mgf1 H (H.h (List.replicate 8 0 ++ mHash)) (emLen - H.outLen - 1)))
    ++ H.h (List.replicate 8 0 ++ mHash) ++ [0xbc])

def pssVerify (H : Mac.Hash) (mHash em : Bytes) (emLen top : Nat) : Bool :=
  if em.length ≠ emLen ∨ emLen < H.outLen + 2 then false else
  if em.getLast? ≠ some 0xbc then false else
  if ((em.take (emLen - H.outLen - 1)).headD 0).toNat / 2 ^ (8 - top) ≠ 0 then false else
  if topMask top
      (Mac.xorBytes (em.take (emLen - H.outLen - 1))
        (Mac.mgf1 H ((em.drop (emLen - H.outLen - 1)).take H.outLen) (emLen - H.outLen - 1)))
      ≠ List.replicate (emLen - H.outLen - 2) (0 : UInt8) ++ [1] then false else
  H.h (List.replicate 8 0 ++ mHash) == (em.drop (emLen - H.outLen - 1)).take H.outLen

theorem emsaPssEncode_eq (H : Mac.Hash) (mHash : Bytes) (emBits : Nat) :
    emsaPssEncode H mHash emBits = pssEncode H mHash ((emBits + 7) / 8) (8 * ((emBits + 7) / 8) - emBits) := rfl

theorem emsaPssVerify_eq (H : Mac.Hash) (mHash em : Bytes) (emBits : Nat) :
    emsaPssVerify H mHash em emBits = pssVerify H mHash em ((emBits + 7) / 8) (8 * ((emBits + 7) / 8) - emBits) := rfl

theorem topMask_head_lt (top : Nat) (h : top ≤ 7) (l : Bytes) : ((topMask top l).headD 0).toNat < 2 ^ (8 - top) := by
  cases l with
  | nil => exact Nat.pow_pos (by omega)
  | cons b rest => exact and_mask_lt b top h

theorem topMask_of_head_lt (top : Nat) (h : top ≤ 7) (l : Bytes) (hl : (l.headD 0).toNat < 2 ^ (8 - top)) :
    topMask top l = l := by
  cases l with
  | nil => rfl
  | cons b rest =>
    simp only [topMask]
    rw [and_mask_of_lt b top h hl]

/-- the data block of the empty salt, `PS ‖ 0x01`, has clear top bits -/
theorem topMask_db (top : Nat) (h : top ≤ 7) (j : Nat) :
    topMask top (List.replicate j (0 : UInt8) ++ [1]) = List.replicate j (0 : UInt8) ++ [1] := by
  apply topMask_of_head_lt top h
  have h1 : 1 < 2 ^ (8 - top) := Nat.one_lt_two_pow (by omega)
  cases j with
  | zero => exact h1
  | succ j =>
    show (0 : UInt8).toNat < _
    exact Nat.pow_pos (by omega)

section
variable (H : Mac.Hash)

theorem pssVerify_parts (mHash M h : Bytes) (emLen top : Nat) (hlen : H.outLen + 2 ≤ emLen)
    (hM : M.length = emLen - H.outLen - 1) (hh : h.length = H.outLen) :
    pssVerify H mHash (M ++ h ++ [0xbc]) emLen top =
      (decide ((M.headD 0).toNat / 2 ^ (8 - top) = 0) &&
       decide (topMask top (Mac.xorBytes M (Mac.mgf1 H h (emLen - H.outLen - 1))) =
            List.replicate (emLen - H.outLen - 2) (0 : UInt8) ++ [1]) &&
       (H.h (List.replicate 8 0 ++ mHash) == h)) := by
  have htake : (M ++ h ++ [0xbc]).take (emLen - H.outLen - 1) = M := by
    rw [List.append_assoc]; exact List.take_left' hM
  have hdrop : ((M ++ h ++ [0xbc]).drop (emLen - H.outLen - 1)).take H.outLen = h := by
    rw [List.append_assoc, List.drop_left' hM]; exact List.take_left' hh
  have hl : (M ++ h ++ [0xbc]).length = emLen := by
    simp only [List.length_append, List.length_singleton, hM, hh]; omega
  have hlast : (M ++ h ++ [0xbc]).getLast? = some 0xbc := by simp
  rw [pssVerify, htake, hdrop, hl, hlast, if_neg (by omega), if_neg (by simp)]
  by_cases h1 : (M.headD 0).toNat / 2 ^ (8 - top) = 0
  · by_cases h2 : topMask top (Mac.xorBytes M (Mac.mgf1 H h (emLen - H.outLen - 1))) =
        List.replicate (emLen - H.outLen - 2) (0 : UInt8) ++ [1]
    · rw [if_neg (fun h => h h1), if_neg (fun h => h h2), decide_eq_true h1, decide_eq_true h2, Bool.true_and,
        Bool.true_and]
    · rw [if_neg (fun h => h h1), if_pos h2, decide_eq_false h2, Bool.and_false, Bool.false_and]
  · rw [if_pos h1, decide_eq_false h1, Bool.false_and, Bool.false_and]

theorem pssVerify_parse (mHash em : Bytes) (emLen top : Nat) (hv : pssVerify H mHash em emLen top = true) :
    ∃ M h, em = M ++ h ++ [0xbc] ∧ M.length = emLen - H.outLen - 1 ∧ h.length = H.outLen ∧ H.outLen + 2 ≤ emLen ∧
      (M.headD 0).toNat < 2 ^ (8 - top) ∧
      topMask top (Mac.xorBytes M (Mac.mgf1 H h (emLen - H.outLen - 1))) =
        List.replicate (emLen - H.outLen - 2) (0 : UInt8) ++ [1] ∧
      H.h (List.replicate 8 0 ++ mHash) = h := by
  have hv' := hv
  rw [pssVerify] at hv
  by_cases h1 : em.length ≠ emLen ∨ emLen < H.outLen + 2
  · rw [if_pos h1] at hv; exact absurd hv (by simp)
  rw [if_neg h1] at hv
  by_cases h2 : em.getLast? ≠ some 0xbc
  · rw [if_pos h2] at hv; exact absurd hv (by simp)
  obtain ⟨ys, rfl⟩ := List.getLast?_eq_some_iff.1 (Classical.not_not.1 h2)
  have hl : ys.length + 1 = emLen := by
    have := Classical.not_not.1 (fun h => h1 (Or.inl h))
    simpa using this
  have hlen : H.outLen + 2 ≤ emLen := by omega
  obtain ⟨M, h, rfl, hM, hh⟩ := PadC06.exists_split ys (emLen - H.outLen - 1) (by omega)
  replace hh : h.length = H.outLen := by rw [List.length_append] at hl; omega
  rw [pssVerify_parts H mHash _ _ emLen top hlen hM hh] at hv'
  simp only [Bool.and_eq_true, decide_eq_true_eq, beq_iff_eq] at hv'
  exact ⟨M, h, rfl, hM, hh, hlen, (Nat.div_eq_zero_iff_lt (Nat.pow_pos (by omega))).1 hv'.1.1, hv'.1.2, hv'.2⟩

theorem emsaPssVerify_bound (mHash em : Bytes) (emBits : Nat) (hv : emsaPssVerify H mHash em emBits = true) :
    os2ip em < 2 ^ emBits ∧ em.length = (emBits + 7) / 8 := by
  rw [emsaPssVerify_eq] at hv
  obtain ⟨M, h, rfl, hM, hh, hlen, h1, -, -⟩ := pssVerify_parse H mHash em _ _ hv
  have hl : (M ++ h ++ [0xbc]).length = (emBits + 7) / 8 := by
    simp only [List.length_append, List.length_singleton, hM, hh]; omega
  have hhead : (M ++ h ++ [0xbc]).headD 0 = M.headD 0 := by
    cases M with
    | nil => rw [List.length_nil] at hM; omega
    | cons x xs => rfl
  have := os2ip_lt_of_head (M ++ h ++ [0xbc]) (by simp) _ (by rw [hhead]; exact h1)
  rw [hl, show 8 - (8 * ((emBits + 7) / 8) - emBits) + 8 * ((emBits + 7) / 8 - 1) = emBits by omega] at this
  exact ⟨this, hl⟩

end

section
variable (H : Mac.Hash) (hout : ∀ b, (H.h b).length = H.outLen) (hpos : 0 < H.outLen)
include hout hpos

theorem pssEncode_verify (mHash em : Bytes) (emLen top : Nat) (htop : top ≤ 7)
    (he : pssEncode H mHash emLen top = some em) : pssVerify H mHash em emLen top = true := by
  revert em
  change Ret (pssEncode H mHash emLen top) _
  unfold pssEncode
  refine Ret.guard fun hlen => Ret.ok ?_
  have hK := mgf1_length H hout hpos (H.h (List.replicate 8 0 ++ mHash)) (emLen - H.outLen - 1)
  have hdb : (List.replicate (emLen - H.outLen - 2) (0 : UInt8) ++ [1]).length = emLen - H.outLen - 1 := by
    simp only [List.length_append, List.length_replicate, List.length_singleton]; omega
  rw [pssVerify_parts H mHash _ _ emLen top (by omega)
    (by rw [topMask_length, xorBytes_length, hK, hdb, Nat.min_self]) (hout _)]
  rw [topMask_roundtrip _ _ _ (topMask_db _ htop _) (by rw [hK, hdb]),
    Nat.div_eq_of_lt (topMask_head_lt _ htop _)]
  simp

theorem pssVerify_encode (mHash em : Bytes) (emLen top : Nat) (htop : top ≤ 7)
    (hv : pssVerify H mHash em emLen top = true) : pssEncode H mHash emLen top = some em := by
  obtain ⟨M, h, rfl, hM, hh, hlen, h1, h2, h3⟩ := pssVerify_parse H mHash em emLen top hv
  have hK := mgf1_length H hout hpos h (emLen - H.outLen - 1)
  rw [pssEncode, if_neg (by omega), h3, ← h2,
    topMask_roundtrip _ _ _ (topMask_of_head_lt _ htop _ h1) (by rw [hK, hM])]

theorem emsaPssVerify_iff (mHash em : Bytes) (emBits : Nat) :
    emsaPssVerify H mHash em emBits = true ↔ emsaPssEncode H mHash emBits = some em := by
  rw [emsaPssVerify_eq, emsaPssEncode_eq]
  have htop : 8 * ((emBits + 7) / 8) - emBits ≤ 7 := by omega
  exact ⟨pssVerify_encode H hout hpos mHash em _ _ htop, pssEncode_verify H hout hpos mHash em _ _ htop⟩

theorem emsaPssEncode_verify (mHash em : Bytes) (emBits : Nat) (he : emsaPssEncode H mHash emBits = some em)
    (_hb : 0 < emBits) : emsaPssVerify H mHash em emBits = true :=
  (emsaPssVerify_iff H hout hpos mHash em emBits).2 he

theorem emsaPssVerify_encode (mHash em : Bytes) (emBits : Nat) (hv : emsaPssVerify H mHash em emBits = true)
    (_hb : 0 < emBits) : emsaPssEncode H mHash emBits = some em :=
  (emsaPssVerify_iff H hout hpos mHash em emBits).1 hv

theorem emsaPssEncode_bound (mHash em : Bytes) (emBits : Nat) (he : emsaPssEncode H mHash emBits = some em)
    (_hb : 0 < emBits) : os2ip em < 2 ^ emBits ∧ em.length = (emBits + 7) / 8 :=
  emsaPssVerify_bound H mHash em emBits ((emsaPssVerify_iff H hout hpos mHash em emBits).2 he)

end

theorem bitLen_bounds (n : Nat) (hn : 2 ≤ bitLen n) : 2 ^ (bitLen n - 1) ≤ n ∧ n < 2 ^ bitLen n :=
  ⟨NatBits.two_pow_pred_bl_le (by rintro rfl; exact absurd hn (by decide)), NatBits.lt_two_pow_bl n⟩

section
variable (H : Mac.Hash) (hout : ∀ b, (H.h b).length = H.outLen) (hpos : 0 < H.outLen)
include hout hpos

theorem rsaPss_sign_verify (n e d : Nat) (pre : Bool) (msg : Bytes) (em : Nat) (hn : 2 ≤ bitLen n)
    (hrep : rsaPssSignRep H n pre msg = some em)
    (hrt : Relic.Spec.Curve.powMod (Relic.Spec.Curve.powMod em d n) e n = em % n) :
    rsaPssVerify H ⟨n, e⟩ pre msg (i2osp (Relic.Spec.Curve.powMod em d n) ((bitLen n + 7) / 8)) = true := by
  unfold rsaPssSignRep at hrep
  by_cases hp : (pre = true ∧ msg.length ≠ H.outLen)
  · rw [if_pos hp] at hrep; exact absurd hrep (by simp)
  rw [if_neg hp] at hrep
  obtain ⟨emb, henc, rfl⟩ := Option.map_eq_some_iff.1 hrep
  have hver := (emsaPssVerify_iff H hout hpos _ emb _).2 henc
  obtain ⟨hlt, hlen⟩ := emsaPssVerify_bound H _ emb _ hver
  obtain ⟨hlo, hhi⟩ := bitLen_bounds n hn
  have hn1 : 1 < n := by
    have : 2 ^ 1 ≤ 2 ^ (bitLen n - 1) := Nat.pow_le_pow_right (by omega) (by omega)
    omega
  have hs := Relic.Spec.Curve.powMod_lt (os2ip emb) d (Nat.lt_of_succ_lt hn1)
  have hk : n ≤ 256 ^ ((bitLen n + 7) / 8) := by
    rw [PadC06.pow256]
    have : 2 ^ bitLen n ≤ 2 ^ (8 * ((bitLen n + 7) / 8)) := Nat.pow_le_pow_right (by omega) (by omega)
    omega
  have hvp : rsavp1 ⟨n, e⟩ (i2osp (Relic.Spec.Curve.powMod (os2ip emb) d n) ((bitLen n + 7) / 8))
      = some (os2ip emb) := by
    unfold rsavp1
    simp only []
    rw [if_neg (by rw [i2osp_length]; exact fun h => h rfl), os2ip_i2osp, Nat.mod_eq_of_lt (by omega),
      if_neg (by omega), hrt, Nat.mod_eq_of_lt (by omega)]
  unfold rsaPssVerify
  rw [if_neg hp, hvp]
  simp only []
  rw [if_neg (by rw [← hlen]; exact Nat.not_le.2 (os2ip_lt emb)), ← hlen, i2osp_os2ip]
  exact hver

end

end Relic.Lemmas.Pss
