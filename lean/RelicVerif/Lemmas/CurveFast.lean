/-
The Jacobian-coordinate evaluator of Spec/CurveFast.lean computes the affine chord-and-tangent arithmetic of Spec/Curve.lean
(both on Nat residues modulo a prime `c.p > 2`).  Every `… % c.p` expression is cast to `ZMod c.p`; a finite affine point with
canonical coordinates is determined by the casts of its coordinates (`Rep.unique`); the casts of `jdbl`, `jadd` are the
polynomial points `jacDbl`, `jacAdd` of Lemmas/EpFormulas.lean, whose affine images are the tangent and the chord point.
`jadd_spec` needs `Compat` (same abscissa ⇒ equal or opposite): `Curve.add` takes the tangent at the first point whenever
x₁ = x₂ and y₁ + y₂ ≠ 0, `jadd` returns infinity whenever x₁ = x₂ and y₁ ≠ y₂ (`example` at the end).  `jmulNat_spec`
(hence `C05.fast_evaluator_exact`) needs only canonical input coordinates: the formulas never use the coefficient b, so the
input lies on the curve with b' = y² − x³ − a x (`OnF.self`), on which the affine law is closed and `Compat` holds.
-/
import Mathlib.Data.ZMod.Basic
import Mathlib.Algebra.Field.ZMod
import Mathlib.Tactic.Ring
import Mathlib.Tactic.FieldSimp
import Mathlib.Tactic.LinearCombination
import RelicVerif.Spec.CurveFast
import RelicVerif.Lemmas.NumC06
import RelicVerif.Lemmas.EpFormulas

namespace Relic.Lemmas.CurveFast
open Relic.Spec.Curve Relic.Spec.CurveFast
open Relic.Lemmas.EpFormulas (chordX chordY tangX tangY jacAdd jacDbl)

set_option linter.unusedSimpArgs false
set_option linter.unusedSectionVars false


def WF (c : Curve) (j : Jac) : Prop := j.x < c.p ∧ j.y < c.p ∧ j.z < c.p

/-- two affine points with the same abscissa are equal or opposite (true for two points of one curve) -/
def Compat (c : Curve) (P Q : Point) : Prop :=
  ∀ x1 y1 x2 y2, P = some (x1, y1) → Q = some (x2, y2) → x1 = x2 → y1 = y2 ∨ (y1 + y2) % c.p = 0

/-! casts of the `% c.p` expressions to `ZMod c.p`: polynomial facts, kept where `ZMod c.p` is only known to be a commutative ring
(`ring` is cheaper there than over the field) -/
section Casts
variable (c : Curve) [NeZero c.p]

theorem mod_eq_zero_iff (x : Nat) : x % c.p = 0 ↔ (x : ZMod c.p) = 0 := by
  rw [ZMod.natCast_eq_zero_iff, Nat.dvd_iff_mod_eq_zero]

theorem cast_fsub (x y : Nat) : ((fsub c.p x y : Nat) : ZMod c.p) = x - y := by
  unfold fsub
  rw [ZMod.natCast_mod, Nat.cast_add, Nat.cast_sub (le_of_lt (Nat.mod_lt y (Nat.pos_of_ne_zero (NeZero.ne c.p)))),
    ZMod.natCast_self, ZMod.natCast_mod]
  ring

theorem jdbl_cast (j : Jac) (hz : (j.z : ZMod c.p) ≠ 0) (hy : (j.y : ZMod c.p) ≠ 0) :
    (((jdbl c j).x : Nat) : ZMod c.p) = (jacDbl (c.a : ZMod c.p) j.x j.y j.z).x ∧
    (((jdbl c j).y : Nat) : ZMod c.p) = (jacDbl (c.a : ZMod c.p) j.x j.y j.z).y ∧
    (((jdbl c j).z : Nat) : ZMod c.p) = (jacDbl (c.a : ZMod c.p) j.x j.y j.z).z := by
  simp only [jdbl, mod_eq_zero_iff, hz, hy, or_self, if_false, jacDbl, cast_fsub, Nat.cast_mul, Nat.cast_add, Nat.cast_ofNat, ZMod.natCast_mod,
    and_true]
  constructor <;> ring

theorem u_iff (a b : Jac) :
    (a.x * (b.z * b.z % c.p) % c.p = b.x * (a.z * a.z % c.p) % c.p) ↔
      (a.x : ZMod c.p) * (b.z : ZMod c.p) ^ 2 = (b.x : ZMod c.p) * (a.z : ZMod c.p) ^ 2 := by
  rw [← ZMod.natCast_eq_natCast_iff']
  simp only [Nat.cast_mul, ZMod.natCast_mod, sq]

theorem s_iff (a b : Jac) :
    (a.y * (b.z * b.z % c.p * b.z % c.p) % c.p = b.y * (a.z * a.z % c.p * a.z % c.p) % c.p) ↔
      (a.y : ZMod c.p) * (b.z : ZMod c.p) ^ 3 = (b.y : ZMod c.p) * (a.z : ZMod c.p) ^ 3 := by
  rw [← ZMod.natCast_eq_natCast_iff']
  simp only [Nat.cast_mul, ZMod.natCast_mod, pow_succ, pow_zero, one_mul]

theorem jadd_cast (a b : Jac) (hz1 : (a.z : ZMod c.p) ≠ 0) (hz2 : (b.z : ZMod c.p) ≠ 0)
    (hU : (a.x : ZMod c.p) * (b.z : ZMod c.p) ^ 2 ≠ (b.x : ZMod c.p) * (a.z : ZMod c.p) ^ 2) :
    (((jadd c a b).x : Nat) : ZMod c.p) = (jacAdd (a.x : ZMod c.p) a.y a.z b.x b.y b.z).x ∧
    (((jadd c a b).y : Nat) : ZMod c.p) = (jacAdd (a.x : ZMod c.p) a.y a.z b.x b.y b.z).y ∧
    (((jadd c a b).z : Nat) : ZMod c.p) = (jacAdd (a.x : ZMod c.p) a.y a.z b.x b.y b.z).z := by
  simp only [jadd, mod_eq_zero_iff, u_iff, if_neg hz1, if_neg hz2, if_neg hU, jacAdd, cast_fsub, Nat.cast_mul, Nat.cast_add, Nat.cast_ofNat,
    ZMod.natCast_mod]
  refine ⟨?_, ?_, ?_⟩ <;> ring

end Casts

section Bridge
variable (c : Curve) [Fact c.p.Prime]

theorem p_pos : 0 < c.p := (Fact.out : c.p.Prime).pos

theorem cast_sub (x y : Nat) : ((Spec.Curve.sub c x y : Nat) : ZMod c.p) = x - y := by
  unfold Spec.Curve.sub
  rw [ZMod.natCast_mod, Nat.cast_sub (by have := Nat.mod_lt y (p_pos c); omega), Nat.cast_add,
    ZMod.natCast_self, ZMod.natCast_mod]
  ring

theorem fsub_lt (x y : Nat) : fsub c.p x y < c.p := by
  unfold fsub; exact Nat.mod_lt _ (p_pos c)

theorem sub_lt (x y : Nat) : Spec.Curve.sub c x y < c.p := by
  unfold Spec.Curve.sub; exact Nat.mod_lt _ (p_pos c)

theorem two_ne_zero' (h2 : 2 < c.p) : (2 : ZMod c.p) ≠ 0 := by
  have : ((2 : Nat) : ZMod c.p) ≠ 0 := by
    rw [Ne, ← mod_eq_zero_iff, Nat.mod_eq_of_lt h2]; omega
  exact_mod_cast this

def Rep (P : Point) (x y : ZMod c.p) : Prop :=
  ∃ n1 n2 : Nat, P = some (n1, n2) ∧ n1 < c.p ∧ n2 < c.p ∧ (n1 : ZMod c.p) = x ∧ (n2 : ZMod c.p) = y

theorem Rep.unique {P Q : Point} {x y : ZMod c.p} (h1 : Rep c P x y) (h2 : Rep c Q x y) : P = Q := by
  obtain ⟨a1, a2, rfl, ha1, ha2, hx1, hy1⟩ := h1
  obtain ⟨b1, b2, rfl, hb1, hb2, hx2, hy2⟩ := h2
  have e1 := ZModCast.cast_inj_of_lt ha1 hb1 (hx1.trans hx2.symm)
  have e2 := ZModCast.cast_inj_of_lt ha2 hb2 (hy1.trans hy2.symm)
  rw [e1, e2]

theorem Rep.inj {P : Point} {x y x' y' : ZMod c.p} (h1 : Rep c P x y) (h2 : Rep c P x' y') :
    x = x' ∧ y = y' := by
  obtain ⟨a1, a2, rfl, ha1, ha2, rfl, rfl⟩ := h1
  obtain ⟨b1, b2, h, hb1, hb2, rfl, rfl⟩ := h2
  simp only [Option.some.injEq, Prod.mk.injEq] at h
  rw [h.1, h.2]; exact ⟨rfl, rfl⟩

theorem toAffine_none (j : Jac) (hz : (j.z : ZMod c.p) = 0) : toAffine c j = none := by
  unfold toAffine; rw [if_pos ((mod_eq_zero_iff c _).2 hz)]

theorem toAffine_inf : toAffine c Jac.inf = none := by
  apply toAffine_none; simp [Jac.inf]

theorem toAffine_rep (j : Jac) (hz : (j.z : ZMod c.p) ≠ 0) :
    Rep c (toAffine c j) ((j.x : ZMod c.p) / (j.z : ZMod c.p) ^ 2)
      ((j.y : ZMod c.p) / (j.z : ZMod c.p) ^ 3) := by
  have hz' : ¬ j.z % c.p = 0 := fun h => hz ((mod_eq_zero_iff c _).1 h)
  simp only [toAffine, if_neg hz']
  refine ⟨_, _, rfl, Nat.mod_lt _ (p_pos c), Nat.mod_lt _ (p_pos c), ?_, ?_⟩
  · simp only [ZMod.natCast_mod, Nat.cast_mul, NumC06.cast_invEuclid c.p _ hz]
    field_simp
  · simp only [ZMod.natCast_mod, Nat.cast_mul, NumC06.cast_invEuclid c.p _ hz]
    field_simp


theorem add_chord {P Q : Point} {x1 y1 x2 y2 : ZMod c.p} (hP : Rep c P x1 y1) (hQ : Rep c Q x2 y2)
    (hne : x1 ≠ x2) : Rep c (Spec.Curve.add c P Q) (chordX x1 y1 x2 y2) (chordY x1 y1 x2 y2) := by
  obtain ⟨a1, a2, rfl, ha1, ha2, rfl, rfl⟩ := hP
  obtain ⟨b1, b2, rfl, hb1, hb2, rfl, rfl⟩ := hQ
  have hn : a1 ≠ b1 := fun h => hne (by rw [h])
  have hd : ((Spec.Curve.sub c b1 a1 : Nat) : ZMod c.p) ≠ 0 := by
    rw [cast_sub]; exact sub_ne_zero.2 (Ne.symm hne)
  simp only [Spec.Curve.add, if_neg hn]
  refine ⟨_, _, rfl, sub_lt c _ _, sub_lt c _ _, ?_, ?_⟩
  · simp only [cast_sub, Nat.cast_mul, ZMod.natCast_mod, Spec.Curve.inv, NumC06.cast_invEuclid c.p _ hd, chordX,
      div_eq_mul_inv]
    ring
  · simp only [cast_sub, Nat.cast_mul, ZMod.natCast_mod, Spec.Curve.inv, NumC06.cast_invEuclid c.p _ hd, chordY, chordX,
      div_eq_mul_inv]
    ring

theorem dbl_tangent (h2 : (2 : ZMod c.p) ≠ 0) {P : Point} {x1 y1 : ZMod c.p} (hP : Rep c P x1 y1) (hy : y1 ≠ 0) :
    Rep c (Spec.Curve.dbl c P) (tangX (c.a : ZMod c.p) x1 y1) (tangY (c.a : ZMod c.p) x1 y1) := by
  obtain ⟨a1, a2, rfl, ha1, ha2, rfl, rfl⟩ := hP
  have hd : ((2 * a2 % c.p : Nat) : ZMod c.p) ≠ 0 := by
    rw [ZMod.natCast_mod, Nat.cast_mul, Nat.cast_ofNat]
    exact mul_ne_zero h2 hy
  have hs : ¬ (a2 + a2) % c.p = 0 := by
    rwa [← two_mul, mod_eq_zero_iff, ← ZMod.natCast_mod]
  simp only [Spec.Curve.dbl, Spec.Curve.add, if_true, if_neg hs]
  refine ⟨_, _, rfl, sub_lt c _ _, sub_lt c _ _, ?_, ?_⟩
  · simp only [cast_sub, Nat.cast_mul, Nat.cast_add, Nat.cast_ofNat, ZMod.natCast_mod, Spec.Curve.inv,
      NumC06.cast_invEuclid c.p _ hd, tangX, div_eq_mul_inv]
    ring
  · simp only [cast_sub, Nat.cast_mul, Nat.cast_add, Nat.cast_ofNat, ZMod.natCast_mod, Spec.Curve.inv,
      NumC06.cast_invEuclid c.p _ hd, tangY, tangX, div_eq_mul_inv]
    ring

theorem add_opp {P Q : Point} {x1 y1 y2 : ZMod c.p}
    (hP : Rep c P x1 y1) (hQ : Rep c Q x1 y2) (hs : y1 + y2 = 0) : Spec.Curve.add c P Q = none := by
  obtain ⟨a1, a2, rfl, ha1, ha2, rfl, rfl⟩ := hP
  obtain ⟨b1, b2, rfl, hb1, hb2, hx, rfl⟩ := hQ
  have e : b1 = a1 := ZModCast.cast_inj_of_lt hb1 ha1 hx
  subst e
  have hs' : (a2 + b2) % c.p = 0 := by
    rw [mod_eq_zero_iff, Nat.cast_add]; exact hs
  simp only [Spec.Curve.add, if_true, if_pos hs']


theorem Compat.cast {P Q : Point} (hc : Compat c P Q) {x y1 y2 : ZMod c.p} (hP : Rep c P x y1) (hQ : Rep c Q x y2) :
    y1 = y2 ∨ y1 + y2 = 0 := by
  obtain ⟨n1, n2, e1, hn1, hn2, hx1, rfl⟩ := hP
  obtain ⟨m1, m2, e2, hm1, hm2, hx2, rfl⟩ := hQ
  rcases hc n1 n2 m1 m2 e1 e2 (ZModCast.cast_inj_of_lt hn1 hm1 (hx1.trans hx2.symm)) with h | h
  · exact Or.inl (by rw [h])
  · exact Or.inr (by rwa [← Nat.cast_add, ← mod_eq_zero_iff])


theorem jdbl_inf (j : Jac) (h : (j.z : ZMod c.p) = 0 ∨ (j.y : ZMod c.p) = 0) : jdbl c j = Jac.inf := by
  simp only [jdbl, mod_eq_zero_iff, if_pos h]

theorem jdbl_spec (h2 : 2 < c.p) (j : Jac) :
    toAffine c (jdbl c j) = Spec.Curve.dbl c (toAffine c j) := by
  have h2' := two_ne_zero' c h2
  by_cases hz : (j.z : ZMod c.p) = 0
  · rw [jdbl_inf c j (Or.inl hz), toAffine_inf, toAffine_none c j hz]
    rfl
  have hr := toAffine_rep c j hz
  by_cases hy : (j.y : ZMod c.p) = 0
  · rw [jdbl_inf c j (Or.inr hy), toAffine_inf]
    exact (add_opp c hr hr (by rw [hy, zero_div, add_zero])).symm
  obtain ⟨hx', hy', hz'⟩ := jdbl_cast c j hz hy
  obtain ⟨-, hzn, hX, hY⟩ := EpFormulas.jacDbl_tangent (c.a : ZMod c.p) j.x j.y j.z h2' hz hy
  have hr' := toAffine_rep c (jdbl c j) (by rwa [hz'])
  rw [hx', hy', hz', hX, hY] at hr'
  exact Rep.unique c hr' (dbl_tangent c h2' hr (div_ne_zero hy (pow_ne_zero _ hz)))


theorem add_none_left (Q : Point) : Spec.Curve.add c none Q = Q := by
  cases Q <;> rfl

theorem add_none_right (P : Point) : Spec.Curve.add c P none = P := by
  cases P <;> rfl

/-- `Compat` is necessary (`example` at the end of the file) and holds for two points of one curve (`OnF.compat`). -/
theorem jadd_spec (h2 : 2 < c.p) (a b : Jac)
    (hc : Compat c (toAffine c a) (toAffine c b)) :
    toAffine c (jadd c a b) = Spec.Curve.add c (toAffine c a) (toAffine c b) := by
  by_cases hz1 : (a.z : ZMod c.p) = 0
  · rw [show jadd c a b = b by simp only [jadd, mod_eq_zero_iff, if_pos hz1], toAffine_none c a hz1, add_none_left]
  by_cases hz2 : (b.z : ZMod c.p) = 0
  · rw [show jadd c a b = a by simp only [jadd, mod_eq_zero_iff, if_neg hz1, if_pos hz2], toAffine_none c b hz2,
      add_none_right]
  have hra := toAffine_rep c a hz1
  have hrb := toAffine_rep c b hz2
  have hz1' : (a.z : ZMod c.p) ^ 2 ≠ 0 := pow_ne_zero _ hz1
  have hz2' : (b.z : ZMod c.p) ^ 2 ≠ 0 := pow_ne_zero _ hz2
  have hz1'' : (a.z : ZMod c.p) ^ 3 ≠ 0 := pow_ne_zero _ hz1
  have hz2'' : (b.z : ZMod c.p) ^ 3 ≠ 0 := pow_ne_zero _ hz2
  by_cases hU : (a.x : ZMod c.p) * (b.z : ZMod c.p) ^ 2 = (b.x : ZMod c.p) * (a.z : ZMod c.p) ^ 2
  · have hxe : (b.x : ZMod c.p) / (b.z : ZMod c.p) ^ 2 = (a.x : ZMod c.p) / (a.z : ZMod c.p) ^ 2 := by
      rw [div_eq_div_iff hz2' hz1']; exact hU.symm
    by_cases hS : (a.y : ZMod c.p) * (b.z : ZMod c.p) ^ 3 = (b.y : ZMod c.p) * (a.z : ZMod c.p) ^ 3
    · have hye : (b.y : ZMod c.p) / (b.z : ZMod c.p) ^ 3 = (a.y : ZMod c.p) / (a.z : ZMod c.p) ^ 3 := by
        rw [div_eq_div_iff hz2'' hz1'']; exact hS.symm
      rw [show jadd c a b = jdbl c a by
        simp only [jadd, mod_eq_zero_iff, u_iff, s_iff, if_neg hz1, if_neg hz2, if_pos hU, if_pos hS], jdbl_spec c h2 a]
      have : toAffine c b = toAffine c a := Rep.unique c (hxe ▸ hye ▸ hrb) hra
      rw [this]; rfl
    · rw [show jadd c a b = Jac.inf by
        simp only [jadd, mod_eq_zero_iff, u_iff, s_iff, if_neg hz1, if_neg hz2, if_pos hU, if_neg hS], toAffine_inf]
      have hyne : (a.y : ZMod c.p) / (a.z : ZMod c.p) ^ 3 ≠ (b.y : ZMod c.p) / (b.z : ZMod c.p) ^ 3 := by
        rw [Ne, div_eq_div_iff hz1'' hz2'']; exact hS
      have hrb' := hxe ▸ hrb
      rcases hc.cast c hra hrb' with h | h
      · exact absurd h hyne
      · exact (add_opp c hra hrb' h).symm
  · obtain ⟨hx', hy', hz'⟩ := jadd_cast c a b hz1 hz2 hU
    obtain ⟨-, hzn, hX, hY⟩ := EpFormulas.jacAdd_chord (a.x : ZMod c.p) a.y a.z b.x b.y b.z hz1 hz2
      (sub_ne_zero.2 (Ne.symm hU))
    have hr' := toAffine_rep c (jadd c a b) (by rwa [hz'])
    rw [hx', hy', hz', hX, hY] at hr'
    exact Rep.unique c hr' (add_chord c hra hrb (by rwa [Ne, div_eq_div_iff hz1' hz2']))


/-! ### points of one curve `y² = x³ + a x + b'`, any `b'` -/

def OnF (b' : ZMod c.p) (P : Point) : Prop :=
  P = none ∨ ∃ x y : ZMod c.p, Rep c P x y ∧ y ^ 2 = x ^ 3 + (c.a : ZMod c.p) * x + b'

theorem OnF.compat {b' : ZMod c.p} {P Q : Point} (hP : OnF c b' P) (hQ : OnF c b' Q) : Compat c P Q := by
  intro n1 n2 m1 m2 e1 e2 hnm
  rcases hP with hP | ⟨x1, y1, hr1, he1⟩
  · rw [hP] at e1; cases e1
  rcases hQ with hQ | ⟨x2, y2, hr2, he2⟩
  · rw [hQ] at e2; cases e2
  obtain ⟨a1, a2, e1', ha1, ha2, rfl, rfl⟩ := hr1
  obtain ⟨b1, b2, e2', hb1, hb2, rfl, rfl⟩ := hr2
  rw [e1] at e1'; rw [e2] at e2'
  simp only [Option.some.injEq, Prod.mk.injEq] at e1' e2'
  obtain ⟨rfl, rfl⟩ := e1'
  obtain ⟨rfl, rfl⟩ := e2'
  subst hnm
  have hmul : ((n2 : ZMod c.p) - (m2 : ZMod c.p)) * ((n2 : ZMod c.p) + (m2 : ZMod c.p)) = 0 := by
    linear_combination he1 - he2
  rcases mul_eq_zero.1 hmul with h | h
  · left; exact ZModCast.cast_inj_of_lt ha2 hb2 (sub_eq_zero.1 h)
  · right; rw [mod_eq_zero_iff, Nat.cast_add]; exact h

theorem OnF.add (h2 : 2 < c.p) {b' : ZMod c.p} {P Q : Point} (hP : OnF c b' P) (hQ : OnF c b' Q) :
    OnF c b' (Spec.Curve.add c P Q) := by
  have h2' := two_ne_zero' c h2
  rcases hP with hP | ⟨x1, y1, hr1, he1⟩
  · rw [hP, add_none_left]; exact hQ
  rcases hQ with hQ | ⟨x2, y2, hr2, he2⟩
  · rw [hQ, add_none_right]; exact Or.inr ⟨x1, y1, hr1, he1⟩
  by_cases hx : x1 = x2
  · subst hx
    have hmul : (y1 - y2) * (y1 + y2) = 0 := by linear_combination he1 - he2
    by_cases hs : y1 + y2 = 0
    · exact Or.inl (add_opp c hr1 hr2 hs)
    · obtain rfl : y1 = y2 := sub_eq_zero.1 ((mul_eq_zero.1 hmul).resolve_right hs)
      obtain rfl := Rep.unique c hr1 hr2
      have hy1 : y1 ≠ 0 := fun h => hs (by rw [h, add_zero])
      exact Or.inr ⟨_, _, dbl_tangent c h2' hr1 hy1, EpFormulas.tangent_onCurve _ _ x1 y1 h2' hy1 he1⟩
  · exact Or.inr ⟨_, _, add_chord c hr1 hr2 hx,
      EpFormulas.chord_onCurve _ _ x1 y1 x2 y2 (sub_ne_zero.2 (Ne.symm hx)) he1 he2⟩

theorem OnF.of_onCurve {P : Point} (h : Spec.Curve.onCurve c P = true) : OnF c (c.b : ZMod c.p) P := by
  rcases P with _ | ⟨x, y⟩
  · exact Or.inl rfl
  · right
    simp only [Spec.Curve.onCurve, Bool.and_eq_true, decide_eq_true_eq, beq_iff_eq] at h
    obtain ⟨⟨hx, hy⟩, he⟩ := h
    refine ⟨x, y, ⟨x, y, rfl, hx, hy, rfl, rfl⟩, ?_⟩
    rw [← ZMod.natCast_eq_natCast_iff'] at he
    simp only [Nat.cast_mul, Nat.cast_add, ZMod.natCast_mod] at he
    linear_combination he

theorem OnF.self {x y : Nat} (hx : x < c.p) (hy : y < c.p) :
    OnF c ((y : ZMod c.p) ^ 2 - (x : ZMod c.p) ^ 3 - (c.a : ZMod c.p) * x) (some (x, y)) := by
  right
  exact ⟨x, y, ⟨x, y, rfl, hx, hy, rfl, rfl⟩, by ring⟩

theorem toAffine_ofAffine_some {x y : Nat} (hx : x < c.p) (hy : y < c.p) :
    toAffine c (ofAffine (some (x, y))) = some (x, y) := by
  have h1 : (((ofAffine (some (x, y))).z : Nat) : ZMod c.p) ≠ 0 := by
    simp [ofAffine]
  have hr := toAffine_rep c (ofAffine (some (x, y))) h1
  apply Rep.unique c hr
  refine ⟨x, y, rfl, hx, hy, ?_, ?_⟩ <;> simp [ofAffine]


theorem go_eq (h2 : 2 < c.p) (b' : ZMod c.p) : ∀ (fuel k : Nat) (bJ aJ : Jac),
    OnF c b' (toAffine c bJ) → OnF c b' (toAffine c aJ) →
    toAffine c (jmulNat.go c fuel k bJ aJ)
        = Spec.Curve.mulNat.go c fuel k (toAffine c bJ) (toAffine c aJ) ∧
      OnF c b' (toAffine c (jmulNat.go c fuel k bJ aJ)) := by
  intro fuel
  induction fuel with
  | zero =>
    intro k bJ aJ hb ha
    unfold jmulNat.go Spec.Curve.mulNat.go
    exact ⟨rfl, ha⟩
  | succ f ih =>
    intro k bJ aJ hb ha
    unfold jmulNat.go Spec.Curve.mulNat.go
    by_cases hk : k = 0
    · rw [if_pos hk, if_pos hk]; exact ⟨rfl, ha⟩
    · rw [if_neg hk, if_neg hk]
      have hd : toAffine c (jdbl c bJ) = Spec.Curve.dbl c (toAffine c bJ) := jdbl_spec c h2 bJ
      have hacc : toAffine c (if k % 2 = 1 then jadd c aJ bJ else aJ)
          = (if k % 2 = 1 then Spec.Curve.add c (toAffine c aJ) (toAffine c bJ) else toAffine c aJ) := by
        split
        · exact jadd_spec c h2 aJ bJ (OnF.compat c ha hb)
        · rfl
      have hb' : OnF c b' (toAffine c (jdbl c bJ)) := by rw [hd]; exact OnF.add c h2 hb hb
      have ha' : OnF c b' (toAffine c (if k % 2 = 1 then jadd c aJ bJ else aJ)) := by
        rw [hacc]; split
        · exact OnF.add c h2 ha hb
        · exact ha
      have := ih (k / 2) (jdbl c bJ) (if k % 2 = 1 then jadd c aJ bJ else aJ) hb' ha'
      rw [hd, hacc] at this
      exact ⟨this.1, this.2⟩

theorem toAffine_ofAffine {b' : ZMod c.p} {pt : Point} (h : OnF c b' pt) :
    toAffine c (ofAffine pt) = pt := by
  rcases h with rfl | ⟨x, y, ⟨n1, n2, rfl, h1, h2, -, -⟩, -⟩
  · exact toAffine_inf c
  · exact toAffine_ofAffine_some c h1 h2

theorem jmulNat_spec (h2 : 2 < c.p) (b' : ZMod c.p) (pt : Point) (hpt : OnF c b' pt) (k : Nat) :
    toAffine c (jmulNat c (ofAffine pt) k) = Spec.Curve.mulNat c pt k ∧
      OnF c b' (Spec.Curve.mulNat c pt k) := by
  have hpt' := toAffine_ofAffine c hpt
  have hb : OnF c b' (toAffine c (ofAffine pt)) := by rw [hpt']; exact hpt
  have ha : OnF c b' (toAffine c Jac.inf) := Or.inl (toAffine_inf c)
  have := go_eq c h2 b' (Nat.log2 k + 2) k (ofAffine pt) Jac.inf hb ha
  rw [toAffine_inf, hpt'] at this
  unfold jmulNat Spec.Curve.mulNat
  exact ⟨this.1, this.1 ▸ this.2⟩

end Bridge


theorem invEuclid_mul (c : Curve) (hp : c.p.Prime) (x : Nat) (hx : x % c.p ≠ 0) :
    x * invEuclid c.p x % c.p = 1 := by
  rw [mul_comm]
  apply NumC06.invEuclid_mul_mod c.p x hp.one_lt
  rwa [Nat.coprime_comm, Nat.Prime.coprime_iff_not_dvd hp, Nat.dvd_iff_mod_eq_zero]

theorem invEuclid_lt (c : Curve) (hp : c.p.Prime) (x : Nat) : invEuclid c.p x < c.p :=
  NumC06.invEuclid_lt c.p x hp.pos

theorem WF_inf (c : Curve) (h1 : 1 < c.p) : WF c Jac.inf := by
  simp only [WF, Jac.inf]; omega

theorem WF_ofAffine (c : Curve) (h1 : 1 < c.p) (pt : Point)
    (hpt : ∀ x y, pt = some (x, y) → x < c.p ∧ y < c.p) : WF c (ofAffine pt) := by
  rcases pt with _ | ⟨x, y⟩
  · exact WF_inf c h1
  · obtain ⟨hx, hy⟩ := hpt x y rfl
    exact ⟨hx, hy, h1⟩

theorem WF_jdbl (c : Curve) (h1 : 1 < c.p) (j : Jac) : WF c (jdbl c j) := by
  have hp0 : 0 < c.p := by omega
  unfold jdbl
  simp only
  split
  · exact WF_inf c h1
  · exact ⟨Nat.mod_lt _ hp0, Nat.mod_lt _ hp0, Nat.mod_lt _ hp0⟩

theorem WF_jadd (c : Curve) (h1 : 1 < c.p) (a b : Jac) (ha : WF c a) (hb : WF c b) :
    WF c (jadd c a b) := by
  have hp0 : 0 < c.p := by omega
  unfold jadd
  simp only
  split
  · exact hb
  split
  · exact ha
  split
  · split
    · exact WF_jdbl c h1 a
    · exact WF_inf c h1
  · exact ⟨Nat.mod_lt _ hp0, Nat.mod_lt _ hp0, Nat.mod_lt _ hp0⟩

theorem toAffine_jdbl (c : Curve) (hp : c.p.Prime) (h2 : 2 < c.p) (j : Jac) (_hj : WF c j) :
    toAffine c (jdbl c j) = Spec.Curve.dbl c (toAffine c j) :=
  have : Fact c.p.Prime := ⟨hp⟩
  jdbl_spec c h2 j

theorem toAffine_jadd (c : Curve) (hp : c.p.Prime) (h2 : 2 < c.p) (a b : Jac) (_ha : WF c a) (_hb : WF c b)
    (hc : Compat c (toAffine c a) (toAffine c b)) :
    toAffine c (jadd c a b) = Spec.Curve.add c (toAffine c a) (toAffine c b) :=
  have : Fact c.p.Prime := ⟨hp⟩
  jadd_spec c h2 a b hc

theorem toAffine_jadd_onCurve (c : Curve) (hp : c.p.Prime) (h2 : 2 < c.p) (a b : Jac)
    (ha : Spec.Curve.onCurve c (toAffine c a) = true) (hb : Spec.Curve.onCurve c (toAffine c b) = true) :
    toAffine c (jadd c a b) = Spec.Curve.add c (toAffine c a) (toAffine c b) :=
  have : Fact c.p.Prime := ⟨hp⟩
  jadd_spec c h2 a b (OnF.compat c (OnF.of_onCurve c ha) (OnF.of_onCurve c hb))

theorem mulAdd_eq (c : Curve) (hp : c.p.Prime) (h2 : 2 < c.p) (pt q : Point)
    (hpt : Spec.Curve.onCurve c pt = true) (hq : Spec.Curve.onCurve c q = true) (k m : Nat) :
    Spec.CurveFast.mulAdd c pt k q m
      = Spec.Curve.add c (Spec.Curve.mulNat c pt k) (Spec.Curve.mulNat c q m) := by
  have : Fact c.p.Prime := ⟨hp⟩
  unfold Spec.CurveFast.mulAdd
  have h1 := jmulNat_spec c h2 _ pt (OnF.of_onCurve c hpt) k
  have h2' := jmulNat_spec c h2 _ q (OnF.of_onCurve c hq) m
  rw [jadd_spec c h2 _ _ (by rw [h1.1, h2'.1]; exact OnF.compat c h1.2 h2'.2), h1.1, h2'.1]

/-- the hypothesis `Compat` of `toAffine_jadd` cannot be dropped: two points with the same abscissa that are neither
equal nor opposite (so not both on the curve) are sent to infinity by `jadd`, to a tangent result by `Curve.add` -/
example : toAffine ⟨7, 0, 3⟩ (jadd ⟨7, 0, 3⟩ ⟨1, 1, 1⟩ ⟨1, 2, 1⟩)
    ≠ Spec.Curve.add ⟨7, 0, 3⟩ (toAffine ⟨7, 0, 3⟩ ⟨1, 1, 1⟩) (toAffine ⟨7, 0, 3⟩ ⟨1, 2, 1⟩) := by
  decide

end Relic.Lemmas.CurveFast
