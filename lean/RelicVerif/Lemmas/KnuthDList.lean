/-
Digit lists and their value: splitting at an index, leading digits, replacing one digit or a segment.
-/
import RelicVerif.Lemmas.BnLowAdd

namespace Relic.Model

theorem val_drop_succ (B : Nat) (m : Nat) (a : List Nat) :
    val B (a.drop m) = a.getD m 0 + B * val B (a.drop (m + 1)) := by
  induction m generalizing a with
  | zero => cases a <;> simp [val]
  | succ m ih =>
    cases a with
    | nil => simp [val]
    | cons x xs => simpa using ih xs

theorem val_drop_eq_zero (B : Nat) (a : List Nat) (m : Nat) (h : val B a < B ^ m) :
    val B (a.drop m) = 0 := by
  rw [val_take_drop B m a] at h
  rcases Nat.eq_zero_or_pos (val B (a.drop m)) with h0 | h0
  · exact h0
  · have := Nat.le_mul_of_pos_right (B ^ m) h0
    omega

theorem val_take_eq_of_lt (B : Nat) (a : List Nat) (m : Nat) (h : val B a < B ^ m) :
    val B (a.take m) = val B a := by
  rw [val_take_drop B m a, val_drop_eq_zero B a m h, Nat.mul_zero, Nat.add_zero]

theorem digs_set {B : Nat} {a : List Nat} (h : ∀ d ∈ a, d < B) (k v : Nat) (hv : v < B) :
    ∀ d ∈ a.set k v, d < B := by
  intro d hd
  rcases List.mem_or_eq_of_mem_set hd with h1 | h1
  · exact h d h1
  · exact h1 ▸ hv

theorem digs_replicate_zero {B : Nat} (hB : 0 < B) (n : Nat) : ∀ d ∈ List.replicate n 0, d < B :=
  fun _ hd => (List.eq_of_mem_replicate hd) ▸ hB

/-- a digit that C reads as `(j < 0) ? 0 : x[j]` -/
theorem ite_zero_lt {c : Prop} [Decidable c] {x B : Nat} (hB : 0 < B) (h : x < B) :
    (if c then 0 else x) < B := by
  split
  · exact hB
  · exact h

theorem getD_set_ne (q : List Nat) (k j v : Nat) (h : j ≠ k) : (q.set k v).getD j 0 = q.getD j 0 := by
  simp only [List.getD_eq_getElem?_getD]
  rw [List.getElem?_set_ne (by omega)]

theorem getD_replicate_zero (n j : Nat) : (List.replicate n 0).getD j 0 = 0 := by
  rw [List.getD_eq_getElem?_getD, List.getElem?_replicate]
  split <;> rfl

theorem length_window (a : List Nat) {k n : Nat} (h : k + n ≤ a.length) :
    ((a.drop k).take n).length = n := by
  rw [List.length_take, List.length_drop]
  omega

theorem window_drop (lo mid hi : List Nat) (m : Nat) (h : lo.length + mid.length = m) :
    (lo ++ mid ++ hi).drop m = hi := by
  subst h
  rw [← List.length_append]
  simp

theorem val_take_lt (B : Nat) (hB : 0 < B) (a : List Nat) (ha : ∀ d ∈ a, d < B) (j : Nat) :
    val B (a.take j) < B ^ j :=
  Nat.lt_of_lt_of_le (val_lt B (a.take j) (digs_take ha j))
    (Nat.pow_le_pow_right hB (List.length_take_le j a))

theorem val_split_top (B : Nat) (b : List Nat) (hbne : 0 < b.length) :
    val B b = val B (b.take (b.length - 1)) + B ^ (b.length - 1) * b.getD (b.length - 1) 0 := by
  rw [val_take_drop B (b.length - 1) b, val_drop_succ B (b.length - 1) b,
    List.drop_eq_nil_of_le (by omega), val_nil, Nat.mul_zero, Nat.add_zero]

theorem length_pos_of_top {b : List Nat} (hbt : 0 < b.getD (b.length - 1) 0) : 0 < b.length := by
  cases b with
  | nil => exact absurd hbt (Nat.lt_irrefl 0)
  | cons _ _ => exact Nat.succ_pos _

theorem pow_le_val (B : Nat) (b : List Nat) (hbt : 0 < b.getD (b.length - 1) 0) :
    B ^ (b.length - 1) ≤ val B b := by
  rw [val_split_top B b (length_pos_of_top hbt)]
  exact Nat.le_trans (Nat.le_mul_of_pos_right _ hbt) (Nat.le_add_left _ _)

theorem top_pos_of_pow_le (B : Nat) (hB : 0 < B) (b : List Nat) (hb : ∀ d ∈ b, d < B) (hbne : 0 < b.length)
    (h : B ^ (b.length - 1) ≤ val B b) : 0 < b.getD (b.length - 1) 0 := by
  refine Nat.pos_of_ne_zero fun h0 => ?_
  have hlo := val_take_lt B hB b hb (b.length - 1)
  rw [val_split_top B b hbne, h0, Nat.mul_zero, Nat.add_zero] at h
  omega

theorem top_pos_of_getLast (b0 : List Nat) (hb0 : b0 ≠ []) (hbt : b0.getLast? ≠ some 0) :
    0 < b0.getD (b0.length - 1) 0 := by
  have hl : 0 < b0.length := List.length_pos_iff.mpr hb0
  rw [List.getLast?_eq_getElem?, List.getElem?_eq_getElem (by omega)] at hbt
  rw [List.getD_eq_getElem?_getD, List.getElem?_eq_getElem (by omega), Option.getD_some]
  exact Nat.pos_of_ne_zero fun h => hbt (congrArg some h)

theorem val_top3 (B : Nat) (a : List Nat) (j : Nat) (hz : val B (a.drop (j + 3)) = 0) :
    val B a = val B (a.take j) + B ^ j * (a.getD j 0 + B * (a.getD (j + 1) 0 + B * a.getD (j + 2) 0)) := by
  rw [val_take_drop B j a, val_drop_succ B j a, val_drop_succ B (j + 1) a, val_drop_succ B (j + 2) a, hz]
  simp only [Nat.mul_zero, Nat.add_zero]

theorem val_top2 (B : Nat) (b : List Nat) (j : Nat) (hl : b.length = j + 2) :
    val B b = val B (b.take j) + B ^ j * (b.getD j 0 + B * b.getD (j + 1) 0) := by
  rw [val_take_drop B j b, val_drop_succ B j b, val_drop_succ B (j + 1) b,
    List.drop_eq_nil_of_le (by omega), val_nil, Nat.mul_zero, Nat.add_zero]

theorem length_splice (a seg : List Nat) (k : Nat) (h : k + seg.length ≤ a.length) :
    (splice a k seg).length = a.length := by
  simp only [splice, List.length_append, List.length_take, List.length_drop]
  omega

theorem digs_splice {B : Nat} {a seg : List Nat} (ha : ∀ d ∈ a, d < B) (hs : ∀ d ∈ seg, d < B)
    (k : Nat) : ∀ d ∈ splice a k seg, d < B :=
  digs_append (digs_append (digs_take ha k) hs) (digs_drop ha _)

theorem val_splice (B : Nat) (a seg : List Nat) (k : Nat) (h : k + seg.length ≤ a.length) :
    val B (splice a k seg) + B ^ k * val B ((a.drop k).take seg.length)
      = val B a + B ^ k * val B seg := by
  have h1 := val_take_drop B k a
  have h2 := val_take_drop B seg.length (a.drop k)
  rw [List.drop_drop] at h2
  rw [splice, List.append_assoc, val_append, val_append, List.length_take,
    Nat.min_eq_left (by omega), h1, h2]
  simp only [Nat.mul_add]
  omega

theorem drop_splice (a seg : List Nat) (k : Nat) (h : k + seg.length ≤ a.length) :
    (splice a k seg).drop (k + seg.length) = a.drop (k + seg.length) :=
  List.drop_left' (by rw [List.length_append, List.length_take]; omega)

/-- the digit that receives the carry of a row operation is still zero -/
theorem getD_above_splice (B : Nat) (t seg : List Nat) (k m : Nat) (hm : k + seg.length = m)
    (h : m ≤ t.length) (hv : val B t < B ^ m) : (splice t k seg).getD m 0 = 0 := by
  have h1 := val_drop_succ B m (splice t k seg)
  subst hm
  rw [drop_splice t seg k h, val_drop_eq_zero B t _ hv] at h1
  omega

/-- so setting it to the carry `c` adds `c * B ^ m` -/
theorem val_set_above_splice (B : Nat) (t seg : List Nat) (k m c : Nat) (hm : k + seg.length = m)
    (h : m < t.length) (hv : val B t < B ^ m) :
    val B ((splice t k seg).set m c) = val B (splice t k seg) + c * B ^ m := by
  have hs := val_set B (splice t k seg) m c (by rw [length_splice t seg k (by omega)]; exact h)
  rwa [getD_above_splice B t seg k m hm (Nat.le_of_lt h) hv, Nat.zero_mul, Nat.add_zero] at hs

/-- overwriting the window of `seg.length` digits at `k` and then the whole tail above it -/
theorem val_splice2 (B : Nat) (a seg seg2 : List Nat) (k : Nat) (h1 : k + seg.length ≤ a.length)
    (h2 : seg2.length = a.length - (seg.length + k)) :
    val B (splice (splice a k seg) (seg.length + k) seg2)
      + B ^ k * (val B ((a.drop k).take seg.length)
        + B ^ seg.length * val B ((splice a k seg).drop (seg.length + k)))
      = val B a + B ^ k * (val B seg + B ^ seg.length * val B seg2) := by
  have v1 := val_splice B a seg k h1
  have l1 := length_splice a seg k h1
  have v2 := val_splice B (splice a k seg) seg2 (seg.length + k) (by omega)
  rw [h2, ← l1, ← List.length_drop, List.take_length, Nat.pow_add, Nat.mul_comm (B ^ seg.length),
    Nat.mul_assoc, Nat.mul_assoc] at v2
  simp only [Nat.mul_add]
  omega

end Relic.Model
