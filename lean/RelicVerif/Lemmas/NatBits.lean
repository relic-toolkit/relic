/-
Bits of a natural number, from core Lean alone so that every module can import them.
Bit length: the model and the specifications define `bitLen` (also `bitLenNat`, `bitsDig`) a dozen times with the one body `bl`;
each of them unfolds to `bl`, so the lemmas here apply to all of them as they stand.  `bl_le_iff` is the characterisation.
Xor: the low s + w bits of a number are its low s bits and the next w bits (`mod_two_pow_add`), and a map that is additive for xor is
determined by its values on the powers of two (`additive_ext`).  For bytes, masking distributes over xor (`xor_and`).
-/

namespace Relic.Lemmas.NatBits

abbrev bl (n : Nat) : Nat := if n = 0 then 0 else Nat.log2 n + 1

theorem bl_le_iff (a n : Nat) : bl a ≤ n ↔ a < 2 ^ n := by
  unfold bl
  split
  · next h => subst h; simp [Nat.two_pow_pos]
  · next h => rw [Nat.succ_le_iff, Nat.log2_lt h]

theorem lt_two_pow_bl (a : Nat) : a < 2 ^ bl a := (bl_le_iff a _).1 (Nat.le_refl _)

theorem bl_pos {a : Nat} (h : a ≠ 0) : 0 < bl a := by
  unfold bl; rw [if_neg h]; exact Nat.succ_pos _

theorem two_pow_pred_bl_le {a : Nat} (h : a ≠ 0) : 2 ^ (bl a - 1) ≤ a := by
  unfold bl; rw [if_neg h]; exact Nat.log2_self_le h

theorem bl_eq_of_bounds {n b : Nat} (h1 : 2 ^ b ≤ n) (h2 : n < 2 ^ (b + 1)) : bl n = b + 1 := by
  have hn : n ≠ 0 := by have := Nat.two_pow_pos b; omega
  unfold bl; rw [if_neg hn, (Nat.log2_eq_iff hn).2 ⟨h1, h2⟩]

theorem mod_two_pow_add (a s w : Nat) :
    a % 2 ^ (s + w) = a % 2 ^ s ^^^ (((a >>> s) % 2 ^ w) <<< s) := by
  apply Nat.eq_of_testBit_eq; intro i
  simp only [Nat.testBit_xor, Nat.testBit_mod_two_pow, Nat.testBit_shiftLeft, Nat.testBit_shiftRight]
  by_cases h : i < s
  · simp [h, Nat.lt_add_right w h, Nat.not_le.2 h]
  · simp [h, Nat.le_of_not_lt h, show s + (i - s) = i by omega, show i - s < w ↔ i < s + w by omega]

theorem mod_two_pow_succ (a k : Nat) : a % 2 ^ (k + 1) = a % 2 ^ k ^^^ (if a.testBit k then 2 ^ k else 0) := by
  rw [mod_two_pow_add a k 1, Nat.shiftRight_eq_div_pow, Nat.pow_one, ← Nat.toNat_testBit]
  cases a.testBit k <;> simp [Nat.one_shiftLeft]

theorem additive_ext (g h : Nat → Nat) (g0 : g 0 = 0) (h0 : h 0 = 0) (gx : ∀ x y, g (x ^^^ y) = g x ^^^ g y)
    (hx : ∀ x y, h (x ^^^ y) = h x ^^^ h y) (n : Nat) (hb : ∀ i, i < n → g (2 ^ i) = h (2 ^ i)) (a : Nat)
    (ha : a < 2 ^ n) : g a = h a := by
  have key : ∀ k, k ≤ n → g (a % 2 ^ k) = h (a % 2 ^ k) := by
    intro k
    induction k with
    | zero => intro _; rw [Nat.pow_zero, Nat.mod_one, g0, h0]
    | succ k ih =>
      intro hk
      rw [mod_two_pow_succ, gx, hx, ih (Nat.le_of_succ_le hk)]
      split
      · rw [hb k hk]
      · rw [g0, h0]
  have := key n (Nat.le_refl n)
  rwa [Nat.mod_eq_of_lt ha] at this

theorem xor_and (u v m : UInt8) : (u ^^^ v) &&& m = (u &&& m) ^^^ (v &&& m) := by
  rw [← UInt8.toNat_inj]
  simp only [UInt8.toNat_and, UInt8.toNat_xor, Nat.and_xor_distrib_right]

end Relic.Lemmas.NatBits
