/-
Euler's criterion (Mathlib: legendreSym.eq_pow) on canonical residues, the form in which bn_smb_leg and the Solovay–Strassen round
of bn_is_prime_solov meet it: a^((p−1)/2) mod p is 0, 1 or p − 1 according to the Legendre symbol.
-/
import RelicVerif.Lemmas.NtMxp
import Mathlib.NumberTheory.LegendreSymbol.Basic

namespace Relic.Model.NtMxp

theorem pow_half_emod (p : Nat) [Fact p.Prime] (a : Int) : a ^ (p / 2) % (p : Int) = legendreSym p a % p :=
  (ZMod.intCast_eq_intCast_iff _ _ _).1 (by rw [legendreSym.eq_pow, Int.cast_pow])

theorem neg_one_emod {n : Int} (hn : 1 < n) : -1 % n = n - 1 := by
  rw [← Int.add_emod_right, Int.emod_eq_of_lt (by omega) (by omega), neg_add_eq_sub]

theorem legendreSym_cases (p : Nat) [Fact p.Prime] (a : Int) : legendreSym p a = 0 ∨ legendreSym p a = 1 ∨ legendreSym p a = -1 := by
  by_cases h : (a : ZMod p) = 0
  · exact Or.inl ((legendreSym.eq_zero_iff p a).2 h)
  · exact Or.inr (legendreSym.eq_one_or_neg_one p h)

end Relic.Model.NtMxp
