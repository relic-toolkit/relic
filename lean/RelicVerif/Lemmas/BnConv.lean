/-
Integer encodings (Model/BnConv.lean): binary and text conversion round-trip, are canonical, and
decoding yields a valid object whose re-encoding reproduces the input.
-/
import RelicVerif.Model.BnConv
import RelicVerif.Lemmas.BnHighMul
import RelicVerif.Lemmas.Codec
import RelicVerif.Lemmas.Loops

namespace Relic.Model
open Relic.Lemmas (Ret)

/-- big-endian value of a byte string -/
def os2n (b : List UInt8) : Nat := b.foldl (fun acc x => acc * 256 + x.toNat) 0

/-- positional value of a digit list, most significant first -/
def posVal (radix : Nat) (ds : List Nat) : Nat := ds.foldl (fun acc d => acc * radix + d) 0

namespace Conv

theorem toNat_lt (l : List UInt8) : ∀ d ∈ l.map (·.toNat), d < 256 := by
  intro d hd
  obtain ⟨x, _, rfl⟩ := List.mem_map.1 hd
  exact x.toNat_lt

-- `os2n` is `Codec.val`: same body
theorem os2n_snoc (l : List UInt8) (x : UInt8) : os2n (l ++ [x]) = os2n l * 256 + x.toNat :=
  Relic.Lemmas.Codec.val_snoc l x

theorem posVal_snoc (r : Nat) (l : List Nat) (x : Nat) : posVal r (l ++ [x]) = posVal r l * r + x := by
  simp [posVal, List.foldl_append]

theorem posVal_reverse (r : Nat) : ∀ l, posVal r l.reverse = val r l
  | [] => rfl
  | x :: l => by
    rw [List.reverse_cons, posVal_snoc, posVal_reverse r l, val, Nat.mul_comm, Nat.add_comm]

theorem os2n_eq_posVal (b : List UInt8) : os2n b = posVal 256 (b.map (·.toNat)) := by
  rw [os2n, posVal, List.foldl_map]

theorem os2n_eq (b : List UInt8) : os2n b = val 256 (b.reverse.map (·.toNat)) := by
  rw [os2n_eq_posVal, ← posVal_reverse, List.map_reverse, List.reverse_reverse]

theorem os2n_lt (b : List UInt8) : os2n b < 256 ^ b.length := Relic.Lemmas.Codec.val_lt b

theorem val_digits (b n : Nat) : ∀ k, val b ((List.range k).map fun j => n / b ^ j % b) = n % b ^ k
  | 0 => by simp [val, Nat.mod_one]
  | k+1 => by
    rw [List.range_succ, List.map_append, List.map_singleton, High.val_snoc, val_digits b n k,
      List.length_map, List.length_range, Nat.mod_pow_succ]

theorem val_flatMap (b k : Nat) (f : Nat → List Nat) : ∀ l : List Nat, (∀ d ∈ l, (f d).length = k) →
    val b (l.flatMap f) = val (b ^ k) (l.map fun d => val b (f d))
  | [], _ => rfl
  | x :: l, h => by
    rw [List.flatMap_cons, val_append, val_flatMap b k f l (fun d hd => h d (by simp [hd])), h x (by simp)]
    rfl

theorem strDigits_length_le_iff {r : Nat} (hr : 1 < r) : ∀ fuel n k, n < r ^ fuel →
    ((strDigits r fuel n).length ≤ k ↔ n < r ^ k)
  | 0, n, k, h => by
    have : n = 0 := by simpa using h
    simp [strDigits, this, Nat.pow_pos (Nat.zero_lt_of_lt hr)]
  | fuel + 1, n, k, h => by
    unfold strDigits
    split
    · simp [*, Nat.pow_pos (Nat.zero_lt_of_lt hr)]
    · cases k with
      | zero => simp; omega
      | succ k =>
        rw [List.length_cons, Nat.add_le_add_iff_right, Nat.pow_succ, ← Nat.div_lt_iff_lt_mul (by omega)]
        exact strDigits_length_le_iff hr fuel (n / r) k ((Nat.div_lt_iff_lt_mul (by omega)).2 h)

/-- the fuel bn_write_str gives that loop suffices -/
theorem lt_pow_self_succ {r : Nat} (hr : 1 < r) (n : Nat) : n < r ^ (n + 1) :=
  Nat.lt_of_lt_of_le (Nat.lt_pow_self hr) (Nat.pow_le_pow_right (by omega) (by omega))

theorem bytesOfDig_eq : ∀ fuel d, bytesOfDig fuel d = (strDigits 256 fuel d).length
  | 0, _ => rfl
  | fuel + 1, d => by
    unfold bytesOfDig strDigits
    split
    · rfl
    · rw [bytesOfDig_eq fuel, List.length_cons, Nat.add_comm]

theorem bytesOfDig_le_iff (fuel d n : Nat) (h : d < 256 ^ fuel) : bytesOfDig fuel d ≤ n ↔ d < 256 ^ n := by
  rw [bytesOfDig_eq]
  exact strDigits_length_le_iff (by omega) fuel d n h

variable (cfg : Cfg)

theorem B_eq_256 (h8 : 8 ∣ cfg.w) : cfg.B = 256 ^ (cfg.w / 8) := by
  obtain ⟨k, hk⟩ := h8
  rw [Cfg.B, hk, Nat.mul_div_cancel_left _ (by omega), Nat.pow_mul]

theorem pow_bytes (h8 : 8 ∣ cfg.w) (n : Nat) : 256 ^ (n * (cfg.w / 8)) = cfg.B ^ n := by
  rw [Nat.mul_comm, Nat.pow_mul, ← B_eq_256 cfg h8]

/-- the little-endian bytes bn_write_bin produces before padding -/
def leBytes (w : Nat) (a : Bn) : List UInt8 :=
  ((a.dp.take (a.used - 1)).flatMap fun d => (List.range (w / 8)).map fun j => UInt8.ofNat ((d / 256 ^ j) % 256)) ++
  (List.range (bytesOfDig (w / 8 + 1) (a.dp.getLast?.getD 0))).map fun j =>
    UInt8.ofNat (((a.dp.getLast?.getD 0) / 256 ^ j) % 256)

theorem bnWriteBin_eq (w len : Nat) (a : Bn) : bnWriteBin w len a =
    if len < bnSizeBin w a then none
    else some ((leBytes w a ++ List.replicate (len - (leBytes w a).length) 0).reverse) := rfl


theorem leBytes_length (w : Nat) (a : Bn) : (leBytes w a).length = bnSizeBin w a := by
  unfold leBytes bnSizeBin
  rw [List.length_append, Lemmas.Loops.length_flatMap_const (w / 8) _ _ (by intro d _; simp)]
  simp [Bn.used]

theorem writeBin_length {w len : Nat} {a : Bn} (b : List UInt8) (h : bnWriteBin w len a = some b) : b.length = len := by
  revert b
  rw [bnWriteBin_eq]
  refine Ret.guard fun hlen => .ok ?_
  simp only [List.length_reverse, List.length_append, List.length_replicate, leBytes_length]
  omega

theorem val_digitBytes (d k : Nat) :
    val 256 (((List.range k).map fun j => UInt8.ofNat (d / 256 ^ j % 256)).map (·.toNat)) = d % 256 ^ k := by
  rw [← val_digits 256 d k, List.map_map]
  congr 1
  apply List.map_congr_left
  intro j _
  simp [UInt8.toNat_ofNat']

theorem leBytes_val (h8 : 8 ∣ cfg.w) (a : Bn) (ha : a.WF cfg.B) :
    val 256 ((leBytes cfg.w a).map (·.toNat)) = val cfg.B a.dp := by
  obtain ⟨init, top, hdp, hd, _⟩ := ha.snoc
  have hB := B_eq_256 cfg h8
  have htop : top < 256 ^ bytesOfDig (cfg.w / 8 + 1) top :=
    (bytesOfDig_le_iff _ top _ (by rw [Nat.pow_succ, ← hB]; have := hd top (by simp); omega)).1 (Nat.le_refl _)
  unfold leBytes Bn.used
  rw [hdp]
  simp only [List.length_append, List.length_cons, List.length_nil, Nat.add_sub_cancel,
    List.getLast?_append, List.getLast?_singleton, Option.some_or, Option.getD_some,
    List.take_left', List.map_append, List.map_flatMap]
  rw [val_append, High.val_snoc, Lemmas.Loops.length_flatMap_const (cfg.w / 8) _ _ (by intro d _; simp),
    val_flatMap 256 (cfg.w / 8) _ _ (by intro d _; simp), val_digitBytes, Nat.mod_eq_of_lt htop, ← hB,
    pow_bytes cfg h8]
  congr 2
  conv_rhs => rw [← List.map_id init]
  apply List.map_congr_left
  intro d hi
  rw [val_digitBytes, ← hB, Nat.mod_eq_of_lt (hd d (by simp [hi]))]; rfl

theorem bnSizeBin_le_iff (h8 : 8 ∣ cfg.w) (a : Bn) (ha : a.WF cfg.B) (n : Nat) :
    bnSizeBin cfg.w a ≤ n ↔ val cfg.B a.dp < 256 ^ n := by
  obtain ⟨init, top, hdp, hd, h0⟩ := ha.snoc
  rw [B_eq_256 cfg h8] at hd ⊢
  have := High.size_le_iff (by omega) (cfg.w / 8) (sz := bytesOfDig (cfg.w / 8 + 1))
    (fun d m h => bytesOfDig_le_iff _ d m (Nat.lt_trans h (Nat.pow_lt_pow_succ (by omega)))) init top n hd
  rw [hdp]
  unfold bnSizeBin Bn.used
  rw [hdp]
  simpa using ⟨this.1, this.2 h0⟩

theorem foldl_sum_eq_val (b : Nat) (f : Nat → Nat) : ∀ k,
    (List.range k).foldl (fun acc j => acc + f j * b ^ j) 0 = val b ((List.range k).map f)
  | 0 => rfl
  | k + 1 => by
    rw [List.range_succ, List.foldl_append, List.map_append, List.map_singleton, High.val_snoc,
      foldl_sum_eq_val b f k]
    simp [Nat.mul_comm]

theorem getD_toNat (l : List UInt8) (k : Nat) : (l.getD k 0).toNat = (l.map (·.toNat)).getD k 0 := by
  simp only [List.getD_eq_getElem?_getD, List.getElem?_map]
  cases l[k]? <;> rfl

/-- the number of digits bn_read_bin makes of `len` bytes -/
def binDigs (cfg : Cfg) (len : Nat) : Nat :=
  if len % (cfg.w / 8) = 0 then len / (cfg.w / 8) else len / (cfg.w / 8) + 1

/-- the digits bn_read_bin makes of a byte string: those of its big-endian value -/
def readDigs (cfg : Cfg) (b : List UInt8) : List Nat :=
  if binDigs cfg b.length = 0 then [0]
  else (List.range (binDigs cfg b.length)).map fun i => os2n b / cfg.B ^ i % cfg.B

theorem bnReadBin_eq (h8 : 8 ∣ cfg.w) (b : List UInt8) : bnReadBin cfg b =
    if binDigs cfg b.length > cfg.cap then none
    else some (bnTrim { neg := false, dp := readDigs cfg b }) := by
  have hB := B_eq_256 cfg h8
  unfold bnReadBin readDigs binDigs
  simp only
  congr 4
  congr 1
  apply List.map_congr_left
  intro i _
  have hf : ∀ j, (b.reverse.getD (i * (cfg.w / 8) + j) 0).toNat = (os2n b / cfg.B ^ i) / 256 ^ j % 256 := by
    intro j
    rw [getD_toNat, getD_digit 256 (by omega) _ (toNat_lt _), ← os2n_eq, Nat.pow_add, pow_bytes cfg h8,
      Nat.div_div_eq_div_mul]
  simp only [hf]
  rw [foldl_sum_eq_val 256 (fun j => os2n b / cfg.B ^ i / 256 ^ j % 256), val_digits, ← hB]

theorem binDigs_eq (hw : 0 < cfg.w) (h8 : 8 ∣ cfg.w) (len : Nat) :
    binDigs cfg len = (len + cfg.w / 8 - 1) / (cfg.w / 8) ∧ len ≤ cfg.w / 8 * binDigs cfg len := by
  have hd : 0 < cfg.w / 8 := Nat.div_pos (Nat.le_of_dvd hw h8) (by omega)
  unfold binDigs
  generalize cfg.w / 8 = d at *
  have h := Nat.div_add_mod len d
  have hr := Nat.mod_lt len hd
  rw [eq_comm, Nat.div_eq_iff hd]
  split
  · rw [Nat.mul_comm]; omega
  · rw [Nat.add_mul, Nat.mul_add, Nat.mul_comm]; omega

theorem readDigs_val (hw : 0 < cfg.w) (h8 : 8 ∣ cfg.w) (b : List UInt8) :
    (∀ d ∈ readDigs cfg b, d < cfg.B) ∧ val cfg.B (readDigs cfg b) = os2n b := by
  unfold readDigs
  have hBp : 0 < cfg.B := Nat.pow_pos (by omega)
  have hlt := os2n_lt b
  have hle : 256 ^ b.length ≤ cfg.B ^ binDigs cfg b.length := by
    rw [← pow_bytes cfg h8, Nat.mul_comm]
    exact Nat.pow_le_pow_right (by omega) (binDigs_eq cfg hw h8 b.length).2
  split
  · rename_i h0
    rw [h0, Nat.pow_zero] at hle
    refine ⟨by simpa using hBp, ?_⟩
    simp [val]; omega
  · refine ⟨?_, ?_⟩
    · intro d hd
      obtain ⟨i, _, rfl⟩ := List.mem_map.1 hd
      exact Nat.mod_lt _ hBp
    · rw [val_digits, Nat.mod_eq_of_lt (by omega)]

theorem WF_eq_of_toInt {B : Nat} (hB : 1 < B) {a b : Bn} (ha : a.WF B) (hb : b.WF B)
    (h : a.toInt B = b.toInt B) : a = b := by
  have hv : val B a.dp = val B b.dp := by rw [← toInt_natAbs, ← toInt_natAbs, h]
  have hl : a.dp.length = b.dp.length := by
    have h1 := Bn.WF.used_le_of_val_le hB ha hb (by omega)
    have h2 := Bn.WF.used_le_of_val_le hB hb ha (by omega)
    unfold Bn.used at *; omega
  have hdp := val_inj B (by omega) a.dp b.dp hl ha.dig hb.dig hv
  obtain ⟨an, adp⟩ := a
  obtain ⟨bn, bdp⟩ := b
  simp only at hdp hv
  subst hdp
  congr
  cases an <;> cases bn <;> try rfl
  · have := hb.neg_pos hB rfl
    simp [Bn.toInt] at h this; omega
  · have := ha.neg_pos hB rfl
    simp [Bn.toInt] at h this; omega

theorem bytes_inj (b1 b2 : List UInt8) (hl : b1.length = b2.length) (h : os2n b1 = os2n b2) : b1 = b2 :=
  Relic.Lemmas.Codec.val_inj hl h

theorem strDigits_spec (r : Nat) (hr : 2 ≤ r) : ∀ fuel n, n < fuel →
    val r (strDigits r fuel n) = n ∧ (∀ d ∈ strDigits r fuel n, d < r) ∧
    (strDigits r fuel n).getLast? ≠ some 0 ∧ (n ≠ 0 → strDigits r fuel n ≠ [])
  | 0, n, h => by omega
  | fuel + 1, n, h => by
    unfold strDigits
    by_cases hn : n = 0
    · simp [hn, val]
    · rw [if_neg hn]
      have hlt : n / r < fuel := by
        have := Nat.div_lt_self (Nat.pos_of_ne_zero hn) (show 1 < r by omega)
        omega
      obtain ⟨h1, h2, h3, h4⟩ := strDigits_spec r hr fuel (n / r) hlt
      refine ⟨?_, ?_, ?_, fun _ => by simp⟩
      · rw [val, h1]; exact Nat.mod_add_div n r
      · intro d hd
        rcases List.mem_cons.1 hd with rfl | hd
        · exact Nat.mod_lt _ (by omega)
        · exact h2 d hd
      · match hds : strDigits r fuel (n / r) with
        | [] =>
          have hq : n / r = 0 := by
            by_contra hq; exact h4 hq hds
          have : n < r := by
            rcases (Nat.div_eq_zero_iff).1 hq with h | h <;> omega
          simp [Nat.mod_eq_of_lt this, hn]
        | y :: ys =>
          rw [List.getLast?_cons_cons, ← hds]; exact h3

theorem toInt_neg_iff {B : Nat} (hB : 1 < B) {a : Bn} (ha : a.WF B) : a.toInt B < 0 ↔ a.neg = true := by
  cases hn : a.neg
  · rw [toInt_of_pos hn]; simp
  · rw [toInt_of_neg hn]
    have := ha.neg_pos hB hn
    simp; omega

theorem bnWriteStr_ok (a : Bn) (radix len : Nat) (s : String) (h : bnWriteStr cfg len a radix = .ok s) :
    ∃ l, bnSizeStr cfg a radix = some l ∧ l ≤ len ∧
      s = if bnIsZero a then "0" else
        String.ofList ((if a.neg then ['-'] else []) ++
          (strDigits radix (val cfg.B a.dp + 1) (val cfg.B a.dp)).reverse.map convChar) := by
  unfold bnWriteStr at h
  split at h
  · exact absurd h (by simp)
  rename_i l hl
  refine ⟨l, hl, ?_⟩
  split at h
  · exact absurd h (by simp)
  rename_i hlen
  refine ⟨by omega, ?_⟩
  split at h
  · rename_i hz
    simp only [Except.ok.injEq] at h
    rw [if_pos hz, h]
  · rename_i hz
    simp only [Except.ok.injEq] at h
    rw [if_neg hz, ← h]

/-- the digit list written by bn_write_str -/
def writtenDigits (cfg : Cfg) (a : Bn) (radix : Nat) : List Nat :=
  if bnIsZero a then [0] else (strDigits radix (val cfg.B a.dp + 1) (val cfg.B a.dp)).reverse

theorem neg_of_isZero (hw : 0 < cfg.w) {a : Bn} (ha : a.WF cfg.B) (hz : bnIsZero a = true) : a.neg = false :=
  ha.2.2.2 ((ha.val_eq_zero_iff (cfg.one_lt_B hw)).1 ((ha.isZero_iff (cfg.one_lt_B hw)).1 hz))

theorem writeStr_toList (hw : 0 < cfg.w) (a : Bn) (ha : a.WF cfg.B) (radix len : Nat) (s : String)
    (h : bnWriteStr cfg len a radix = .ok s) :
    s.toList = (if a.neg then ['-'] else []) ++ (writtenDigits cfg a radix).map convChar := by
  obtain ⟨l, _, _, hs⟩ := bnWriteStr_ok cfg a radix len s h
  unfold writtenDigits
  by_cases hz : bnIsZero a = true
  · rw [if_pos hz] at hs ⊢
    rw [hs, neg_of_isZero cfg hw ha hz]; rfl
  · rw [if_neg hz] at hs ⊢
    rw [hs, String.toList_ofList]

theorem writtenDigits_spec (hw : 0 < cfg.w) (a : Bn) (ha : a.WF cfg.B) (radix : Nat) (hr : 2 ≤ radix) :
    (∀ d ∈ writtenDigits cfg a radix, d < radix) ∧ ((writtenDigits cfg a radix).head? ≠ some 0 ∨ writtenDigits cfg a radix = [0]) ∧
    writtenDigits cfg a radix ≠ [] ∧ posVal radix (writtenDigits cfg a radix) = val cfg.B a.dp := by
  have hB := cfg.one_lt_B hw
  unfold writtenDigits
  by_cases hz : bnIsZero a = true
  · rw [if_pos hz]
    have hv := (ha.isZero_iff hB).1 hz
    refine ⟨by intro d hd; simp at hd; omega, Or.inr rfl, by simp, ?_⟩
    rw [hv]; simp [posVal]
  · rw [if_neg hz]
    have hv : val cfg.B a.dp ≠ 0 := fun h => hz ((ha.isZero_iff hB).2 h)
    obtain ⟨h1, h2, h3, h4⟩ := strDigits_spec radix hr (val cfg.B a.dp + 1) (val cfg.B a.dp) (by omega)
    refine ⟨?_, Or.inl ?_, ?_, ?_⟩
    · intro d hd; exact h2 d (List.mem_reverse.1 hd)
    · rw [List.head?_reverse]; exact h3
    · simpa using h4 hv
    · rw [posVal_reverse, h1]


theorem charVal_convChar : ∀ i < 64, charVal (convChar i) = some i := by decide +kernel
theorem toUpper_convChar : ∀ i < 36, (convChar i).toUpper = convChar i := by decide +kernel
theorem convChar_ne_minus : ∀ i < 64, convChar i ≠ '-' := by decide +kernel

theorem go_none (radix : Nat) : ∀ cs, bnReadStr.go cfg radix cs none = none
  | [] => rfl
  | c :: cs => by
    rw [bnReadStr.go]
    simp only
    cases charVal (if radix < 36 then c.toUpper else c) with
    | none => rfl
    | some i => simp only []; split <;> rfl

theorem go_cons (radix : Nat) (hr : radix ≤ 64) (d : Nat) (hd : d < radix) (cs : List Char) (acc : Bn) :
    bnReadStr.go cfg radix (convChar d :: cs) (some acc) =
      (bnMulDig cfg acc radix).bind fun m => bnReadStr.go cfg radix cs (bnAddDig cfg m d) := by
  have hc : (if radix < 36 then (convChar d).toUpper else convChar d) = convChar d := by
    split
    · exact toUpper_convChar d (by omega)
    · rfl
  rw [bnReadStr.go]
  simp only [hc, charVal_convChar d (by omega), if_pos hd]
  cases bnMulDig cfg acc radix <;> rfl

theorem go_spec (hw : 0 < cfg.w) (radix : Nat) (hr : radix ≤ 64) (hrB : radix < cfg.B) :
    ∀ (ds : List Nat), (∀ d ∈ ds, d < radix) → ∀ (acc : Option Bn) (v : Nat), ExactR cfg.B acc v →
      ExactR cfg.B (bnReadStr.go cfg radix (ds.map convChar) acc)
        ((ds.foldl (fun acc d => acc * radix + d) v : Nat) : Int)
  | [], _, _, _, hacc => hacc
  | _ :: _, _, none, _, _ => by rw [go_none]; exact .fail
  | d :: ds, hds, some acc, v, hacc => by
    obtain ⟨wa, va⟩ := hacc acc rfl
    rw [List.map_cons, go_cons cfg radix hr d (hds d (by simp))]
    refine Ret.bind (bnMulDig_exact cfg hw acc radix wa hrB).ret fun m ⟨wm, vm⟩ => ?_
    refine go_spec hw radix hr hrB ds (fun x hx => hds x (by simp [hx])) _ (v * radix + d)
      ((bnAddDig_exact cfg hw m d wm (Nat.lt_trans (hds d (by simp)) hrB)).of_eq ?_)
    rw [vm, va]; push_cast; rfl


end Conv

variable (cfg : Cfg)

theorem bnWriteBin_spec (h8 : 8 ∣ cfg.w) (a : Bn) (ha : a.WF cfg.B) (len : Nat) (b : List UInt8)
    (h : bnWriteBin cfg.w len a = some b) :
    b.length = len ∧ os2n b = (a.toInt cfg.B).natAbs := by
  refine ⟨Conv.writeBin_length b h, ?_⟩
  revert b
  rw [Conv.bnWriteBin_eq]
  refine Ret.guard fun _ => .ok ?_
  rw [Conv.os2n_eq, List.reverse_reverse, List.map_append, val_append, List.map_replicate, toInt_natAbs,
    Conv.leBytes_val cfg h8 a ha]
  simp [val_replicate_zero]

theorem bnSizeBin_spec (h8 : 8 ∣ cfg.w) (a : Bn) (ha : a.WF cfg.B) :
    (a.toInt cfg.B).natAbs < 256 ^ bnSizeBin cfg.w a ∧
    (bnSizeBin cfg.w a ≠ 0 → 256 ^ (bnSizeBin cfg.w a - 1) ≤ (a.toInt cfg.B).natAbs) := by
  rw [toInt_natAbs]
  refine ⟨(Conv.bnSizeBin_le_iff cfg h8 a ha _).1 (Nat.le_refl _), fun hne => Nat.le_of_not_lt fun h => ?_⟩
  have := (Conv.bnSizeBin_le_iff cfg h8 a ha _).2 h
  omega

theorem bnWriteBin_error_iff (a : Bn) (len : Nat) :
    bnWriteBin cfg.w len a = none ↔ len < bnSizeBin cfg.w a := by
  rw [Conv.bnWriteBin_eq]
  split <;> simp [*]

theorem bnReadBin_spec (hw : 0 < cfg.w) (h8 : 8 ∣ cfg.w) (b : List UInt8) (x : Bn) (h : bnReadBin cfg b = some x) :
    x.WF cfg.B ∧ x.toInt cfg.B = os2n b := by
  revert x
  rw [Conv.bnReadBin_eq cfg h8]
  obtain ⟨hd, hv⟩ := Conv.readDigs_val cfg hw h8 b
  have := bnTrim_exact (B := cfg.B) (Nat.pow_pos (by omega)) false _ hd
  exact Ret.guard fun _ => .ok ⟨this.1, by rw [this.2, hv]; simp⟩

theorem bnReadBin_error_iff (hw : 0 < cfg.w) (h8 : 8 ∣ cfg.w) (b : List UInt8) :
    bnReadBin cfg b = none ↔ cfg.cap < (b.length + cfg.w / 8 - 1) / (cfg.w / 8) := by
  rw [Conv.bnReadBin_eq cfg h8, ← (Conv.binDigs_eq cfg hw h8 b.length).1]
  split <;> simp [*]

theorem bnWriteBin_readBin (hw : 0 < cfg.w) (h8 : 8 ∣ cfg.w) (b : List UInt8) (x : Bn) (h : bnReadBin cfg b = some x) :
    bnWriteBin cfg.w b.length x = some b := by
  obtain ⟨hxw, hxv⟩ := bnReadBin_spec cfg hw h8 b x h
  have hna : (x.toInt cfg.B).natAbs = os2n b := by rw [hxv]; rfl
  have hle : bnSizeBin cfg.w x ≤ b.length := by
    rw [Conv.bnSizeBin_le_iff cfg h8 x hxw, ← toInt_natAbs, hna]
    exact Conv.os2n_lt b
  cases hwr : bnWriteBin cfg.w b.length x with
  | none => rw [bnWriteBin_error_iff] at hwr; omega
  | some b' =>
    obtain ⟨hl, hv⟩ := bnWriteBin_spec cfg h8 x hxw b.length b' hwr
    rw [Conv.bytes_inj b' b hl (by rw [hv, hna])]

theorem bnWriteStr_spec (hw : 0 < cfg.w) (a : Bn) (ha : a.WF cfg.B) (radix len : Nat) (hr : 2 ≤ radix ∧ radix ≤ 64)
    (s : String) (h : bnWriteStr cfg len a radix = .ok s) :
    ∃ ds : List Nat, (∀ d ∈ ds, d < radix) ∧ (ds.head? ≠ some 0 ∨ ds = [0]) ∧ ds ≠ [] ∧
      posVal radix ds = (a.toInt cfg.B).natAbs ∧
      s.toList = (if a.toInt cfg.B < 0 then ['-'] else []) ++ ds.map convChar := by
  have hB := cfg.one_lt_B hw
  obtain ⟨h1, h2, h3, h4⟩ := Conv.writtenDigits_spec cfg hw a ha radix hr.1
  refine ⟨Conv.writtenDigits cfg a radix, h1, h2, h3, ?_, ?_⟩
  · rw [h4, toInt_natAbs]
  · rw [Conv.writeStr_toList cfg hw a ha radix len s h]
    simp only [Conv.toInt_neg_iff hB ha]

theorem bnSizeStr_spec (hw : 0 < cfg.w) (a : Bn) (ha : a.WF cfg.B) (radix len : Nat) (hr : 2 ≤ radix ∧ radix ≤ 64)
    (s : String) (h : bnWriteStr cfg len a radix = .ok s) :
    bnSizeStr cfg a radix = some (s.toList.length + 1) := by
  have hB := cfg.one_lt_B hw
  rw [Conv.writeStr_toList cfg hw a ha radix len s h]
  unfold bnSizeStr Conv.writtenDigits
  rw [if_neg (by omega)]
  by_cases hz : bnIsZero a = true
  · rw [if_pos hz, if_pos hz]
    simp [Conv.neg_of_isZero cfg hw ha hz]
  · rw [if_neg hz, if_neg hz]
    by_cases h2 : radix = 2
    · subst h2
      -- bn_bits and the digit loop in radix 2 are both the least n with |a| < 2^n
      have hlen := fun k => Conv.strDigits_length_le_iff (r := 2) (by omega) _ _ k
        (Conv.lt_pow_self_succ (by omega) (val cfg.B a.dp))
      have : bnBitsW cfg.w a = (strDigits 2 (val cfg.B a.dp + 1) (val cfg.B a.dp)).length :=
        Nat.le_antisymm ((bnBitsW_le_iff cfg hw a ha _).2 ((hlen _).1 (Nat.le_refl _)))
          ((hlen _).2 ((bnBitsW_le_iff cfg hw a ha _).1 (Nat.le_refl _)))
      rw [if_pos rfl, this]
      simp only [List.length_append, List.length_map, List.length_reverse]
      cases a.neg <;> simp
      omega
    · rw [if_neg h2]
      simp only [List.length_append, List.length_map, List.length_reverse]
      cases a.neg <;> simp

/-- without `radix < cfg.B` reading back fails: with one-bit digits (B = 2) the value 5 = [1,0,1] is written as "5" in
    radix 10, but the reader, which feeds the radix and the digit values to bn_mul_dig / bn_add_dig as single digits
    (they must be < B), returns 3 -/
example : Bn.WF (Cfg.B { w := 1, cap := 100 }) { neg := false, dp := [1, 0, 1] } ∧
    (bnWriteStr { w := 1, cap := 100 } 100 { neg := false, dp := [1, 0, 1] } 10).toOption = some "5" ∧
    bnReadStr { w := 1, cap := 100 } "5" 10 = some { neg := false, dp := [1, 1] } := by decide

/-- `hrB : radix < cfg.B` is needed: the reader passes the radix to bn_mul_dig and the digit values to bn_add_dig as single
    digits; for w = 1, radix = 10 (the example above) the statement is false without it. Every real configuration
    (w ∈ {8, 16, 32, 64}, radix ≤ 64 < 2^w) satisfies it. The statement is about a successful read: the reader's length-based
    capacity bound may refuse the string. -/
theorem bnReadStr_writeStr (hw : 0 < cfg.w) (a : Bn) (ha : a.WF cfg.B) (radix len : Nat) (hr : 2 ≤ radix ∧ radix ≤ 64)
    (hrB : radix < cfg.B)
    (s : String) (h : bnWriteStr cfg len a radix = .ok s) (x : Bn) (hx : bnReadStr cfg s radix = some x) :
    x = a := by
  have hB := cfg.one_lt_B hw
  have hs := Conv.writeStr_toList cfg hw a ha radix len s h
  obtain ⟨h1, h2, h3, h4⟩ := Conv.writtenDigits_spec cfg hw a ha radix hr.1
  unfold bnReadStr at hx
  rw [if_neg (by omega)] at hx
  simp only at hx
  split at hx
  · exact absurd hx (by simp)
  have hhead : (s.toList.head? = some '-') ↔ a.neg = true := by
    rw [hs]
    cases hn : a.neg
    · simp only [Bool.false_eq_true, if_false, List.nil_append, iff_false]
      match hds : Conv.writtenDigits cfg a radix with
      | [] => exact absurd hds h3
      | d :: ds =>
        have hd : d < radix := h1 d (by rw [hds]; simp)
        simp only [List.map_cons, List.head?_cons, Option.some.injEq]
        exact Conv.convChar_ne_minus d (by omega)
    · simp
  have hbody : (if s.toList.head? = some '-' then List.drop 1 s.toList else s.toList) =
      (Conv.writtenDigits cfg a radix).map convChar := by
    simp only [hhead]
    rw [hs]
    cases a.neg <;> simp
  have hnegb : decide (s.toList.head? = some '-') = a.neg := by
    simp only [hhead]; cases a.neg <;> rfl
  rw [hbody, hnegb] at hx
  cases hg : bnReadStr.go cfg radix ((Conv.writtenDigits cfg a radix).map convChar) (some Bn.zero) with
  | none => rw [hg] at hx; exact absurd hx (by simp)
  | some acc =>
    rw [hg] at hx
    simp only [Option.some.injEq] at hx
    obtain ⟨haw, hav⟩ := Conv.go_spec cfg hw radix hr.2 hrB _ h1 (some Bn.zero) 0
      (.ok ⟨Bn.zero_WF (by omega), by simp [Bn.zero, Bn.toInt, val]⟩) acc hg
    change acc.toInt cfg.B = ((posVal radix (Conv.writtenDigits cfg a radix) : Nat) : Int) at hav
    rw [h4] at hav
    have ha' : Bn.WF cfg.B { neg := false, dp := a.dp } := ⟨ha.1, ha.2.1, ha.2.2.1, fun _ => rfl⟩
    have := Conv.WF_eq_of_toInt hB haw ha' (by rw [hav]; simp [Bn.toInt])
    rw [← hx, this]
    exact bnTrim_of_WF ha

end Relic.Model
