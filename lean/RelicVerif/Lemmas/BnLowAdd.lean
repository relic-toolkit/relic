/-
The value of a digit list (splitting, zero digits, one digit replaced, the digits determine the list, its parity), the
`List.getD` facts the digit loops use, and the carry/borrow chains: bn_addn_low, bn_add1_low, bn_subn_low, bn_sub1_low
compute ℕ addition and subtraction on digit vectors, for every base B > 1 and every length.
-/
import RelicVerif.Model.BnLow

namespace Relic.Model

theorem val_nil (B : Nat) : val B [] = 0 := rfl
theorem val_cons (B d : Nat) (ds : List Nat) : val B (d :: ds) = d + B * val B ds := rfl

theorem val_append (B : Nat) (a b : List Nat) : val B (a ++ b) = val B a + B ^ a.length * val B b := by
  induction a with
  | nil => simp [val]
  | cons x xs ih =>
    simp only [List.cons_append, val, ih, List.length_cons, Nat.pow_succ]
    rw [Nat.mul_add, Nat.mul_comm (B ^ xs.length) B, Nat.mul_assoc]
    omega

theorem High.val_snoc (B : Nat) (l : List Nat) (x : Nat) : val B (l ++ [x]) = val B l + B ^ l.length * x := by
  rw [val_append]; simp [val]

theorem val_lt (B : Nat) (a : List Nat) (h : ∀ d ∈ a, d < B) : val B a < B ^ a.length := by
  induction a with
  | nil => simp [val]
  | cons x xs ih =>
    have hx : x < B := h x (by simp)
    have := ih (fun d hd => h d (by simp [hd]))
    simp only [val, List.length_cons, Nat.pow_succ]
    calc x + B * val B xs < B + B * val B xs := by omega
      _ = B * (val B xs + 1) := by rw [Nat.mul_add]; omega
      _ ≤ B * B ^ xs.length := Nat.mul_le_mul_left _ this
      _ = B ^ xs.length * B := Nat.mul_comm _ _

theorem val_take_drop (B : Nat) (m : Nat) (a : List Nat) :
    val B a = val B (a.take m) + B ^ m * val B (a.drop m) := by
  have h := val_append B (a.take m) (a.drop m)
  rw [List.take_append_drop] at h
  rcases Nat.le_total m a.length with hm | hm
  · rw [h, List.length_take, Nat.min_eq_left hm]
  · rw [List.drop_eq_nil_of_le hm, List.take_of_length_le hm, val_nil, Nat.mul_zero, Nat.add_zero]

theorem val_replicate_zero (B n : Nat) : val B (List.replicate n 0) = 0 := by
  induction n with
  | zero => rfl
  | succ n ih => rw [List.replicate_succ, val_cons, ih]; rfl

theorem val_replicate_zero_append (B n : Nat) (l : List Nat) :
    val B (List.replicate n 0 ++ l) = B ^ n * val B l := by
  rw [val_append, val_replicate_zero, List.length_replicate, Nat.zero_add]

theorem val_set (B : Nat) (q : List Nat) (k v : Nat) (hk : k < q.length) :
    val B (q.set k v) + q.getD k 0 * B ^ k = val B q + v * B ^ k := by
  induction q generalizing k with
  | nil => simp at hk
  | cons x xs ih =>
    cases k with
    | zero =>
      simp only [List.set_cons_zero, val_cons, List.getD_cons_zero, Nat.pow_zero, Nat.mul_one]
      omega
    | succ k =>
      have h := congrArg (B * ·) (ih k (Nat.lt_of_succ_lt_succ hk))
      simp only [Nat.mul_add] at h
      rw [List.set_cons_succ, val_cons, val_cons, List.getD_cons_succ, Nat.pow_succ,
        Nat.mul_comm (B ^ k) B, Nat.mul_left_comm _ B, Nat.mul_left_comm v B]
      omega

theorem getD_digit (B : Nat) (hB : 0 < B) : ∀ (L : List Nat), (∀ d ∈ L, d < B) → ∀ k,
    L.getD k 0 = val B L / B ^ k % B
  | [], _, k => by simp [val]
  | x :: xs, h, 0 => by
    have := h x (by simp)
    simp [val, Nat.add_mul_mod_self_left, Nat.mod_eq_of_lt this]
  | x :: xs, h, k + 1 => by
    have hx := h x (by simp)
    rw [List.getD_cons_succ, getD_digit B hB xs (fun d hd => h d (by simp [hd])) k, val, Nat.pow_succ,
      Nat.mul_comm (B ^ k) B, ← Nat.div_div_eq_div_mul, Nat.add_mul_div_left _ _ hB, Nat.div_eq_of_lt hx,
      Nat.zero_add]

theorem val_inj (B : Nat) (hB : 0 < B) (l1 l2 : List Nat) (hl : l1.length = l2.length)
    (h1 : ∀ d ∈ l1, d < B) (h2 : ∀ d ∈ l2, d < B) (hv : val B l1 = val B l2) : l1 = l2 := by
  refine List.ext_getElem hl fun i hi1 hi2 => ?_
  have e := getD_digit B hB l1 h1 i
  rw [hv, ← getD_digit B hB l2 h2 i] at e
  simpa [List.getD_eq_getElem?_getD, hi1, hi2] using e

theorem all_zero_iff (B : Nat) (hB : 0 < B) : ∀ (a : List Nat), a.all (· == 0) = true ↔ val B a = 0
  | [] => by simp [val]
  | x :: xs => by
    have ih := all_zero_iff B hB xs
    simp only [List.all_cons, Bool.and_eq_true, beq_iff_eq, val, ih]
    constructor
    · rintro ⟨rfl, h⟩; rw [h]; simp
    · intro h
      have h1 : x = 0 := by omega
      have h2 : B * val B xs = 0 := by omega
      exact ⟨h1, (Nat.mul_eq_zero.1 h2).resolve_left (by omega)⟩

theorem val_mod_two (w : Nat) (hw : 0 < w) (a : List Nat) : val (2 ^ w) a % 2 = a.getD 0 0 % 2 := by
  cases a with
  | nil => simp [val]
  | cons x xs =>
    obtain ⟨k, rfl⟩ : ∃ k, w = k + 1 := ⟨w - 1, by omega⟩
    simp only [val, List.getD_cons_zero, Nat.pow_succ]
    rw [Nat.mul_comm (2 ^ k) 2, Nat.mul_assoc, Nat.add_mul_mod_self_left]

theorem getD_mul_le (B : Nat) : ∀ (l : List Nat) (i : Nat), B ^ i * l.getD i 0 ≤ val B l
  | [], i => by simp
  | x :: xs, 0 => by simp [val]
  | x :: xs, i + 1 => by
    have ih := getD_mul_le B xs i
    simp only [List.getD_cons_succ, val, Nat.pow_succ]
    have e1 : B ^ i * B * xs.getD i 0 = B * (B ^ i * xs.getD i 0) := by grind
    rw [e1]
    have := Nat.mul_le_mul_left B ih
    omega

theorem getD_lt (B : Nat) (hB : 0 < B) (a : List Nat) (h : ∀ d ∈ a, d < B) (i : Nat) :
    a.getD i 0 < B := by
  by_cases hi : i < a.length
  · rw [List.getD_eq_getElem?_getD, List.getElem?_eq_getElem hi]; exact h _ (List.getElem_mem _)
  · rw [List.getD_eq_getElem?_getD, List.getElem?_eq_none (by omega)]; exact hB

theorem getD_ge (a : List Nat) (i : Nat) (hi : a.length ≤ i) : a.getD i 0 = 0 := by
  rw [List.getD_eq_getElem?_getD, List.getElem?_eq_none hi]; rfl

theorem getD_mid (l : List Nat) (x : Nat) (rest : List Nat) (n : Nat) (h : l.length = n) :
    (l ++ x :: rest).getD n 0 = x := by
  subst h
  simp [List.getD_eq_getElem?_getD]

theorem set_mid (l : List Nat) (x v : Nat) (rest : List Nat) (n : Nat) (h : l.length = n) :
    (l ++ x :: rest).set n v = (l ++ [v]) ++ rest := by
  subst h
  simp

theorem getD_eq (a : List Nat) (i : Nat) (h : i < a.length) : a.getD i 0 = a[i] := by
  simp [List.getD_eq_getElem?_getD, h]

theorem getD_append_lt (l l' : List Nat) (i : Nat) (h : i < l.length) :
    (l ++ l').getD i 0 = l.getD i 0 := by
  simp [List.getD_eq_getElem?_getD, List.getElem?_append_left h]

theorem step_add {B r V co P X c' x c : Nat} (h1 : V + co * P = X + c')
    (h2 : r + c' * B = x + c) : r + B * V + co * (P * B) = x + B * X + c := by
  grind

theorem step_sub {B r V co P X Y c' x y c : Nat} (h1 : V + Y + c' = X + co * P)
    (h2 : r + y + c = x + c' * B) :
    r + B * V + (y + B * Y) + c = x + B * X + co * (P * B) := by
  grind

theorem digs_cons {B x : Nat} {xs : List Nat} (hx : x < B) (h : ∀ d ∈ xs, d < B) :
    ∀ d ∈ x :: xs, d < B := by
  intro d hd
  simp at hd
  rcases hd with rfl | hd
  · exact hx
  · exact h d hd

theorem digs_take {B : Nat} {a : List Nat} (h : ∀ d ∈ a, d < B) (m : Nat) : ∀ d ∈ a.take m, d < B :=
  fun d hd => h d (List.mem_of_mem_take hd)

theorem digs_drop {B : Nat} {a : List Nat} (h : ∀ d ∈ a, d < B) (m : Nat) : ∀ d ∈ a.drop m, d < B :=
  fun d hd => h d (List.mem_of_mem_drop hd)

theorem digs_append {B : Nat} {a b : List Nat} (ha : ∀ d ∈ a, d < B) (hb : ∀ d ∈ b, d < B) :
    ∀ d ∈ a ++ b, d < B :=
  fun d hd => (List.mem_append.mp hd).elim (ha d) (hb d)

theorem mod_sub_once (x p : Nat) (h1 : p ≤ x) (h2 : x < 2 * p) : x % p = x - p := by
  rw [Nat.mod_eq_sub_mod h1, Nat.mod_eq_of_lt (by omega)]

/-- the C overflow test is `sum < left operand` -/
theorem add_carry_l (B u v : Nat) (hu : u < B) (hv : v < B) :
    ∃ s k, (u + v) % B = s ∧ (if s < u then 1 else 0) = k ∧ s < B ∧ k ≤ 1 ∧ u + v = s + k * B := by
  by_cases h : u + v < B
  · exact ⟨u + v, 0, Nat.mod_eq_of_lt h, if_neg (by omega), h, by omega, by omega⟩
  · have e := mod_sub_once (u + v) B (by omega) (by omega)
    exact ⟨(u + v) % B, 1, rfl, if_pos (by omega), by omega, by omega, by omega⟩

/-- the C overflow test is `sum < right operand` -/
theorem add_carry_r (B u v : Nat) (hu : u < B) (hv : v < B) :
    ∃ s k, (u + v) % B = s ∧ (if s < v then 1 else 0) = k ∧ s < B ∧ k ≤ 1 ∧ u + v = s + k * B := by
  simpa only [Nat.add_comm v u] using add_carry_l B v u hv hu

/-- either C borrow test: `u < v` (bn_subn_low) or `difference > u` (bn_sub1_low) -/
theorem sub_borrow (B u v : Nat) (hu : u < B) (hv : v < B) :
    ∃ s k, (u + B - v) % B = s ∧ (if u < v then 1 else 0) = k ∧ (if s > u then 1 else 0) = k
      ∧ s < B ∧ k ≤ 1 ∧ s + v = u + k * B := by
  by_cases h : u < v
  · exact ⟨u + B - v, 1, Nat.mod_eq_of_lt (by omega), if_pos h, if_pos (by omega), by omega, by omega,
      by omega⟩
  · refine ⟨u - v, 0, ?_, if_neg h, if_neg (by omega), by omega, by omega, by omega⟩
    rw [show u + B - v = u - v + B by omega, Nat.add_mod_right, Nat.mod_eq_of_lt (by omega)]

theorem carry_lt {S c C V k : Nat} (h : S + c * C = V) (hV : V < k * C) : c < k :=
  Nat.lt_of_mul_lt_mul_right (Nat.lt_of_le_of_lt (h ▸ Nat.le_add_left _ _) hV)

@[simp]
theorem addnLow_length (B : Nat) : ∀ (a b : List Nat) (c : Nat),
    (addnLow B a b c).1.length = min a.length b.length := by
  intro a
  induction a with
  | nil => intro b c; simp [addnLow]
  | cons x xs ih =>
    intro b c
    cases b with
    | nil => simp [addnLow]
    | cons y ys => simp only [addnLow, List.length_cons, ih]; omega

@[simp]
theorem subnLow_length (B : Nat) : ∀ (a b : List Nat) (c : Nat),
    (subnLow B a b c).1.length = min a.length b.length := by
  intro a
  induction a with
  | nil => intro b c; simp [subnLow]
  | cons x xs ih =>
    intro b c
    cases b with
    | nil => simp [subnLow]
    | cons y ys => simp only [subnLow, List.length_cons, ih]; omega

@[simp]
theorem add1Low_length (B : Nat) : ∀ (a : List Nat) (c : Nat), (add1Low B a c).1.length = a.length := by
  intro a
  induction a with
  | nil => intro c; simp [add1Low]
  | cons x xs ih =>
    intro c
    simp only [add1Low]
    split
    · rfl
    · simp only [List.length_cons, ih]

@[simp]
theorem sub1Low_length (B : Nat) : ∀ (a : List Nat) (c : Nat), (sub1Low B a c).1.length = a.length := by
  intro a
  induction a with
  | nil => intro c; simp [sub1Low]
  | cons x xs ih =>
    intro c
    simp only [sub1Low]
    split
    · rfl
    · simp only [List.length_cons, ih]

theorem addnLow_spec (B : Nat) (hB : 1 < B) :
    ∀ (a b : List Nat) (carry : Nat), a.length = b.length → carry ≤ 1 →
      (∀ d ∈ a, d < B) → (∀ d ∈ b, d < B) →
      val B (addnLow B a b carry).1 + (addnLow B a b carry).2 * B ^ a.length
        = val B a + val B b + carry ∧ (addnLow B a b carry).2 ≤ 1
      ∧ (∀ d ∈ (addnLow B a b carry).1, d < B) ∧ (addnLow B a b carry).1.length = a.length := by
  intro a
  induction a with
  | nil =>
    intro b carry hl hc _ _
    cases b with
    | nil => simp [addnLow, val, hc]
    | cons _ _ => simp at hl
  | cons x xs ih =>
    intro b carry hl hc ha hb
    cases b with
    | nil => simp at hl
    | cons y ys =>
      simp only [List.length_cons, Nat.add_right_cancel_iff] at hl
      obtain ⟨hx, ha'⟩ := List.forall_mem_cons.1 ha
      obtain ⟨hy, hb'⟩ := List.forall_mem_cons.1 hb
      have key : ∃ r1 c', r1 < B ∧ c' ≤ 1 ∧ r1 + c' * B = x + y + carry ∧
          addnLow B (x :: xs) (y :: ys) carry =
            (r1 :: (addnLow B xs ys c').1, (addnLow B xs ys c').2) := by
        obtain ⟨s0, k0, e0, f0, h0, hk0, t0⟩ := add_carry_l B x y hx hy
        obtain ⟨s1, k1, e1, f1, h1, hk1, t1⟩ := add_carry_l B s0 carry h0 (by omega)
        have hk : k0 + k1 ≤ 1 := Nat.le_of_lt_succ (carry_lt (S := s1) (C := B) (k := 2) rfl (by rw [Nat.add_mul]; omega))
        have hor : k0 ||| k1 = k0 + k1 := by
          rcases Nat.le_one_iff_eq_zero_or_eq_one.1 hk0 with rfl | rfl <;>
            rcases Nat.le_one_iff_eq_zero_or_eq_one.1 hk1 with rfl | rfl <;> first | rfl | omega
        refine ⟨s1, k0 + k1, h1, hk, by rw [Nat.add_mul]; omega, ?_⟩
        simp only [addnLow, e0, f0, e1, f1, hor]
      obtain ⟨r1, c', hr1, hc', hsum, heq⟩ := key
      obtain ⟨ih1, ih2, ih3, _⟩ := ih ys c' hl hc' ha' hb'
      rw [heq]
      refine ⟨?_, ih2, digs_cons hr1 ih3, by simp [hl]⟩
      simp only [val, List.length_cons, Nat.pow_succ]
      have := step_add ih1 hsum
      rw [Nat.mul_add] at this
      omega

theorem add1Low_spec (B : Nat) (hB : 1 < B) :
    ∀ (a : List Nat) (c : Nat), c < B → (∀ d ∈ a, d < B) →
      val B (add1Low B a c).1 + (add1Low B a c).2 * B ^ a.length = val B a + c
      ∧ (c ≤ 1 ∨ a ≠ [] → (add1Low B a c).2 ≤ 1)
      ∧ (∀ d ∈ (add1Low B a c).1, d < B) ∧ (add1Low B a c).1.length = a.length := by
  intro a
  induction a with
  | nil => intro c _ _; simp [add1Low, val]
  | cons x xs ih =>
    intro c hc ha
    obtain ⟨hx, ha'⟩ := List.forall_mem_cons.1 ha
    by_cases h0 : c = 0
    · subst h0
      have e : add1Low B (x :: xs) 0 = (x :: xs, 0) := by simp [add1Low]
      rw [e]
      exact ⟨by simp, by simp, ha, rfl⟩
    · obtain ⟨r0, c', e0, f0, hr0, hc', hsum⟩ := add_carry_r B x c hx hc
      have heq : add1Low B (x :: xs) c = (r0 :: (add1Low B xs c').1, (add1Low B xs c').2) := by
        simp only [add1Low, if_neg h0, e0, f0]
      obtain ⟨ih1, ih2, ih3, _⟩ := ih c' (by omega) ha'
      rw [heq]
      refine ⟨?_, fun _ => ih2 (.inl hc'), digs_cons hr0 ih3, by simp⟩
      simp only [val, List.length_cons, Nat.pow_succ]
      exact step_add ih1 hsum.symm

theorem subnLow_spec (B : Nat) (hB : 1 < B) :
    ∀ (a b : List Nat) (bin : Nat), a.length = b.length → bin ≤ 1 →
      (∀ d ∈ a, d < B) → (∀ d ∈ b, d < B) →
      val B (subnLow B a b bin).1 + val B b + bin = val B a + (subnLow B a b bin).2 * B ^ a.length
      ∧ (subnLow B a b bin).2 ≤ 1
      ∧ (∀ d ∈ (subnLow B a b bin).1, d < B) ∧ (subnLow B a b bin).1.length = a.length := by
  intro a
  induction a with
  | nil =>
    intro b carry hl hc _ _
    cases b with
    | nil => simp [subnLow, val, hc]
    | cons _ _ => simp at hl
  | cons x xs ih =>
    intro b carry hl hc ha hb
    cases b with
    | nil => simp at hl
    | cons y ys =>
      simp only [List.length_cons, Nat.add_right_cancel_iff] at hl
      obtain ⟨hx, ha'⟩ := List.forall_mem_cons.1 ha
      obtain ⟨hy, hb'⟩ := List.forall_mem_cons.1 hb
      have key : ∃ r0 c', r0 < B ∧ c' ≤ 1 ∧ r0 + y + carry = x + c' * B ∧
          subnLow B (x :: xs) (y :: ys) carry =
            (r0 :: (subnLow B xs ys c').1, (subnLow B xs ys c').2) := by
        obtain ⟨d, k0, e0, f0, _, hd, hk0, t0⟩ := sub_borrow B x y hx hy
        obtain ⟨r, k1, e1, f1, _, hr, hk1, t1⟩ := sub_borrow B d carry hd (by omega)
        -- a borrow out of x - y leaves a non-zero difference, which absorbs the incoming borrow
        have hk : (if x < y ∨ (carry ≠ 0 ∧ d = 0) then 1 else 0) = k0 + k1 := by
          subst f0 f1
          by_cases p0 : x < y <;> by_cases p1 : d < carry <;> simp [p0, p1] at t0 t1 ⊢ <;> omega
        refine ⟨r, k0 + k1, hr, by rw [← hk]; split <;> omega, by rw [Nat.add_mul]; omega, ?_⟩
        simp only [subnLow, e0, e1, hk]
      obtain ⟨r0, c', hr0, hc', hsum, heq⟩ := key
      obtain ⟨ih1, ih2, ih3, _⟩ := ih ys c' hl hc' ha' hb'
      rw [heq]
      refine ⟨?_, ih2, digs_cons hr0 ih3, by simp [hl]⟩
      simp only [val, List.length_cons, Nat.pow_succ]
      exact step_sub ih1 hsum

theorem subnLow_cases (B : Nat) (hB : 1 < B) (a b : List Nat) (hl : a.length = b.length)
    (ha : ∀ d ∈ a, d < B) (hb : ∀ d ∈ b, d < B) :
    (subnLow B a b 0).1.length = a.length ∧ (∀ d ∈ (subnLow B a b 0).1, d < B) ∧
    (val B b ≤ val B a → (subnLow B a b 0).2 = 0 ∧ val B (subnLow B a b 0).1 = val B a - val B b) ∧
    (val B a < val B b →
      (subnLow B a b 0).2 = 1 ∧ val B (subnLow B a b 0).1 + val B b = val B a + B ^ a.length) := by
  obtain ⟨h1, h2, h3, h4⟩ := subnLow_spec B hB a b 0 hl (by omega) ha hb
  have hd := val_lt B _ h3
  have hva := val_lt B a ha
  rw [h4] at hd
  generalize (subnLow B a b 0).2 = bo at h1 h2 ⊢
  have : bo = 0 ∨ bo = 1 := by omega
  refine ⟨h4, h3, fun hle => ?_, fun hlt => ?_⟩ <;> rcases this with rfl | rfl <;> omega

theorem sub1Low_spec (B : Nat) (hB : 1 < B) :
    ∀ (a : List Nat) (c : Nat), c < B → (∀ d ∈ a, d < B) →
      val B (sub1Low B a c).1 + c = val B a + (sub1Low B a c).2 * B ^ a.length
      ∧ (c ≤ 1 ∨ a ≠ [] → (sub1Low B a c).2 ≤ 1)
      ∧ (∀ d ∈ (sub1Low B a c).1, d < B) ∧ (sub1Low B a c).1.length = a.length := by
  intro a
  induction a with
  | nil => intro c _ _; simp [sub1Low, val]
  | cons x xs ih =>
    intro c hc ha
    obtain ⟨hx, ha'⟩ := List.forall_mem_cons.1 ha
    by_cases h0 : c = 0
    · subst h0
      have e : sub1Low B (x :: xs) 0 = (x :: xs, 0) := by simp [sub1Low]
      rw [e]
      exact ⟨by simp, by simp, ha, rfl⟩
    · obtain ⟨r0, c', e0, _, f0, hr0, hc', hsum⟩ := sub_borrow B x c hx hc
      have heq : sub1Low B (x :: xs) c = (r0 :: (sub1Low B xs c').1, (sub1Low B xs c').2) := by
        simp only [sub1Low, if_neg h0, Nat.mod_eq_of_lt hc, e0, f0]
      obtain ⟨ih1, ih2, ih3, _⟩ := ih c' (by omega) ha'
      rw [heq]
      refine ⟨?_, fun _ => ih2 (.inl hc'), digs_cons hr0 ih3, by simp⟩
      simp only [val, List.length_cons, Nat.pow_succ]
      have := step_sub (Y := 0) (y := 0) ih1 hsum
      omega

end Relic.Model
