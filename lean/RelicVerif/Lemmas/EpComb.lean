/-
The comb routines of Model/EpMul.lean (ep_mul_fix_combs plain / endomorphism, ep_mul_fix_combd) compute the scalar times the
base point; the integer form of bn_rec_glv returns a pair congruent to the scalar.  The table and column lemmas are the ones of
Lemmas/EbMul.lean (bit-matrix decomposition k = Σ_i 2^i · Σ_j k_{i+j·l} 2^{j·l}).
-/
import Mathlib.Algebra.BigOperators.Intervals
import RelicVerif.Model.EpMul
import RelicVerif.Lemmas.EbMul
import RelicVerif.Lemmas.Rec

namespace Relic.Lemmas.EpComb
open Relic.Model Relic.Model.MulAlg Relic.Model.EbMul Relic.Model.EpMul Relic.Lemmas.EbMul

variable {G : Type} [AddCommGroup G]

theorem signed_step (l d c : ℕ) (r x : G) (neg : Bool) :
    (if c > 0 then (if neg then r - combVal l d c • x else r + combVal l d c • x) else r)
      = r + (sg neg * combVal l d c) • x := by
  rcases Nat.eq_zero_or_pos c with rfl | h
  · simp [combVal_zero]
  · cases neg <;> simp [sg, h, sub_eq_add_neg]

theorem top_split (k n : ℕ) (h : k < 2 ^ (n + 1)) :
    (k : ℤ) = ((k % 2 ^ n : ℕ) : ℤ) + (if Rec.bitLen k > n then 2 ^ n else 0) := by
  by_cases hb : Rec.bitLen k > n
  · rw [if_pos hb]
    have hk : 0 < k := by
      rcases Nat.eq_zero_or_pos k with rfl | h'
      · simp [Rec.bitLen] at hb
      · exact h'
    have h1 := (Rec.bitLen_spec k hk).1
    have h2 : 2 ^ n ≤ 2 ^ (Rec.bitLen k - 1) := Nat.pow_le_pow_right (by decide) (by omega)
    obtain ⟨r, rfl⟩ : ∃ r, k = 2 ^ n + r := ⟨k - 2 ^ n, by omega⟩
    have hr : r < 2 ^ n := by rw [pow_succ] at h; omega
    rw [Nat.add_mod_left, Nat.mod_eq_of_lt hr]
    push_cast
    ring
  · rw [if_neg hb]
    have h1 := Rec.lt_two_pow_bitLen k
    have h2 : 2 ^ Rec.bitLen k ≤ 2 ^ n := Nat.pow_le_pow_right (by decide) (by omega)
    rw [Nat.mod_eq_of_lt (by omega)]
    simp

theorem mulCombsPlain_spec (p : G) (m l d : Nat) (hl : 0 < l) (hm : m < 2 ^ (l * d)) :
    mulCombsPlain gops (tabCombs gops p l d) m l d = (m : ℤ) • p := by
  obtain ⟨l', rfl⟩ : ∃ l', l = l' + 1 := ⟨l - 1, by omega⟩
  unfold mulCombsPlain
  simp only [Nat.add_sub_cancel]
  rw [combs_step, gops_zero, tab_get, horner, sum_pow_smul, smul_smul, ← add_zsmul]
  congr 1
  have := comb_total m (l' + 1) d
  rw [Finset.sum_range_succ, Nat.mod_eq_of_lt hm] at this
  rw [← this]
  ring

theorem endom_side (q : G) (s : ℤ) (k l d : ℕ) (hd : 0 < d) (h : k < 2 ^ (l * d + 1))
    (hs : d * l < Rec.bitLen k → s = 1) :
    (2 ^ l : ℤ) • (if Rec.bitLen k > d * l then (2 ^ ((d - 1) * l) : ℤ) • q else 0)
      + ∑ i ∈ Finset.range l, (2 ^ i : ℤ) • ((s * combVal l d (combCol k l d i)) • q) = (s * k) • q := by
  rw [sum_pow_smul]
  simp only [mul_assoc, ← Finset.mul_sum]
  rw [comb_total, top_split k (l * d) h, Nat.mul_comm l d]
  by_cases hb : Rec.bitLen k > d * l
  · rw [if_pos hb, if_pos hb, hs hb, smul_smul, ← add_zsmul, ← pow_add]
    congr 1
    have : l + (d - 1) * l = d * l := by
      obtain ⟨d', rfl⟩ : ∃ d', d = d' + 1 := ⟨d - 1, by omega⟩
      simp only [Nat.add_sub_cancel]; ring
    rw [this]
    ring
  · rw [if_neg hb, if_neg hb, smul_zero, zero_add, add_zero]

/-- the top-bit path of ep_mul_combs_endom ignores the sign, hence the two sign hypotheses -/
theorem mulCombsEndom_spec (ψ : G →+ G) (p : G) (l d k0 k1 : Nat) (neg0 neg1 : Bool) (hd : 0 < d)
    (h0 : k0 < 2 ^ (l * d + 1)) (h1 : k1 < 2 ^ (l * d + 1))
    (hs0 : d * l < Rec.bitLen k0 → neg0 = false) (hs1 : d * l < Rec.bitLen k1 → neg1 = false) :
    mulCombsEndom gops ψ (tabCombs gops p l d) l d k0 neg0 k1 neg1
      = (if neg0 then -(k0 : ℤ) else (k0 : ℤ)) • p + (if neg1 then -(k1 : ℤ) else (k1 : ℤ)) • ψ p := by
  have hstep : (fun (r : G) (i : ℕ) =>
      let r := gops.dbl r
      let w0 := combCol k0 l d i
      let w1 := combCol k1 l d i
      let r := if w0 > 0 then (if neg0 then gops.sub r ((tabCombs gops p l d).getD w0 gops.zero)
        else gops.add r ((tabCombs gops p l d).getD w0 gops.zero)) else r
      if w1 > 0 then (if neg1 then gops.sub r (ψ ((tabCombs gops p l d).getD w1 gops.zero))
        else gops.add r (ψ ((tabCombs gops p l d).getD w1 gops.zero))) else r)
      = fun r i => (2 : ℤ) • r + ((sg neg0 * combVal l d (combCol k0 l d i)) • p
          + (sg neg1 * combVal l d (combCol k1 l d i)) • ψ p) := by
    funext r i
    simp only [gops_dbl, gops_add, gops_sub, gops_zero, tab_get, map_zsmul]
    rw [signed_step, signed_step, add_assoc]
  have htop : (tabCombs gops p l d).getD (2 ^ (d - 1)) 0 = (2 ^ ((d - 1) * l) : ℤ) • p := by
    obtain ⟨d', rfl⟩ : ∃ d', d = d' + 1 := ⟨d - 1, by omega⟩
    simp only [Nat.add_sub_cancel]
    have := (tabCombs_spec p l (d' + 1)).2 (2 ^ d') (by rw [pow_succ]; have := Nat.two_pow_pos d'; omega)
    rw [this, combVal_pow]
  have e0 := endom_side p (sg neg0) k0 l d hd h0 (fun h => by rw [hs0 h]; rfl)
  have e1 := endom_side (ψ p) (sg neg1) k1 l d hd h1 (fun h => by rw [hs1 h]; rfl)
  unfold mulCombsEndom
  rw [hstep]
  simp only [gops_zero, gops_add, htop, map_zsmul]
  rw [horner, ite_neg_int, ite_neg_int, ← e0, ← e1, Finset.sum_congr rfl (fun i _ => smul_add _ _ _), Finset.sum_add_distrib]
  by_cases hb0 : Rec.bitLen k0 > d * l <;> by_cases hb1 : Rec.bitLen k1 > d * l <;>
    simp only [hb0, hb1, if_true, if_false, smul_add, smul_zero, zero_add] <;> abel

theorem tabCombd_hi (p : G) (dd e d c : ℕ) (he : 0 < e) (hc : c < 2 ^ d) :
    (tabCombd gops p dd e d).getD (2 ^ d + c) 0 = ((2 : ℤ) ^ e * combVal dd d c) • p := by
  obtain ⟨hlen, ht⟩ := tabCombs_spec p dd d
  unfold tabCombd
  simp only []
  generalize tabCombs gops p dd d = t at hlen ht
  rw [List.getD_append_right _ _ _ _ (by omega), hlen, Nat.add_sub_cancel_left]
  cases c with
  | zero => rw [combVal_zero, mul_zero, zero_smul]; rfl
  | succ i =>
    rw [List.getD_cons_succ, List.getD_eq_getElem?_getD, List.getElem?_map, List.getElem?_tail,
      List.getElem?_eq_getElem (by omega)]
    have := ht (i + 1) hc
    rw [List.getD_eq_getElem?_getD, List.getElem?_eq_getElem (by omega)] at this
    simp only [Option.getD_some] at this
    change t[i + 1] = combVal dd d (i + 1) • p at this
    simp only [Option.map_some, Option.getD_some, dblN_spec, gops_dbl, this, smul_smul]
    congr 1
    obtain ⟨e', rfl⟩ : ∃ e', e = e' + 1 := ⟨e - 1, by omega⟩
    simp only [Nat.add_sub_cancel]
    ring

theorem tabCombd_lo (p : G) (dd e d c : ℕ) (hc : c < 2 ^ d) :
    (tabCombd gops p dd e d).getD c 0 = combVal dd d c • p := by
  obtain ⟨hlen, ht⟩ := tabCombs_spec p dd d
  unfold tabCombd
  simp only []
  rw [List.getD_append _ _ _ _ (by omega)]
  exact ht c hc

/-- e = ⌈dd/2⌉ in ep_mul_fix_combd, stated as e ≤ dd ≤ 2e -/
theorem mulCombd_spec (p : G) (m dd e d : Nat) (he : 0 < e) (hle : e ≤ dd) (h2 : dd ≤ 2 * e) (hm : m < 2 ^ (dd * d)) :
    mulCombd gops (tabCombd gops p dd e d) m dd e d = (m : ℤ) • p := by
  have hstep : (fun (r : G) (i : ℕ) =>
      let r := gops.dbl r
      let w0 := combCol m dd d i
      let w1 := if i + e < dd then combCol m dd d (i + e) else 0
      gops.add (gops.add r ((tabCombd gops p dd e d).getD w0 gops.zero))
        ((tabCombd gops p dd e d).getD (2 ^ d + w1) gops.zero))
      = fun r i => (2 : ℤ) • r + (combVal dd d (combCol m dd d i)
          + (if i + e < dd then 2 ^ e * combVal dd d (combCol m dd d (i + e)) else 0)) • p := by
    funext r i
    simp only [gops_dbl, gops_add, gops_zero]
    rw [tabCombd_lo p dd e d _ (combCol_lt m dd d i), add_assoc, add_zsmul]
    congr 2
    by_cases h : i + e < dd
    · rw [if_pos h, if_pos h, tabCombd_hi p dd e d _ he (combCol_lt m dd d (i + e))]
    · rw [if_neg h, if_neg h, tabCombd_hi p dd e d 0 he (by positivity), combVal_zero, mul_zero]
  unfold mulCombd
  rw [hstep, gops_zero, loop_eval]
  congr 1
  obtain ⟨n, rfl⟩ : ∃ n, dd = e + n := ⟨dd - e, by omega⟩
  have htot := comb_total m (e + n) d
  rw [Nat.mod_eq_of_lt hm, Finset.sum_range_add] at htot
  rw [← htot]
  simp only [add_mul, Finset.sum_add_distrib, ite_mul, zero_mul]
  congr 1
  rw [← Finset.sum_filter]
  have hf : (Finset.range e).filter (fun i => i + e < e + n) = Finset.range n := by
    ext i
    simp only [Finset.mem_filter, Finset.mem_range]
    omega
  rw [hf]
  apply Finset.sum_congr rfl
  intro i _
  rw [Nat.add_comm i e]
  ring

theorem mulCombd_correct (p : G) (n : Nat) (hn0 : 0 < n) (hn : (n : ℤ) • p = 0) (k : ℤ) (dd e d : Nat) (he : 0 < e)
    (hle : e ≤ dd) (h2 : dd ≤ 2 * e) (hld : n ≤ 2 ^ (dd * d)) :
    mulCombd gops (tabCombd gops p dd e d) (k % n).toNat dd e d = k • p := by
  rw [mulCombd_spec p _ dd e d he hle h2 (Nat.lt_of_lt_of_le (toNat_emod_lt n hn0 k) hld), toNat_emod_zsmul p n hn0 hn]

theorem glv_aux (k c1 c2 a1 b1 a2 b2 lam n : ℤ) (h1 : n ∣ a1 + b1 * lam) (h2 : n ∣ a2 + b2 * lam) :
    n ∣ (k - c1 * a1 - c2 * a2) + (- c1 * b1 - c2 * b2) * lam - k := by
  obtain ⟨a, ha⟩ := h1
  obtain ⟨b, hb⟩ := h2
  exact ⟨-(c1 * a) - c2 * b, by linear_combination (-c1) * ha - c2 * hb⟩

/-- whatever the rounding does, the pair differs from (k, 0) by a lattice vector -/
theorem recGlv_congr (k n : Nat) (v1 v2 : Int × Int × Int) (lam : ℤ)
    (h1 : (n : ℤ) ∣ v1.2.1 + v1.2.2 * lam) (h2 : (n : ℤ) ∣ v2.2.1 + v2.2.2 * lam) :
    (n : ℤ) ∣ (recGlv k n v1 v2).1 + (recGlv k n v1 v2).2 * lam - k := by
  unfold recGlv
  exact glv_aux _ _ _ _ _ _ _ _ _ h1 h2

end Relic.Lemmas.EpComb
