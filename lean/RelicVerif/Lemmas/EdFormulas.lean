/-
The generated Edwards formula code (Gen/EdFormulas.lean, regenerated from src/ed/relic_ed_add.c, relic_ed_dbl.c,
relic_ed_neg.c, relic_ed_norm.c, relic_ed_util.c on every run) computes the affine twisted-Edwards law.
Any operation record, any carrier: every aliased variant (`_a1` r = p, `_a2` r = q, `_a3` p = q, `_a4` r = p = q) is
*definitionally* the plain function applied to the shared argument — no formula overwrites an operand it still needs.
Over a field: affine, projective (Bernstein–Birkner–Joye–Lange–Peters 2008) and extended (Hisil–Wong–Carter–Dawson 2008)
addition and doubling return a representation of the affine sum, the extended ones re-establish T·Z = X·Y; negation,
subtraction, normalisation.  The completeness hypotheses (1 ± d·x1·x2·y1·y2 ≠ 0) are explicit (Lemmas/EdGroup.lean: they hold
on curve points when a is a square and d is not).  The projective and extended formulas all compute completed coordinates
((e : g), (h : f)) of the result and return (ef, gh, fg[, eh]) (`ofCompleted`): the addition law is stated once on such
quadruples (`addCompleted_repT`), the doubling once (`dblCompleted_repT`, modulo the curve equation).
-/
import Mathlib.Algebra.Field.Defs
import Mathlib.Algebra.Field.Basic
import Mathlib.Tactic.FieldSimp
import Mathlib.Tactic.Ring
import Mathlib.Tactic.LinearCombination
import Mathlib.Tactic.SplitIfs
import RelicVerif.Gen.EdFormulas

namespace Relic.Lemmas.EdFormulas
open Relic.Model.Formula Relic.Gen

set_option linter.unusedSimpArgs false
set_option linter.unusedSectionVars false

/-! ### aliasing (any carrier, any operation record) -/
section Alias
variable {C : Type} (o : FOps C) (cv : EdC C)

-- the build with extended coordinates
theorem ext_copy_a1 (p : EPt C) : Ed.ed_copy_a1 o cv p = Ed.ed_copy o cv p p := rfl
theorem ext_neg_basic_a1 (p : EPt C) : Ed.ed_neg_basic_a1 o cv p = Ed.ed_neg_basic o cv p p := rfl
theorem ext_neg_projc_a1 (p : EPt C) : Ed.ed_neg_projc_a1 o cv p = Ed.ed_neg_projc o cv p p := rfl
theorem ext_dbl_basic_a1 (p : EPt C) : Ed.ed_dbl_basic_a1 o cv p = Ed.ed_dbl_basic o cv p p := rfl
theorem ext_dbl_projc_a1 (p : EPt C) : Ed.ed_dbl_projc_a1 o cv p = Ed.ed_dbl_projc o cv p p := rfl
theorem ext_dbl_extnd_a1 (p : EPt C) : Ed.ed_dbl_extnd_a1 o cv p = Ed.ed_dbl_extnd o cv p p := rfl
theorem ext_norm_imp_a1 (p : EPt C) : Ed.ed_norm_imp_a1 o cv p = Ed.ed_norm_imp o cv p p := rfl
theorem ext_norm_a1 (p : EPt C) : Ed.ed_norm_a1 o cv p = Ed.ed_norm o cv p p := rfl
theorem ext_add_basic_a1 (p q : EPt C) : Ed.ed_add_basic_a1 o cv p q = Ed.ed_add_basic o cv p p q := rfl
theorem ext_add_basic_a2 (p q : EPt C) : Ed.ed_add_basic_a2 o cv p q = Ed.ed_add_basic o cv q p q := rfl
theorem ext_add_basic_a3 (r p : EPt C) : Ed.ed_add_basic_a3 o cv r p = Ed.ed_add_basic o cv r p p := rfl
theorem ext_add_basic_a4 (p : EPt C) : Ed.ed_add_basic_a4 o cv p = Ed.ed_add_basic o cv p p p := rfl
theorem ext_add_projc_a1 (p q : EPt C) : Ed.ed_add_projc_a1 o cv p q = Ed.ed_add_projc o cv p p q := rfl
theorem ext_add_projc_a2 (p q : EPt C) : Ed.ed_add_projc_a2 o cv p q = Ed.ed_add_projc o cv q p q := rfl
theorem ext_add_projc_a3 (r p : EPt C) : Ed.ed_add_projc_a3 o cv r p = Ed.ed_add_projc o cv r p p := rfl
theorem ext_add_projc_a4 (p : EPt C) : Ed.ed_add_projc_a4 o cv p = Ed.ed_add_projc o cv p p p := rfl
theorem ext_add_extnd_a1 (p q : EPt C) : Ed.ed_add_extnd_a1 o cv p q = Ed.ed_add_extnd o cv p p q := rfl
theorem ext_add_extnd_a2 (p q : EPt C) : Ed.ed_add_extnd_a2 o cv p q = Ed.ed_add_extnd o cv q p q := rfl
theorem ext_add_extnd_a3 (r p : EPt C) : Ed.ed_add_extnd_a3 o cv r p = Ed.ed_add_extnd o cv r p p := rfl
theorem ext_add_extnd_a4 (p : EPt C) : Ed.ed_add_extnd_a4 o cv p = Ed.ed_add_extnd o cv p p p := rfl
-- subtraction with the result over an operand; `p == q` (pointer equality) short-cuts to the neutral element
theorem ext_sub_basic_a1 (p q : EPt C) : Ed.ed_sub_basic_a1 o cv p q = Ed.ed_sub_basic o cv p p q := rfl
theorem ext_sub_basic_a2 (p q : EPt C) : Ed.ed_sub_basic_a2 o cv p q = Ed.ed_sub_basic o cv q p q := rfl
theorem ext_sub_projc_a1 (p q : EPt C) : Ed.ed_sub_projc_a1 o cv p q = Ed.ed_sub_projc o cv p p q := rfl
theorem ext_sub_projc_a2 (p q : EPt C) : Ed.ed_sub_projc_a2 o cv p q = Ed.ed_sub_projc o cv q p q := rfl
theorem ext_sub_extnd_a1 (p q : EPt C) : Ed.ed_sub_extnd_a1 o cv p q = Ed.ed_sub_extnd o cv p p q := rfl
theorem ext_sub_extnd_a2 (p q : EPt C) : Ed.ed_sub_extnd_a2 o cv p q = Ed.ed_sub_extnd o cv q p q := rfl
theorem ext_sub_same (r p : EPt C) :
    Ed.ed_sub_basic_a3 o cv r p = Ed.ed_set_infty o cv r ∧ Ed.ed_sub_projc_a3 o cv r p = Ed.ed_set_infty o cv r ∧
    Ed.ed_sub_extnd_a3 o cv r p = Ed.ed_set_infty o cv r ∧ Ed.ed_sub_basic_a4 o cv p = Ed.ed_set_infty o cv p ∧
    Ed.ed_sub_projc_a4 o cv p = Ed.ed_set_infty o cv p ∧ Ed.ed_sub_extnd_a4 o cv p = Ed.ed_set_infty o cv p :=
  ⟨rfl, rfl, rfl, rfl, rfl, rfl⟩

-- the builds without the fourth coordinate (PROJC, BASIC): same statements
theorem prj_copy_a1 (p : EPt C) : EdP.ed_copy_a1 o cv p = EdP.ed_copy o cv p p := rfl
theorem prj_neg_basic_a1 (p : EPt C) : EdP.ed_neg_basic_a1 o cv p = EdP.ed_neg_basic o cv p p := rfl
theorem prj_neg_projc_a1 (p : EPt C) : EdP.ed_neg_projc_a1 o cv p = EdP.ed_neg_projc o cv p p := rfl
theorem prj_dbl_basic_a1 (p : EPt C) : EdP.ed_dbl_basic_a1 o cv p = EdP.ed_dbl_basic o cv p p := rfl
theorem prj_dbl_projc_a1 (p : EPt C) : EdP.ed_dbl_projc_a1 o cv p = EdP.ed_dbl_projc o cv p p := rfl
theorem prj_dbl_extnd_a1 (p : EPt C) : EdP.ed_dbl_extnd_a1 o cv p = EdP.ed_dbl_extnd o cv p p := rfl
theorem prj_norm_imp_a1 (p : EPt C) : EdP.ed_norm_imp_a1 o cv p = EdP.ed_norm_imp o cv p p := rfl
theorem prj_norm_a1 (p : EPt C) : EdP.ed_norm_a1 o cv p = EdP.ed_norm o cv p p := rfl
theorem prj_add_basic_a1 (p q : EPt C) : EdP.ed_add_basic_a1 o cv p q = EdP.ed_add_basic o cv p p q := rfl
theorem prj_add_basic_a2 (p q : EPt C) : EdP.ed_add_basic_a2 o cv p q = EdP.ed_add_basic o cv q p q := rfl
theorem prj_add_basic_a3 (r p : EPt C) : EdP.ed_add_basic_a3 o cv r p = EdP.ed_add_basic o cv r p p := rfl
theorem prj_add_basic_a4 (p : EPt C) : EdP.ed_add_basic_a4 o cv p = EdP.ed_add_basic o cv p p p := rfl
theorem prj_add_projc_a1 (p q : EPt C) : EdP.ed_add_projc_a1 o cv p q = EdP.ed_add_projc o cv p p q := rfl
theorem prj_add_projc_a2 (p q : EPt C) : EdP.ed_add_projc_a2 o cv p q = EdP.ed_add_projc o cv q p q := rfl
theorem prj_add_projc_a3 (r p : EPt C) : EdP.ed_add_projc_a3 o cv r p = EdP.ed_add_projc o cv r p p := rfl
theorem prj_add_projc_a4 (p : EPt C) : EdP.ed_add_projc_a4 o cv p = EdP.ed_add_projc o cv p p p := rfl
theorem prj_sub_basic_a1 (p q : EPt C) : EdP.ed_sub_basic_a1 o cv p q = EdP.ed_sub_basic o cv p p q := rfl
theorem prj_sub_basic_a2 (p q : EPt C) : EdP.ed_sub_basic_a2 o cv p q = EdP.ed_sub_basic o cv q p q := rfl
theorem prj_sub_projc_a1 (p q : EPt C) : EdP.ed_sub_projc_a1 o cv p q = EdP.ed_sub_projc o cv p p q := rfl
theorem prj_sub_projc_a2 (p q : EPt C) : EdP.ed_sub_projc_a2 o cv p q = EdP.ed_sub_projc o cv q p q := rfl
theorem prj_add_extnd_a1 (p q : EPt C) : EdP.ed_add_extnd_a1 o cv p q = EdP.ed_add_extnd o cv p p q := rfl
theorem prj_add_extnd_a2 (p q : EPt C) : EdP.ed_add_extnd_a2 o cv p q = EdP.ed_add_extnd o cv q p q := rfl
theorem prj_add_extnd_a3 (r p : EPt C) : EdP.ed_add_extnd_a3 o cv r p = EdP.ed_add_extnd o cv r p p := rfl
theorem prj_add_extnd_a4 (p : EPt C) : EdP.ed_add_extnd_a4 o cv p = EdP.ed_add_extnd o cv p p p := rfl
theorem prj_sub_extnd_a1 (p q : EPt C) : EdP.ed_sub_extnd_a1 o cv p q = EdP.ed_sub_extnd o cv p p q := rfl
theorem prj_sub_extnd_a2 (p q : EPt C) : EdP.ed_sub_extnd_a2 o cv p q = EdP.ed_sub_extnd o cv q p q := rfl

/-- subtraction is addition of the negated subtrahend, which is built in a local `ed_t` (`EPt.junk`); ed_sub_extnd sets its
    T itself, so that it does not depend on the build's ed_neg_projc maintaining T -/
theorem ext_sub_projc_eq (r p q : EPt C) : Ed.ed_sub_projc o cv r p q =
    Ed.ed_add_projc o cv r p (Ed.ed_neg_projc o cv (EPt.junk o) q) := rfl
theorem prj_sub_projc_eq (r p q : EPt C) : EdP.ed_sub_projc o cv r p q =
    Ed.ed_add_projc o cv r p (EdP.ed_neg_projc o cv (EPt.junk o) q) := rfl
theorem ext_sub_extnd_eq (r p q : EPt C) : Ed.ed_sub_extnd o cv r p q =
    Ed.ed_add_extnd o cv r p { Ed.ed_neg_projc o cv (EPt.junk o) q with t := o.neg q.t } := rfl
theorem prj_sub_extnd_eq (r p q : EPt C) : EdP.ed_sub_extnd o cv r p q =
    Ed.ed_add_extnd o cv r p { EdP.ed_neg_projc o cv (EPt.junk o) q with t := o.neg q.t } := rfl

/-- the formula code proper does not depend on the build: only ed_neg_projc, ed_set_infty, ed_copy, ed_norm_imp do -/
theorem prj_formulas_eq :
    (@EdP.ed_add_basic C = @Ed.ed_add_basic C) ∧ (@EdP.ed_add_projc C = @Ed.ed_add_projc C) ∧
    (@EdP.ed_add_extnd C = @Ed.ed_add_extnd C) ∧ (@EdP.ed_dbl_basic C = @Ed.ed_dbl_basic C) ∧
    (@EdP.ed_dbl_projc C = @Ed.ed_dbl_projc C) ∧ (@EdP.ed_dbl_extnd C = @Ed.ed_dbl_extnd C) :=
  ⟨rfl, rfl, rfl, rfl, rfl, rfl⟩

/-- those differ in the fourth coordinate only, which the builds without it leave as it is in the destination -/
theorem prj_neg_projc_eq (r p : EPt C) :
    EdP.ed_neg_projc o cv r p = { Ed.ed_neg_projc o cv r p with t := r.t } := by
  unfold EdP.ed_neg_projc Ed.ed_neg_projc
  split_ifs <;> rfl

theorem prj_norm_eq (r p : EPt C) : EdP.ed_norm o cv r p = { Ed.ed_norm o cv r p with t := r.t } := by
  simp only [EdP.ed_norm, Ed.ed_norm, EdP.ed_norm_imp, Ed.ed_norm_imp, EdP.ed_set_infty, Ed.ed_set_infty, EdP.ed_copy,
    Ed.ed_copy]
  split_ifs <;> rfl

end Alias

/-! ### over a field -/
section Field
variable {F : Type} [Field F] [DecidableEq F]

def fieldOps : FOps F :=
  { zero := 0, one := 1, add := (· + ·), sub := (· - ·), mul := (· * ·), neg := Neg.neg, sqr := fun a => a * a,
    dbl := fun a => a + a, hlv := fun a => a / 2, inv := fun a => a⁻¹, ofNat := fun n => (n : F),
    isZero := fun a => decide (a = 0) }

def addX (d x1 y1 x2 y2 : F) : F := (x1 * y2 + y1 * x2) / (1 + d * x1 * x2 * y1 * y2)
def addY (a d x1 y1 x2 y2 : F) : F := (y1 * y2 - a * x1 * x2) / (1 - d * x1 * x2 * y1 * y2)
def OnCurve (cv : EdC F) (x y : F) : Prop := cv.a * x ^ 2 + y ^ 2 = 1 + cv.d * x ^ 2 * y ^ 2
def Rep (r : EPt F) (x y : F) : Prop := r.z ≠ 0 ∧ r.x = x * r.z ∧ r.y = y * r.z
def RepT (r : EPt F) (x y : F) : Prop := Rep r x y ∧ r.t = x * y * r.z
/-- the library's invariant on points flagged affine -/
def BasicZ1 (r : EPt F) : Prop := r.coord = .basic → r.z = 1

theorem Rep.with_t {s : EPt F} {x y : F} (h : Rep s x y) (t : F) : Rep { s with t := t } x y := h

theorem isInfty_iff (p : EPt F) :
    EPt.isInfty fieldOps p = true ↔ p.x = 0 ∧ (if p.coord = .basic then p.y = 1 else p.y = p.z) := by
  simp only [EPt.isInfty, fieldOps, Bool.and_eq_true, decide_eq_true_eq]
  split_ifs <;> simp [sub_eq_zero]

theorem infty_rep (p : EPt F) (x y : F) (hp : Rep p x y) (hb : BasicZ1 p) (hi : EPt.isInfty fieldOps p = true) :
    x = 0 ∧ y = 1 := by
  obtain ⟨hz, hx, hy⟩ := hp
  obtain ⟨h0, h1⟩ := (isInfty_iff p).1 hi
  refine ⟨?_, ?_⟩
  · rw [hx] at h0
    exact (mul_eq_zero.1 h0).resolve_right hz
  · split_ifs at h1 with hc
    · rw [hb hc, mul_one] at hy
      rw [← hy, h1]
    · rw [hy] at h1
      exact mul_right_cancel₀ hz (by rw [h1, one_mul])

theorem set_infty_repT (cv : EdC F) (r : EPt F) : RepT (Ed.ed_set_infty fieldOps cv r) 0 1 ∧
    (Ed.ed_set_infty fieldOps cv r).coord = .projc := by
  simp [Ed.ed_set_infty, fieldOps, RepT, Rep]

theorem neg_projc_correct (cv : EdC F) (r p : EPt F) (x y : F) (hp : Rep p x y) (hb : BasicZ1 p) :
    let s := Ed.ed_neg_projc fieldOps cv r p
    Rep s (-x) y ∧ BasicZ1 s ∧ (p.t = x * y * p.z → s.t = -x * y * s.z) := by
  rcases p with ⟨X, Y, Z, T, c⟩
  simp only [Ed.ed_neg_projc]
  split_ifs with hi
  · obtain ⟨hx0, hy1⟩ := infty_rep _ x y hp hb hi
    subst hx0 hy1
    simp [Ed.ed_set_infty, fieldOps, Rep, BasicZ1]
  · obtain ⟨hz, hx, hy⟩ := hp
    simp only at hz hx hy
    refine ⟨⟨hz, ?_, hy⟩, hb, ?_⟩
    · simp only [fieldOps, hx]; ring
    · intro ht; simp only [fieldOps, ht]; ring

theorem neg_projc_correct_prj (cv : EdC F) (r p : EPt F) (x y : F) (hp : Rep p x y) (hb : BasicZ1 p) :
    let s := EdP.ed_neg_projc fieldOps cv r p
    Rep s (-x) y ∧ BasicZ1 s ∧ s.t = r.t := by
  obtain ⟨h, hb', _⟩ := neg_projc_correct cv r p x y hp hb
  rw [prj_neg_projc_eq]
  exact ⟨h, hb', rfl⟩

/-- T keeps the previous content of the destination: the affine routines do not maintain it -/
theorem neg_basic_correct (cv : EdC F) (r p : EPt F) (hc : p.coord = .basic) :
    let s := Ed.ed_neg_basic fieldOps cv r p
    s.x = -p.x ∧ s.y = p.y ∧ (EPt.isInfty fieldOps p = false → s.z = p.z ∧ s.coord = .basic) := by
  rcases p with ⟨X, Y, Z, T, c⟩
  simp only at hc
  subst hc
  simp only [Ed.ed_neg_basic]
  split_ifs with hi
  · obtain ⟨h0, h1⟩ := (isInfty_iff _).1 hi
    simp only [if_true] at h0 h1
    subst h0 h1
    refine ⟨?_, ?_, fun h => ?_⟩
    · simp [Ed.ed_set_infty, fieldOps]
    · simp [Ed.ed_set_infty, fieldOps]
    · rw [hi] at h; exact absurd h (by simp)
  · refine ⟨rfl, rfl, fun _ => ⟨rfl, rfl⟩⟩

theorem neg_basic_eq {C : Type} (o : FOps C) (cv : EdC C) (r p : EPt C) (hc : p.coord = .basic) :
    ∃ t, Ed.ed_neg_basic o cv r p = { Ed.ed_neg_projc o cv r p with t := t } := by
  unfold Ed.ed_neg_basic Ed.ed_neg_projc
  split_ifs
  · exact ⟨_, rfl⟩
  · exact ⟨r.t, by rw [hc]⟩

theorem norm_correct (cv : EdC F) (r p : EPt F) (x y : F) (hp : Rep p x y) (hb : BasicZ1 p) :
    let s := Ed.ed_norm fieldOps cv r p
    s.x = x ∧ s.y = y ∧ s.z = 1 ∧ (p.t = x * y * p.z → s.t = x * y) ∧
    (s.coord = .basic ∨ (s.coord = .projc ∧ x = 0 ∧ y = 1)) := by
  rcases p with ⟨X, Y, Z, T, c⟩
  simp only [Ed.ed_norm]
  split_ifs with hi hc
  · obtain ⟨hx0, hy1⟩ := infty_rep _ x y hp hb hi
    subst hx0 hy1
    simp [Ed.ed_set_infty, fieldOps]
  · obtain ⟨hz, hx, hy⟩ := hp
    simp only at hz hx hy hc
    subst hc
    have hz1 : Z = 1 := hb rfl
    subst hz1 hx hy
    simp [Ed.ed_copy]
  · obtain ⟨hz, hx, hy⟩ := hp
    simp only at hz hx hy hc
    subst hx hy
    simp only [Ed.ed_norm_imp, hc, not_false_eq_true, if_true, fieldOps, Nat.cast_one]
    refine ⟨mul_inv_cancel_right₀ hz x, mul_inv_cancel_right₀ hz y, trivial, fun ht => ?_, ?_⟩
    · rw [ht]; exact mul_inv_cancel_right₀ hz _
    · simp

/-- Completed coordinates ((e : g), (h : f)) ∈ P¹ × P¹ of the affine point (e / g, h / f), brought back to extended
    coordinates (ef, gh, fg, eh). Every projective and extended formula computes such a quadruple; the projective ones
    leave T as it is in the destination. -/
def ofCompleted (e f g h : F) (c : ECoord) : EPt F := ⟨e * f, g * h, f * g, e * h, c⟩

/-- (e : g) and (h : f) are numerator and denominator of the two coordinates, scaled by k resp. k' -/
theorem repT_ofCompleted (c : ECoord) {e f g h k k' N D N' D' : F} (hk : k ≠ 0) (hk' : k' ≠ 0)
    (hD : D ≠ 0) (hD' : D' ≠ 0) (he : e = k * N) (hg : g = k * D) (hh : h = k' * N') (hf : f = k' * D') :
    RepT (ofCompleted e f g h c) (N / D) (N' / D') := by
  have hg0 : g ≠ 0 := hg ▸ mul_ne_zero hk hD
  have hf0 : f ≠ 0 := hf ▸ mul_ne_zero hk' hD'
  rw [← mul_div_mul_left N D hk, ← mul_div_mul_left N' D' hk', ← he, ← hg, ← hh, ← hf]
  have hx : e * f = e / g * (f * g) := by rw [mul_comm f, ← mul_assoc, div_mul_cancel₀ e hg0]
  have hy : g * h = h / f * (f * g) := by rw [← mul_assoc, div_mul_cancel₀ h hf0, mul_comm]
  refine ⟨⟨mul_ne_zero hf0 hg0, hx, hy⟩, ?_⟩
  show e * h = e / g * (h / f) * (f * g)
  rw [div_mul_div_comm, mul_comm g f, div_mul_cancel₀ _ (mul_ne_zero hf0 hg0)]

/-- the addition of Hisil–Wong–Carter–Dawson in completed coordinates,
    ((X₁Y₂ + Y₁X₂ : Z₁Z₂ + dT₁T₂), (Y₁Y₂ − aX₁X₂ : Z₁Z₂ − dT₁T₂)) -/
def addCompleted (cv : EdC F) (p q : EPt F) (c : ECoord) : EPt F :=
  ofCompleted ((p.x + p.y) * (q.x + q.y) - p.x * q.x - p.y * q.y) (p.z * q.z - cv.d * p.t * q.t)
    (p.z * q.z + cv.d * p.t * q.t) (p.y * q.y - cv.a * (p.x * q.x)) c

theorem addCompleted_repT (cv : EdC F) (c : ECoord) {p q : EPt F} {x1 y1 x2 y2 : F} (hp : RepT p x1 y1)
    (hq : RepT q x2 y2) (h1 : 1 + cv.d * x1 * x2 * y1 * y2 ≠ 0) (h2 : 1 - cv.d * x1 * x2 * y1 * y2 ≠ 0) :
    RepT (addCompleted cv p q c) (addX cv.d x1 y1 x2 y2) (addY cv.a cv.d x1 y1 x2 y2) := by
  obtain ⟨⟨hz1, hx1, hy1⟩, ht1⟩ := hp
  obtain ⟨⟨hz2, hx2, hy2⟩, ht2⟩ := hq
  have hk := mul_ne_zero hz1 hz2
  rw [addCompleted, hx1, hy1, hx2, hy2, ht1, ht2]
  refine repT_ofCompleted _ hk hk h1 h2 ?_ ?_ ?_ ?_ <;> ring

/-- the extended representation (XZ, YZ, Z², XY) of the point that (X, Y, Z) represents -/
def toExtended (p : EPt F) : EPt F := ⟨p.x * p.z, p.y * p.z, p.z * p.z, p.x * p.y, p.coord⟩

theorem toExtended_repT {p : EPt F} {x y : F} (hp : Rep p x y) : RepT (toExtended p) x y := by
  obtain ⟨hz, hx, hy⟩ := hp
  refine ⟨⟨mul_ne_zero hz hz, ?_, ?_⟩, ?_⟩ <;> simp only [toExtended, hx, hy] <;> ring

theorem add_extnd_closed (cv : EdC F) (r p q : EPt F) :
    Ed.ed_add_extnd fieldOps cv r p q = addCompleted cv p q .extnd := by
  simp only [Ed.ed_add_extnd, fieldOps, addCompleted, ofCompleted]

/-- ed_add_projc (Bernstein–Birkner–Joye–Lange–Peters) computes the same quadruple on the extended representations of
    its operands -/
theorem add_projc_closed (cv : EdC F) (r p q : EPt F) :
    Ed.ed_add_projc fieldOps cv r p q =
      { addCompleted cv (toExtended p) (toExtended q) .projc with t := r.t } := by
  simp only [Ed.ed_add_projc, fieldOps, addCompleted, toExtended, ofCompleted, EPt.mk.injEq, and_true, true_and]
  refine ⟨?_, ?_, ?_⟩ <;> ring

theorem add_extnd_correct (cv : EdC F) (r p q : EPt F) (x1 y1 x2 y2 : F) (hp : RepT p x1 y1) (hq : RepT q x2 y2)
    (h1 : 1 + cv.d * x1 * x2 * y1 * y2 ≠ 0) (h2 : 1 - cv.d * x1 * x2 * y1 * y2 ≠ 0) :
    let s := Ed.ed_add_extnd fieldOps cv r p q
    RepT s (addX cv.d x1 y1 x2 y2) (addY cv.a cv.d x1 y1 x2 y2) ∧ s.coord = .extnd := by
  rw [add_extnd_closed]
  exact ⟨addCompleted_repT cv _ hp hq h1 h2, rfl⟩

theorem add_projc_correct (cv : EdC F) (r p q : EPt F) (x1 y1 x2 y2 : F) (hp : Rep p x1 y1) (hq : Rep q x2 y2)
    (h1 : 1 + cv.d * x1 * x2 * y1 * y2 ≠ 0) (h2 : 1 - cv.d * x1 * x2 * y1 * y2 ≠ 0) :
    let s := Ed.ed_add_projc fieldOps cv r p q
    Rep s (addX cv.d x1 y1 x2 y2) (addY cv.a cv.d x1 y1 x2 y2) ∧ s.t = r.t ∧ s.coord = .projc := by
  rw [add_projc_closed]
  exact ⟨(addCompleted_repT cv _ (toExtended_repT hp) (toExtended_repT hq) h1 h2).1.with_t _, rfl, rfl⟩

/-- the doubling of Bernstein–Birkner–Joye–Lange–Peters in completed coordinates, ((2XY : aX² + Y²), (aX² − Y² : aX² + Y² − 2Z²)),
    as ed_dbl_projc and ed_dbl_extnd both compute it -/
def dblCompleted (a X Y Z : F) (c : ECoord) : EPt F :=
  ofCompleted ((X + Y) * (X + Y) - X * X - Y * Y) (a * (X * X) + Y * Y - (Z * Z + Z * Z)) (a * (X * X) + Y * Y)
    (a * (X * X) - Y * Y) c

/-- on the curve the denominators 1 ± d x² y² of the law are a x² + y² and 2 − (a x² + y²) -/
theorem dblCompleted_repT (cv : EdC F) (c : ECoord) (x y Z : F) (hZ : Z ≠ 0) (hc : OnCurve cv x y)
    (h1 : 1 + cv.d * x * x * y * y ≠ 0) (h2 : 1 - cv.d * x * x * y * y ≠ 0) :
    RepT (dblCompleted cv.a (x * Z) (y * Z) Z c) (addX cv.d x y x y) (addY cv.a cv.d x y x y) := by
  have hk := mul_ne_zero hZ hZ
  unfold OnCurve at hc
  refine repT_ofCompleted _ hk (neg_ne_zero.2 hk) h1 h2 ?_ ?_ ?_ ?_
  · ring
  · linear_combination (Z * Z) * hc
  · ring
  · linear_combination (Z * Z) * hc

theorem dbl_projc_closed (cv : EdC F) (r p : EPt F) :
    Ed.ed_dbl_projc fieldOps cv r p = { dblCompleted cv.a p.x p.y p.z .projc with t := r.t } := by
  simp only [Ed.ed_dbl_projc, fieldOps, dblCompleted, ofCompleted, EPt.mk.injEq, and_true, true_and]
  -- the code multiplies Z = g·f in this order
  exact mul_comm _ _

theorem dbl_extnd_closed (cv : EdC F) (r p : EPt F) :
    Ed.ed_dbl_extnd fieldOps cv r p = dblCompleted cv.a p.x p.y p.z .extnd := by
  simp only [Ed.ed_dbl_extnd, fieldOps, dblCompleted, ofCompleted]

theorem dbl_projc_correct (cv : EdC F) (r p : EPt F) (x y : F) (hp : Rep p x y) (hc : OnCurve cv x y)
    (h1 : 1 + cv.d * x * x * y * y ≠ 0) (h2 : 1 - cv.d * x * x * y * y ≠ 0) :
    let s := Ed.ed_dbl_projc fieldOps cv r p
    Rep s (addX cv.d x y x y) (addY cv.a cv.d x y x y) ∧ s.t = r.t ∧ s.coord = .projc := by
  obtain ⟨hz, hx, hy⟩ := hp
  rw [dbl_projc_closed, hx, hy]
  exact ⟨(dblCompleted_repT cv _ x y p.z hz hc h1 h2).1.with_t _, rfl, rfl⟩

theorem dbl_extnd_correct (cv : EdC F) (r p : EPt F) (x y : F) (hp : Rep p x y) (hc : OnCurve cv x y)
    (h1 : 1 + cv.d * x * x * y * y ≠ 0) (h2 : 1 - cv.d * x * x * y * y ≠ 0) :
    let s := Ed.ed_dbl_extnd fieldOps cv r p
    RepT s (addX cv.d x y x y) (addY cv.a cv.d x y x y) ∧ s.coord = .extnd := by
  obtain ⟨hz, hx, hy⟩ := hp
  rw [dbl_extnd_closed, hx, hy]
  exact ⟨dblCompleted_repT cv _ x y p.z hz hc h1 h2, rfl⟩

theorem dbl_basic_correct (cv : EdC F) (r p : EPt F) :
    let s := Ed.ed_dbl_basic fieldOps cv r p
    s.x = addX cv.d p.x p.y p.x p.y ∧ s.y = addY cv.a cv.d p.x p.y p.x p.y ∧ s.z = p.z ∧ s.t = r.t ∧ s.coord = .basic := by
  simp only [Ed.ed_dbl_basic, fieldOps, addX, addY, div_eq_mul_inv, Nat.cast_one, and_true]
  constructor <;> ring

theorem add_basic_correct (cv : EdC F) (r p q : EPt F) :
    let s := Ed.ed_add_basic fieldOps cv r p q
    s.x = addX cv.d p.x p.y q.x q.y ∧ s.y = addY cv.a cv.d p.x p.y q.x q.y ∧ s.z = p.z ∧ s.t = r.t ∧ s.coord = .basic := by
  simp only [Ed.ed_add_basic, fieldOps, addX, addY, div_eq_mul_inv, Nat.cast_one, and_true]
  constructor <;> ring

theorem junk_eq : (EPt.junk fieldOps : EPt F) = ⟨0, 0, 0, 0, .basic⟩ := rfl

theorem sub_projc_correct (cv : EdC F) (r p q : EPt F) (x1 y1 x2 y2 : F) (hp : Rep p x1 y1) (hq : Rep q x2 y2)
    (hb : BasicZ1 q) (h1 : 1 + cv.d * x1 * (-x2) * y1 * y2 ≠ 0) (h2 : 1 - cv.d * x1 * (-x2) * y1 * y2 ≠ 0) :
    let s := Ed.ed_sub_projc fieldOps cv r p q
    Rep s (addX cv.d x1 y1 (-x2) y2) (addY cv.a cv.d x1 y1 (-x2) y2) ∧ s.coord = .projc := by
  rw [ext_sub_projc_eq]
  obtain ⟨ha, _, hc⟩ := add_projc_correct cv r p _ x1 y1 (-x2) y2 hp (neg_projc_correct cv _ q x2 y2 hq hb).1 h1 h2
  exact ⟨ha, hc⟩

/-- the subtrahend ed_sub_extnd builds: ed_neg_projc(t, q) followed by t->t = −q->t -/
theorem neg_with_t (cv : EdC F) (q : EPt F) (x y : F) (hq : RepT q x y) (hb : BasicZ1 q) :
    let n := Ed.ed_neg_projc fieldOps cv (EPt.junk fieldOps) q
    RepT ⟨n.x, n.y, n.z, fieldOps.neg q.t, n.coord⟩ (-x) y := by
  refine ⟨(neg_projc_correct cv _ q x y hq.1 hb).1.with_t _, ?_⟩
  show -q.t = -x * y * (Ed.ed_neg_projc fieldOps cv (EPt.junk fieldOps) q).z
  rw [hq.2]
  -- either q denotes the neutral element and x = 0, or z is copied
  by_cases hi : EPt.isInfty fieldOps q = true
  · rw [(infty_rep q x y hq.1 hb hi).1]; ring
  · simp only [Ed.ed_neg_projc, if_neg hi]; ring

theorem sub_extnd_correct (cv : EdC F) (r p q : EPt F) (x1 y1 x2 y2 : F) (hp : RepT p x1 y1) (hq : RepT q x2 y2)
    (hb : BasicZ1 q) (h1 : 1 + cv.d * x1 * (-x2) * y1 * y2 ≠ 0) (h2 : 1 - cv.d * x1 * (-x2) * y1 * y2 ≠ 0) :
    let s := Ed.ed_sub_extnd fieldOps cv r p q
    RepT s (addX cv.d x1 y1 (-x2) y2) (addY cv.a cv.d x1 y1 (-x2) y2) ∧ s.coord = .extnd := by
  rw [ext_sub_extnd_eq]
  exact add_extnd_correct cv r p _ x1 y1 (-x2) y2 hp (neg_with_t cv q x2 y2 hq hb) h1 h2

/-- the same routine in the builds without the fourth coordinate (PROJC, BASIC); the formula code `ed_add_extnd` is build
    independent (`prj_formulas_eq`) -/
theorem sub_extnd_correct_prj (cv : EdC F) (r p q : EPt F) (x1 y1 x2 y2 : F) (hp : RepT p x1 y1) (hq : RepT q x2 y2)
    (hb : BasicZ1 q) (h1 : 1 + cv.d * x1 * (-x2) * y1 * y2 ≠ 0) (h2 : 1 - cv.d * x1 * (-x2) * y1 * y2 ≠ 0) :
    let s := EdP.ed_sub_extnd fieldOps cv r p q
    RepT s (addX cv.d x1 y1 (-x2) y2) (addY cv.a cv.d x1 y1 (-x2) y2) ∧ s.coord = .extnd := by
  -- the build's ed_neg_projc differs from the other one in T only, which is overwritten
  rw [prj_sub_extnd_eq, prj_neg_projc_eq]
  exact add_extnd_correct cv r p _ x1 y1 (-x2) y2 hp (neg_with_t cv q x2 y2 hq hb) h1 h2

/-- p == q (pointer equality): the neutral element with T = 0, in every build -/
theorem sub_extnd_same (cv : EdC F) (r p : EPt F) :
    RepT (Ed.ed_sub_extnd_a3 fieldOps cv r p) 0 1 ∧ RepT (EdP.ed_sub_extnd_a3 fieldOps cv r p) 0 1 ∧
    RepT (Ed.ed_sub_extnd_a4 fieldOps cv p) 0 1 ∧ RepT (EdP.ed_sub_extnd_a4 fieldOps cv p) 0 1 := by
  simp [Ed.ed_sub_extnd_a3, EdP.ed_sub_extnd_a3, Ed.ed_sub_extnd_a4, EdP.ed_sub_extnd_a4, Ed.ed_set_infty, EdP.ed_set_infty,
    fieldOps, RepT, Rep]

theorem sub_basic_correct (cv : EdC F) (r p q : EPt F) (hc : q.coord = .basic) :
    let s := Ed.ed_sub_basic fieldOps cv r p q
    s.x = addX cv.d p.x p.y (-q.x) q.y ∧ s.y = addY cv.a cv.d p.x p.y (-q.x) q.y ∧ s.z = p.z ∧ s.coord = .basic := by
  obtain ⟨hx, hy, _⟩ := neg_basic_correct cv (EPt.junk fieldOps) q hc
  obtain ⟨ax, ay, az, _, ac⟩ := add_basic_correct cv r p (Ed.ed_neg_basic fieldOps cv (EPt.junk fieldOps) q)
  rw [hx, hy] at ax ay
  exact ⟨ax, ay, az, ac⟩

theorem cross_iff {a b z w : F} (hz : z ≠ 0) (hw : w ≠ 0) : a * z * w - b * w * z = 0 ↔ a = b := by
  rw [sub_eq_zero, mul_assoc, mul_assoc, mul_comm w z, mul_left_inj' (mul_ne_zero hz hw)]

/-- ed_cmp decides equality of the denoted affine points; in the build with extended coordinates this needs the
    invariant T = xyZ on both sides when both are unnormalised -/
theorem cmp_correct (cv : EdC F) (ext : Bool) (p q : EPt F) (x1 y1 x2 y2 : F) (hp : Rep p x1 y1) (hq : Rep q x2 y2)
    (hbp : BasicZ1 p) (hbq : BasicZ1 q)
    (ht : ext = true → p.coord ≠ .basic → q.coord ≠ .basic → p.t = x1 * y1 * p.z ∧ q.t = x2 * y2 * q.z) :
    edCmp fieldOps ext (fun a => Ed.ed_norm fieldOps cv a a) p q = true ↔ (x1 = x2 ∧ y1 = y2) := by
  -- an operand is normalised unless it is flagged affine, and then z = 1: either way the affine coordinates are compared
  have hr : ∀ {a : EPt F} {x y : F}, Rep a x y → BasicZ1 a →
      (if a.coord ≠ .basic then Ed.ed_norm fieldOps cv a a else a).x = x ∧
      (if a.coord ≠ .basic then Ed.ed_norm fieldOps cv a a else a).y = y := by
    intro a x y ha hb
    split_ifs with h
    · exact ⟨(norm_correct cv a a x y ha hb).1, (norm_correct cv a a x y ha hb).2.1⟩
    · rw [ha.2.1, ha.2.2, hb (not_not.1 h), mul_one, mul_one]
      exact ⟨rfl, rfl⟩
  obtain ⟨rx, ry⟩ := hr hp hbp
  obtain ⟨sx, sy⟩ := hr hq hbq
  obtain ⟨hz1, hx1, hy1⟩ := hp
  obtain ⟨hz2, hx2, hy2⟩ := hq
  simp only [edCmp]
  by_cases hc : p.coord ≠ .basic ∧ q.coord ≠ .basic
  · rw [if_pos hc]
    cases ext with
    | true =>
      obtain ⟨t1, t2⟩ := ht rfl hc.1 hc.2
      simp only [if_true, fieldOps, Bool.and_eq_true, decide_eq_true_eq, hx1, hy1, hx2, hy2, t1, t2, cross_iff hz1 hz2]
      exact ⟨fun h => h.2, fun h => ⟨by rw [h.1, h.2], h⟩⟩
    | false =>
      simp only [Bool.false_eq_true, if_false, fieldOps, Bool.and_eq_true, decide_eq_true_eq, hx1, hy1, hx2, hy2, true_and,
        cross_iff hz1 hz2]
  · rw [if_neg hc, rx, ry, sx, sy]
    simp only [fieldOps, Bool.and_eq_true, decide_eq_true_eq, sub_eq_zero]

/-! ### the builds without the fourth coordinate (PROJC, BASIC) -/

theorem norm_correct_prj (cv : EdC F) (r p : EPt F) (x y : F) (hp : Rep p x y) (hb : BasicZ1 p) :
    let s := EdP.ed_norm fieldOps cv r p
    s.x = x ∧ s.y = y ∧ s.z = 1 ∧ (s.coord = .basic ∨ (s.coord = .projc ∧ x = 0 ∧ y = 1)) := by
  obtain ⟨hx, hy, hz, _, hc⟩ := norm_correct cv r p x y hp hb
  rw [prj_norm_eq]
  exact ⟨hx, hy, hz, hc⟩

theorem sub_projc_correct_prj (cv : EdC F) (r p q : EPt F) (x1 y1 x2 y2 : F) (hp : Rep p x1 y1) (hq : Rep q x2 y2)
    (hb : BasicZ1 q) (h1 : 1 + cv.d * x1 * (-x2) * y1 * y2 ≠ 0) (h2 : 1 - cv.d * x1 * (-x2) * y1 * y2 ≠ 0) :
    let s := EdP.ed_sub_projc fieldOps cv r p q
    Rep s (addX cv.d x1 y1 (-x2) y2) (addY cv.a cv.d x1 y1 (-x2) y2) ∧ s.coord = .projc := by
  rw [prj_sub_projc_eq]
  obtain ⟨ha, _, hc⟩ := add_projc_correct cv r p _ x1 y1 (-x2) y2 hp (neg_projc_correct_prj cv _ q x2 y2 hq hb).1 h1 h2
  exact ⟨ha, hc⟩

end Field

end Relic.Lemmas.EdFormulas
