/-
Non-interference for the branch-free language of Model/CtLang.lean: a program that passes the syntactic
discipline `ctL` produces a trace (loop counts and array indices, in order) that depends only on the public
variables of the initial state — not on the contents of any array nor on any secret variable.
-/
import RelicVerif.Model.CtLang

namespace Relic.Model.CtLang

private theorem lookup_filter_ne (l : List (String × Nat)) (x y : String) (h : x ≠ y) :
    (l.filter (·.1 ≠ y)).lookup x = l.lookup x := by
  induction l with
  | nil => rfl
  | cons p l ih =>
    obtain ⟨a, v⟩ := p
    by_cases hay : a = y
    · subst hay
      have hxa : (x == a) = false := by simpa using h
      simpa [List.lookup_cons, hxa] using ih
    · by_cases hxa : x = a
      · subst hxa
        simp [hay]
      · have hxa' : (x == a) = false := by simpa using hxa
        simpa [hay, List.lookup_cons, hxa'] using ih

private theorem get_set_eq (s : St) (x : String) (v : Nat) : (s.set x v).get x = v := by
  simp [St.get, St.set]

private theorem get_set_ne (s : St) (x y : String) (v : Nat) (h : x ≠ y) : (s.set y v).get x = s.get x := by
  have hxy : (x == y) = false := by simpa using h
  simp only [St.get, St.set, List.lookup_cons, hxy]
  rw [lookup_filter_ne _ _ _ h]

private theorem pubEq_set_secret (pub : List String) (s t : St) (x : String) (v v' : Nat)
    (hx : pub.contains x = false) (h : pubEq pub s t) : pubEq pub (s.set x v) (t.set x v') := by
  intro y hy
  have hne : y ≠ x := fun e => by simp [← e, hy] at hx
  rw [get_set_ne _ _ _ _ hne, get_set_ne _ _ _ _ hne]
  exact h y hy

private theorem pubEq_set_both (pub : List String) (s t : St) (i : String) (k : Nat) (h : pubEq pub s t) :
    pubEq (i :: pub) (s.set i k) (t.set i k) := by
  intro y hy
  by_cases hyi : y = i
  · subst hyi
    rw [get_set_eq, get_set_eq]
  · rw [get_set_ne _ _ _ _ hyi, get_set_ne _ _ _ _ hyi]
    exact h y ((List.mem_cons.mp hy).resolve_left hyi)

@[simp] private theorem set_trace (s : St) (x : String) (v : Nat) : (s.set x v).trace = s.trace := rfl
@[simp] private theorem setArr_trace (s : St) (a : String) (l : List Nat) : (s.setArr a l).trace = s.trace := rfl
@[simp] private theorem setArr_vars (s : St) (a : String) (l : List Nat) : (s.setArr a l).vars = s.vars := rfl

private theorem evalE_ni (pub : List String) (s t : St) (hp : pubEq pub s t) (e : E) :
    (idxPubE pub e = true → (evalE s e).2 = (evalE t e).2) ∧ (pubE pub e = true → evalE s e = evalE t e) := by
  induction e with
  | num n => exact ⟨fun _ => rfl, fun _ => rfl⟩
  | var x => exact ⟨fun _ => rfl, fun h => by simp only [evalE, hp x (by simpa [pubE] using h)]⟩
  | idx a i ih =>
    simp only [idxPubE, pubE]
    exact ⟨fun h => by simp only [evalE, ih.2 h], fun h => by cases h⟩
  | neg w e ih | bnot w e ih | lnot e ih | sel e _ _ ih =>
    simp only [idxPubE, pubE]
    exact ⟨fun h => by simp only [evalE, ih.1 h], fun h => by simp only [evalE, ih.2 h]⟩
  | xor a b iha ihb | and a b iha ihb | or a b iha ihb | add a b iha ihb | sub a b iha ihb
    | eq a b iha ihb | ne a b iha ihb =>
    simp only [idxPubE, pubE, Bool.and_eq_true]
    exact ⟨fun h => by simp only [evalE, iha.1 h.1, ihb.1 h.2], fun h => by simp only [evalE, iha.2 h.1, ihb.2 h.2]⟩

private theorem evalS_assign (s : St) (x : String) (w : Nat) (e : E) :
    evalS s (.assign x w e) = ({ s with trace := s.trace ++ (evalE s e).2 }).set x (red w (evalE s e).1) := by
  rw [evalS.eq_1]

private theorem evalS_store (s : St) (a : String) (i : E) (w : Nat) (e : E) :
    evalS s (.store a i w e) =
      (({ s with trace := s.trace ++ (evalE s i).2 ++ (evalE s e).2 ++ [Ev.wr a (evalE s i).1] } : St)).setArr a
        ((({ s with trace := s.trace ++ (evalE s i).2 ++ (evalE s e).2 ++ [Ev.wr a (evalE s i).1] } : St).arr a).set
          (evalE s i).1 (red w (evalE s e).1)) := by
  rw [evalS.eq_2]

private theorem evalS_for (s : St) (i : String) (n : E) (body : List S) :
    evalS s (.for_ i n body) =
      evalFor i body (evalE s n).1 0 { s with trace := s.trace ++ (evalE s n).2 ++ [Ev.loop (evalE s n).1] } := by
  rw [evalS.eq_3]

private theorem evalS_ret (s : St) (e : E) :
    evalS s (.ret e) = { s with trace := s.trace ++ (evalE s e).2, result := some (evalE s e).1 } := by
  rw [evalS.eq_4]

private def NI (body : List S) : Prop :=
  ∀ (pub : List String), ctL pub body = true → ∀ (s t : St), pubEq pub s t → s.trace = t.trace →
    (evalL s body).trace = (evalL t body).trace ∧ pubEq pub (evalL s body) (evalL t body)

private def NIS (st : S) : Prop :=
  ∀ (pub : List String), ctS pub st = true → ∀ (s t : St), pubEq pub s t → s.trace = t.trace →
    (evalS s st).trace = (evalS t st).trace ∧ pubEq pub (evalS s st) (evalS t st)

private theorem evalFor_ni (i : String) (body : List S) (hb : NI body) (pub : List String)
    (h : ctL (i :: pub) body = true) (fuel : Nat) :
    ∀ (k : Nat) (s t : St), pubEq pub s t → s.trace = t.trace →
      (evalFor i body fuel k s).trace = (evalFor i body fuel k t).trace ∧
        pubEq pub (evalFor i body fuel k s) (evalFor i body fuel k t) := by
  induction fuel with
  | zero =>
    intro k s t hp htr
    rw [evalFor.eq_1, evalFor.eq_1]
    exact ⟨htr, hp⟩
  | succ fuel ih =>
    intro k s t hp htr
    rw [evalFor.eq_2, evalFor.eq_2]
    have hstep := hb (i :: pub) h (s.set i k) (t.set i k) (pubEq_set_both pub s t i k hp) htr
    exact ih (k + 1) _ _ (fun x hx => hstep.2 x (List.mem_cons_of_mem _ hx)) hstep.1

private theorem ni_assign (x : String) (w : Nat) (e : E) : NIS (.assign x w e) := by
  intro pub h s t hp htr
  rw [ctS.eq_1] at h
  simp only [Bool.and_eq_true, Bool.not_eq_true'] at h
  rw [evalS_assign, evalS_assign]
  refine ⟨?_, ?_⟩
  · simp only [set_trace, htr, (evalE_ni pub s t hp e).1 h.2]
  · exact pubEq_set_secret pub _ _ x _ _ h.1 hp

private theorem ni_store (a : String) (i : E) (w : Nat) (e : E) : NIS (.store a i w e) := by
  intro pub h s t hp htr
  rw [ctS.eq_2] at h
  simp only [Bool.and_eq_true] at h
  rw [evalS_store, evalS_store]
  refine ⟨?_, ?_⟩
  · simp only [setArr_trace, htr, (evalE_ni pub s t hp i).2 h.1, (evalE_ni pub s t hp e).1 h.2]
  -- `pubEq` reads `vars` only, which updates of the trace and of the arrays leave as they are (by reduction)
  · exact hp

private theorem ni_for (i : String) (n : E) (body : List S) (hb : NI body) : NIS (.for_ i n body) := by
  intro pub h s t hp htr
  rw [ctS.eq_3] at h
  simp only [Bool.and_eq_true] at h
  rw [evalS_for, evalS_for, (evalE_ni pub s t hp n).2 h.1]
  apply evalFor_ni i body hb pub h.2
  · exact hp
  · simp only [htr]

private theorem ni_ret (e : E) : NIS (.ret e) := by
  intro pub h s t hp htr
  rw [ctS.eq_4] at h
  rw [evalS_ret, evalS_ret]
  refine ⟨?_, ?_⟩
  · simp only [htr, (evalE_ni pub s t hp e).1 h]
  · exact hp

private theorem ni_nil : NI [] := by
  intro pub _ s t hp htr
  rw [evalL.eq_1, evalL.eq_1]
  exact ⟨htr, hp⟩

private theorem ni_cons (st : S) (rest : List S) (h1 : NIS st) (h2 : NI rest) : NI (st :: rest) := by
  intro pub h s t hp htr
  rw [ctL.eq_2] at h
  simp only [Bool.and_eq_true] at h
  rw [evalL.eq_2, evalL.eq_2]
  have hs := h1 pub h.1 s t hp htr
  exact h2 pub h.2 _ _ hs.2 hs.1

theorem ctL_noninterference (pub : List String) (body : List S) (h : ctL pub body = true) (s t : St)
    (hp : pubEq pub s t) (htr : s.trace = t.trace) :
    (evalL s body).trace = (evalL t body).trace ∧ pubEq pub (evalL s body) (evalL t body) :=
  S.rec_1 (motive_1 := NIS) (motive_2 := NI) ni_assign ni_store ni_for ni_ret ni_nil ni_cons body pub h s t hp htr

theorem run_trace_independent (p : Prog) (h : isCT p = true) (s t : St) (hp : pubEq p.pub s t)
    (htr : s.trace = t.trace) : (run p s).trace = (run p t).trace :=
  (ctL_noninterference p.pub p.body h s t hp htr).1

end Relic.Model.CtLang
