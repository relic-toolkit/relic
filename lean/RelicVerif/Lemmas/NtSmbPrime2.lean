/-
bn_is_prime_basic: every prime passes; a rejection comes from a table entry that divides n.  bn_is_prime_solov: a round passes for every
prime and every base (Euler's criterion), given that the symbol function returns the Jacobi symbol.
-/
import Mathlib.NumberTheory.LegendreSymbol.JacobiSymbol
import RelicVerif.Lemmas.NtSmbPrime
import RelicVerif.Lemmas.NtMxpLeg
import RelicVerif.Model.NtSmbPrime2

namespace Relic.Lemmas.NtSmbPrime
open Relic.Model.NtSmbPrime

theorem primesAll_ge_two : ∀ p ∈ primesAll, 2 ≤ p := by decide +kernel

theorem primesTab_eq_take : primesTab = primesAll.take 48 := by decide +kernel

theorem basicLoop_prime {n : ℕ} (hp : n.Prime) : ∀ (l : List ℕ), (∀ p ∈ l, 2 ≤ p) → basicLoop n true l = true
  | [], _ => rfl
  | p :: ps, h => by
    unfold basicLoop
    have hp2 : 2 ≤ p := h p (by simp)
    have ih := basicLoop_prime hp ps (fun x hx => h x (by simp [hx]))
    split
    · next hc =>
      exfalso
      obtain ⟨hdiv, hne⟩ := hc
      have hd : p ∣ n := Nat.dvd_of_mod_eq_zero hdiv
      rcases (Nat.dvd_prime hp).mp hd with h1 | h1
      · omega
      · exact hne ⟨rfl, h1.symm⟩
    · exact ih

theorem basic_natCast (w : ℕ) {n : ℕ} (hn : n ≠ 1) : basic w (n : ℤ) = basicLoop n true (primesAll.take (basicTests w)) := by
  unfold basic
  rw [if_neg (by exact_mod_cast hn), Int.natAbs_natCast, decide_eq_true (Int.natCast_nonneg n)]

theorem basicLoop_false {n : ℕ} : ∀ (l : List ℕ), basicLoop n true l = false → ∃ p ∈ l, n % p = 0 ∧ n ≠ p
  | [], h => by simp [basicLoop] at h
  | p :: ps, h => by
    unfold basicLoop at h
    split at h
    · next hc => exact ⟨p, by simp, hc.1, fun e => hc.2 ⟨rfl, e⟩⟩
    · obtain ⟨q, hq, hq2⟩ := basicLoop_false ps h
      exact ⟨q, by simp [hq], hq2⟩

open scoped NumberTheorySymbols

theorem solovRound_prime {n : ℕ} (hp : n.Prime) (hn : 2 < n) (J : ℤ → ℤ → ℤ) {t : ℕ} (hJ : J t n = J((t : ℤ) | n))
    (ht0 : 0 < t) (htn : t < n) : solovRound J n t = true := by
  have : Fact n.Prime := ⟨hp⟩
  have hodd : n % 2 = 1 := hp.mod_two_eq_one_iff_ne_two.2 (by omega)
  have hexp : (n - 1) >>> 1 = n / 2 := by
    rw [Nat.shiftRight_eq_div_pow]
    omega
  have ht1 : ((powMod t ((n - 1) >>> 1) n : ℕ) : ℤ) = legendreSym n t % n := by
    rw [powMod_eq, hexp, Int.natCast_mod, Nat.cast_pow, Relic.Model.NtMxp.pow_half_emod]
  have hn1 : (1 : ℤ) < n := by exact_mod_cast hp.one_lt
  have ht : ((t : ℤ) : ZMod n) ≠ 0 := by rw [Int.cast_natCast]; exact ZModCast.cast_ne_zero_of_lt ht0 htn
  unfold solovRound
  dsimp only
  rw [hJ, ← jacobiSym.legendreSym.to_jacobiSym, ht1, Int.emod_emod_of_dvd _ (dvd_refl _), decide_eq_true rfl, if_neg]
  rcases legendreSym.eq_one_or_neg_one n ht with h1 | h1 <;> rw [h1] at ht1
  · rw [Int.emod_eq_of_lt zero_le_one hn1] at ht1
    exact fun h => h.1 (Nat.cast_eq_one.mp ht1)
  · rw [Relic.Model.NtMxp.neg_one_emod hn1] at ht1
    exact fun h => h.2 (by omega)

end Relic.Lemmas.NtSmbPrime
