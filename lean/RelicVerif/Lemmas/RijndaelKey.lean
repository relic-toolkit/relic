/-
The key schedules of src/bc/rijndael-alg-fst.c (Model/Rijndael.lean: keySetupEnc, keySetupDec) write the FIPS 197 §5.2 expanded
key (Spec/Aes.lean `keyExpansion`), big-endian, for every key of 16 / 24 / 32 bytes.  Both the byte-level `keyExpansion` (array of
4-byte lists) and the three C loops (array of 60 words and a moving pointer) equal one word-level recurrence `W nk w0`.
rijndaelKeySetupDec mirrors the round keys (`swapLoop`) and applies InvMixColumns, through Td0..Td3 of Te4, to all but the first
and the last (`invMixLoop`): the round keys of the equivalent inverse cipher (FIPS 197 §5.3.5), reversed.
-/
import RelicVerif.Lemmas.RijndaelBase

namespace Relic.Lemmas.Rijndael.Key
open Relic.Spec.Aes Relic.Model
open Relic.Lemmas.Aes (tempF kWords kWords_inv keyExpansion_eq)
open Relic.Lemmas.AesTables (X b3_X b2_X b1_X b0_X X_xor X_masks X_diag Te4_col Td0_col Td1_col Td2_col Td3_col)

/-! ## SubWord, RotWord and the word recurrence -/

theorem subRot_X (a b c d : UInt8) : Rijndael.subRot (X a b c d) = X (sbox b) (sbox c) (sbox d) (sbox a) := by
  unfold Rijndael.subRot
  rw [b3_X, b2_X, b1_X, b0_X, Te4_col.diag, Te4_col.diag, Te4_col.diag, Te4_col.diag, X_diag]

theorem subWord_X (a b c d : UInt8) : Rijndael.subWord (X a b c d) = X (sbox a) (sbox b) (sbox c) (sbox d) := by
  unfold Rijndael.subWord
  rw [b3_X, b2_X, b1_X, b0_X, Te4_col.diag, Te4_col.diag, Te4_col.diag, Te4_col.diag, X_diag]

def rconW (i : Nat) : UInt32 := (Spec.Aes.rcon i).toUInt32 <<< (24 : UInt32)

def gW (nk i : Nat) (t : UInt32) : UInt32 :=
  if i % nk = 0 then Rijndael.subRot t ^^^ rconW (i / nk)
  else if nk > 6 ∧ i % nk = 4 then Rijndael.subWord t else t

/-- FIPS 197 §5.2 on words: w[i] = w[i - Nk] ^ g(w[i - 1]) -/
def W (nk : Nat) (w0 : Nat → UInt32) (m : Nat) : UInt32 :=
  if m < nk ∨ nk = 0 then w0 m else W nk w0 (m - nk) ^^^ gW nk m (W nk w0 (m - 1))
termination_by m
decreasing_by all_goals omega

theorem W_lt (nk : Nat) (w0 : Nat → UInt32) (m : Nat) (h : m < nk) : W nk w0 m = w0 m := by
  rw [W, if_pos (Or.inl h)]

theorem W_ge (nk : Nat) (w0 : Nat → UInt32) (m : Nat) (h0 : 0 < nk) (h : nk ≤ m) :
    W nk w0 m = W nk w0 (m - nk) ^^^ gW nk m (W nk w0 (m - 1)) := by
  rw [W, if_neg (by omega)]

/-! ## the byte-level KeyExpansion is the word recurrence -/

def toW (l : Bytes) : UInt32 := Rijndael.getu32 l 0

theorem toW_four (a b c d : UInt8) : toW [a, b, c, d] = X a b c d := rfl

theorem exists_four (l : Bytes) (h : l.length = 4) : ∃ a b c d, l = [a, b, c, d] := by
  match l, h with
  | [a, b, c, d], _ => exact ⟨a, b, c, d, rfl⟩

theorem rconW_X (n : Nat) : rconW n = X (Spec.Aes.rcon n) 0 0 0 := by
  unfold rconW X
  simp

theorem step_word (nk i : Nat) (u t : Bytes) (hu : u.length = 4) (ht : t.length = 4) :
    (List.zipWith (· ^^^ ·) u (tempF nk i t)).length = 4 ∧
    toW (List.zipWith (· ^^^ ·) u (tempF nk i t)) = toW u ^^^ gW nk i (toW t) := by
  obtain ⟨a, b, c, d, rfl⟩ := exists_four u hu
  obtain ⟨p, q, r, s, rfl⟩ := exists_four t ht
  unfold tempF gW
  split
  · refine ⟨rfl, ?_⟩
    rw [toW_four, toW_four, subRot_X, rconW_X, X_xor, X_xor]
    rfl
  · split
    · refine ⟨rfl, ?_⟩
      rw [toW_four, toW_four, subWord_X, X_xor]
      rfl
    · refine ⟨rfl, ?_⟩
      rw [toW_four, toW_four, X_xor]
      rfl

def keyW (key : Bytes) (i : Nat) : UInt32 := Rijndael.getu32 key (4 * i)

theorem kWords_spec (key : Bytes) (h4 : 4 ≤ key.length) :
    (kWords key).size = 4 * (key.length / 4 + 6 + 1) ∧
    ∀ m, m < (kWords key).size → ((kWords key).getD m []).length = 4 ∧
      toW ((kWords key).getD m []) = W (key.length / 4) (keyW key) m :=
  kWords_inv key h4 (fun m l => l.length = 4 ∧ toW l = W (key.length / 4) (keyW key) m)
    (fun i hi => by
      rw [W_lt _ _ _ hi]
      have h3 : 4 * i + 3 < key.length := by omega
      simp [toW, keyW, Rijndael.getu32, List.getD_eq_getElem?_getD, List.getElem?_drop]
      omega)
    (fun m u t hm ⟨hu, hu'⟩ ⟨ht, ht'⟩ => by
      have hstep := step_word (key.length / 4) m u t hu ht
      rw [ht', hu'] at hstep
      exact ⟨hstep.1, hstep.2.trans (W_ge _ _ m (by omega) hm).symm⟩)

theorem keyExpansion_W (key : Bytes) (h4 : 4 ≤ key.length) :
    ∀ r, r < key.length / 4 + 6 + 1 → ∀ c, c < 4 →
      Rijndael.getu32 ((keyExpansion key).getD r []) (4 * c) = W (key.length / 4) (keyW key) (4 * r + c) := by
  obtain ⟨hsz, hall⟩ := kWords_spec key h4
  rw [keyExpansion_eq]
  intro r hr c hc
  simp only [List.getD_eq_getElem?_getD, List.getElem?_map, List.getElem?_range hr, Option.map_some,
    Option.getD_some, Relic.Lemmas.Aes.range4, List.flatMap_cons, List.flatMap_nil, List.append_nil]
  obtain ⟨l0, e0⟩ := hall (4 * r + 0) (by omega)
  obtain ⟨l1, e1⟩ := hall (4 * r + 1) (by omega)
  obtain ⟨l2, e2⟩ := hall (4 * r + 2) (by omega)
  obtain ⟨l3, e3⟩ := hall (4 * r + 3) (by omega)
  obtain ⟨a0, b0, c0, d0, f0⟩ := exists_four _ l0
  obtain ⟨a1, b1, c1, d1, f1⟩ := exists_four _ l1
  obtain ⟨a2, b2, c2, d2, f2⟩ := exists_four _ l2
  obtain ⟨a3, b3, c3, d3, f3⟩ := exists_four _ l3
  rw [f0] at e0; rw [f1] at e1; rw [f2] at e2; rw [f3] at e3
  rw [f0, f1, f2, f3]
  have hc' : c = 0 ∨ c = 1 ∨ c = 2 ∨ c = 3 := by omega
  rcases hc' with rfl | rfl | rfl | rfl
  · exact e0
  · exact e1
  · exact e2
  · exact e3

/-- the first n words of the array are the first n values of V; the array has the 60 words of the C caller -/
def Agree (rk : Array UInt32) (n : Nat) (V : Nat → UInt32) : Prop :=
  rk.size = 60 ∧ ∀ m, m < n → rk.getD m 0 = V m

theorem getD_setIfInBounds (rk : Array UInt32) (p m : Nat) (v : UInt32) (hp : p < rk.size) :
    (rk.setIfInBounds p v).getD m 0 = if m = p then v else rk.getD m 0 := by
  simp only [Array.getD_eq_getD_getElem?, Array.getElem?_setIfInBounds]
  by_cases h : p = m
  · subst h; simp [hp]
  · have h' : ¬ m = p := fun e => h e.symm
    simp [h, h']

theorem Agree.wr {rk : Array UInt32} {n : Nat} {V : Nat → UInt32} (h : Agree rk n V) (off k : Nat) (v : UInt32)
    (hk : off + k = n) (hn : n < 60) (hv : v = V n) : Agree (Rijndael.wr rk off k v) (n + 1) V := by
  unfold Rijndael.wr
  refine ⟨by simp [h.1], ?_⟩
  intro m hm
  rw [getD_setIfInBounds _ _ _ _ (by rw [h.1]; omega), hk]
  split
  · rename_i e; rw [e, hv]
  · exact h.2 m (by omega)

theorem Agree.rd {rk : Array UInt32} {n : Nat} {V : Nat → UInt32} (h : Agree rk n V) (off k : Nat)
    (hlt : off + k < n) : Rijndael.rd rk off k = V (off + k) := h.2 _ hlt

theorem Agree.mono {rk : Array UInt32} {n n' : Nat} {V : Nat → UInt32} (h : Agree rk n V) (e : n' ≤ n) :
    Agree rk n' V := ⟨h.1, fun m hm => h.2 m (by omega)⟩

theorem rcon_eq (i : Nat) (hi : i < 10) : Gen.AesTables.rcon.getD i 0 = rconW (i + 1) :=
  Relic.Lemmas.AesTables.rcon_spec i hi

/-! Every statement of the three loops writes `rk[n] = rk[n - Nk] ^ g(rk[n - 1])` for the next index `n = Nk·i + j`, relative
to the moving pointer `Nk·i`: the three forms of `g`. -/

/-- `rk[Nk] = rk[0] ^ SubWord(RotWord(rk[Nk - 1])) ^ rcon[i]` -/
theorem Agree.rot {rk : Array UInt32} {nk : Nat} {w0 : Nat → UInt32} (i : Nat) (h : Agree rk (nk * i + nk) (W nk w0))
    (h60 : nk * i + nk < 60) (hi : i < 10) (hnk : 0 < nk) :
    Agree (Rijndael.wr rk (nk * i) nk (Rijndael.rd rk (nk * i) 0 ^^^ Rijndael.subRot (Rijndael.rd rk (nk * i) (nk - 1)) ^^^
      Gen.AesTables.rcon.getD i 0)) (nk * i + nk + 1) (W nk w0) := by
  refine h.wr _ nk _ rfl h60 ?_
  rw [h.rd _ _ (by omega), h.rd _ _ (by omega), rcon_eq i hi, UInt32.xor_assoc, W_ge nk w0 (nk * i + nk) hnk (by omega), gW,
    if_pos (by rw [← Nat.mul_succ]; exact Nat.mul_mod_right nk _),
    show (nk * i + nk) / nk = i + 1 by rw [← Nat.mul_succ]; exact Nat.mul_div_cancel_left _ hnk,
    show nk * i + nk - nk = nk * i + 0 by omega, show nk * i + nk - 1 = nk * i + (nk - 1) by omega]

/-- `rk[j] = rk[j - Nk] ^ rk[j - 1]` -/
theorem Agree.plain {rk : Array UInt32} {nk : Nat} {w0 : Nat → UInt32} (i j : Nat) (h : Agree rk (nk * i + j) (W nk w0))
    (h60 : nk * i + j < 60) (hj : nk < j ∧ j < 2 * nk ∧ ¬ (nk > 6 ∧ j = nk + 4)) :
    Agree (Rijndael.wr rk (nk * i) j (Rijndael.rd rk (nk * i) (j - nk) ^^^ Rijndael.rd rk (nk * i) (j - 1))) (nk * i + j + 1)
      (W nk w0) := by
  have hmod : (nk * i + j) % nk = j - nk := by
    rw [Nat.mul_add_mod, Nat.mod_eq_sub_mod (by omega), Nat.mod_eq_of_lt (by omega)]
  refine h.wr _ j _ rfl h60 ?_
  rw [h.rd _ _ (by omega), h.rd _ _ (by omega), W_ge nk w0 (nk * i + j) (by omega) (by omega), gW, if_neg (by omega),
    if_neg (by omega), show nk * i + j - nk = nk * i + (j - nk) by omega, show nk * i + j - 1 = nk * i + (j - 1) by omega]

/-- `rk[Nk + 4] = rk[4] ^ SubWord(rk[Nk + 3])`, AES-256 only -/
theorem Agree.sub {rk : Array UInt32} {nk : Nat} {w0 : Nat → UInt32} (i : Nat) (h : Agree rk (nk * i + (nk + 4)) (W nk w0))
    (h60 : nk * i + (nk + 4) < 60) (hnk : 6 < nk) :
    Agree (Rijndael.wr rk (nk * i) (nk + 4) (Rijndael.rd rk (nk * i) 4 ^^^ Rijndael.subWord (Rijndael.rd rk (nk * i) (nk + 3))))
      (nk * i + (nk + 4) + 1) (W nk w0) := by
  have hmod : (nk * i + (nk + 4)) % nk = 4 := by
    rw [Nat.mul_add_mod, Nat.mod_eq_sub_mod (by omega), Nat.add_sub_cancel_left, Nat.mod_eq_of_lt (by omega)]
  refine h.wr _ _ _ rfl h60 ?_
  rw [h.rd _ _ (by omega), h.rd _ _ (by omega), W_ge nk w0 (nk * i + (nk + 4)) (by omega) (by omega), gW, if_neg (by omega),
    if_pos ⟨hnk, hmod⟩, show nk * i + (nk + 4) - nk = nk * i + 4 by omega,
    show nk * i + (nk + 4) - 1 = nk * i + (nk + 3) by omega]

/-- `rk[k] = GETU32(cipherKey + 4k)` -/
theorem Agree.key {rk : Array UInt32} {k nk : Nat} {key : Bytes} (h : Agree rk k (W nk (keyW key))) (hk : k < nk)
    (hn : k < 60) : Agree (Rijndael.wr rk 0 k (Rijndael.getu32 key (4 * k))) (k + 1) (W nk (keyW key)) :=
  h.wr 0 k _ (Nat.zero_add k) hn (W_lt nk (keyW key) k hk).symm

theorem loop128_ok (w0 : Nat → UInt32) : ∀ fuel rk i, i + fuel = 10 → Agree rk (4 * i + 4) (W 4 w0) →
    Agree (Rijndael.loop128 fuel rk (4 * i) i) 44 (W 4 w0) := by
  intro fuel
  induction fuel with
  | zero => exact fun rk i hi h => h.mono (by omega)
  | succ fuel ih =>
    intro rk i hi h
    rw [Rijndael.loop128]
    have a4 := (((h.rot i (by omega) (by omega) (by omega)).plain i 5 (by omega) (by decide)).plain i 6 (by omega)
      (by decide)).plain i 7 (by omega) (by decide)
    by_cases hlast : i + 1 = 10
    · rw [if_pos (by simp; omega)]
      exact a4.mono (by omega)
    · rw [if_neg (by simp; omega)]
      exact ih _ (i + 1) (by omega) a4

theorem loop192_ok (w0 : Nat → UInt32) : ∀ fuel rk i, i + fuel = 8 → Agree rk (6 * i + 6) (W 6 w0) →
    Agree (Rijndael.loop192 fuel rk (6 * i) i) 52 (W 6 w0) := by
  intro fuel
  induction fuel with
  | zero => exact fun rk i hi h => h.mono (by omega)
  | succ fuel ih =>
    intro rk i hi h
    rw [Rijndael.loop192]
    have a4 := (((h.rot i (by omega) (by omega) (by omega)).plain i 7 (by omega) (by decide)).plain i 8 (by omega)
      (by decide)).plain i 9 (by omega) (by decide)
    by_cases hlast : i + 1 = 8
    · rw [if_pos (by simp; omega)]
      exact a4.mono (by omega)
    · rw [if_neg (by simp; omega)]
      exact ih _ (i + 1) (by omega) ((a4.plain i 10 (by omega) (by decide)).plain i 11 (by omega) (by decide))

theorem loop256_ok (w0 : Nat → UInt32) : ∀ fuel rk i, i + fuel = 7 → Agree rk (8 * i + 8) (W 8 w0) →
    Agree (Rijndael.loop256 fuel rk (8 * i) i) 60 (W 8 w0) := by
  intro fuel
  induction fuel with
  | zero => exact fun rk i hi h => h.mono (by omega)
  | succ fuel ih =>
    intro rk i hi h
    rw [Rijndael.loop256]
    have a4 := (((h.rot i (by omega) (by omega) (by omega)).plain i 9 (by omega) (by decide)).plain i 10 (by omega)
      (by decide)).plain i 11 (by omega) (by decide)
    by_cases hlast : i + 1 = 7
    · rw [if_pos (by simp; omega)]
      exact a4.mono (by omega)
    · rw [if_neg (by simp; omega)]
      exact ih _ (i + 1) (by omega) ((((a4.sub i (by omega) (by omega)).plain i 13 (by omega) (by decide)).plain i 14
        (by omega) (by decide)).plain i 15 (by omega) (by decide))

theorem Agree_init (V : Nat → UInt32) : Agree (Array.replicate Rijndael.rkWords 0) 0 V :=
  ⟨by simp [Rijndael.rkWords], fun m hm => absurd hm (Nat.not_lt_zero _)⟩

theorem keySetupEnc_agree (key : Bytes) (hk : key.length = 16 ∨ key.length = 24 ∨ key.length = 32) :
    ∃ rk, Rijndael.keySetupEnc key = some (rk, key.length / 4 + 6) ∧
      Agree rk (4 * (key.length / 4 + 6 + 1)) (W (key.length / 4) (keyW key)) := by
  rcases hk with h | h | h <;> rw [h]
  · exact ⟨_, by simp [Rijndael.keySetupEnc, h], loop128_ok (keyW key) 10 _ 0 rfl
      (((((Agree_init _).key (by omega) (by omega)).key (by omega) (by omega)).key (by omega) (by omega)).key
        (by omega) (by omega))⟩
  · exact ⟨_, by simp [Rijndael.keySetupEnc, h], loop192_ok (keyW key) 8 _ 0 rfl
      (((((((Agree_init _).key (by omega) (by omega)).key (by omega) (by omega)).key (by omega) (by omega)).key
        (by omega) (by omega)).key (by omega) (by omega)).key (by omega) (by omega))⟩
  · exact ⟨_, by simp [Rijndael.keySetupEnc, h], loop256_ok (keyW key) 7 _ 0 rfl
      (((((((((Agree_init _).key (by omega) (by omega)).key (by omega) (by omega)).key (by omega) (by omega)).key
        (by omega) (by omega)).key (by omega) (by omega)).key (by omega) (by omega)).key (by omega) (by omega)).key
        (by omega) (by omega))⟩

theorem keySetupEnc_ok (key : Bytes) (hk : key.length = 16 ∨ key.length = 24 ∨ key.length = 32) :
    ∃ rk, Rijndael.keySetupEnc key = some (rk, key.length / 4 + 6) ∧ RkOK rk (keyExpansion key) ∧
      (keyExpansion key).length = key.length / 4 + 6 + 1 := by
  obtain ⟨rk, e, ag⟩ := keySetupEnc_agree key hk
  have hl := Relic.Lemmas.Aes.length_keyExpansion key
  have hw := keyExpansion_W key (by omega)
  refine ⟨rk, e, fun r hr c hc => ?_, hl⟩
  rw [hl] at hr
  rw [hw r hr c hc]
  exact ag.2 _ (by omega)

/-! ## InvMixColumns of one key word through Td0 .. Td3 of Te4 -/

theorem invMixWord_X (a b c d : UInt8) : Rijndael.invMixWord (X a b c d) =
    X (Relic.Lemmas.Aes.row 0x0e 0x0b 0x0d 0x09 a b c d) (Relic.Lemmas.Aes.row 0x09 0x0e 0x0b 0x0d a b c d)
      (Relic.Lemmas.Aes.row 0x0d 0x09 0x0e 0x0b a b c d) (Relic.Lemmas.Aes.row 0x0b 0x0d 0x09 0x0e a b c d) := by
  unfold Rijndael.invMixWord
  rw [b3_X, b2_X, b1_X, b0_X, Te4_col.diag, Te4_col.diag, Te4_col.diag, Te4_col.diag, (X_masks _ _ _ _).2.2.2, (X_masks _ _ _ _).2.2.2,
    (X_masks _ _ _ _).2.2.2, (X_masks _ _ _ _).2.2.2, Td0_col, Td1_col, Td2_col, Td3_col]
  simp only [Relic.Lemmas.Aes.invSbox_sbox]
  unfold Relic.Lemmas.Aes.row
  rw [X_xor, X_xor, X_xor]

theorem invMixWord_toW (a b c d : UInt8) :
    Rijndael.invMixWord (toW [a, b, c, d]) = toW (mixColumn [0x0e, 0x0b, 0x0d, 0x09] [a, b, c, d]) := by
  rw [Relic.Lemmas.Aes.mixColumn_four, toW_four, toW_four, invMixWord_X]

theorem invMixColumns_word (s : Bytes) (h : s.length = 16) (c : Nat) (hc : c < 4) :
    Rijndael.getu32 (invMixColumns s) (4 * c) = Rijndael.invMixWord (Rijndael.getu32 s (4 * c)) := by
  obtain ⟨a0, a1, a2, a3, a4, a5, a6, a7, a8, a9, a10, a11, a12, a13, a14, a15, rfl⟩ :=
    Relic.Lemmas.Aes.exists_sixteen s h
  unfold invMixColumns
  rw [Relic.Lemmas.Aes.mixColumns_sixteen]
  simp only [Relic.Lemmas.Aes.mixColumn_four, List.cons_append, List.nil_append]
  have hc' : c = 0 ∨ c = 1 ∨ c = 2 ∨ c = 3 := by omega
  rcases hc' with rfl | rfl | rfl | rfl
  · exact (invMixWord_X a0 a1 a2 a3).symm
  · exact (invMixWord_X a4 a5 a6 a7).symm
  · exact (invMixWord_X a8 a9 a10 a11).symm
  · exact (invMixWord_X a12 a13 a14 a15).symm

/-! ## rijndaelKeySetupDec: the swap loop -/

/- The array is read by round key and column, `rk[4r + c]`.  One pass of the loop body exchanges the round keys `t` and `Nr - t`
column by column; on the index of the round key this is `swapRow`, and `t` passes make `mirR`. -/

def swapRow (p q r : Nat) : Nat := if r = p then q else if r = q then p else r

/-- the round keys below `t` and above `nr - t` are mirrored -/
def mirR (nr t r : Nat) : Nat := if r < t ∨ (nr < r + t ∧ r ≤ nr) then nr - r else r

theorem mirR_succ (nr t r : Nat) (ht : t < nr - t) : mirR nr t (swapRow t (nr - t) r) = mirR nr (t + 1) r := by
  unfold swapRow
  by_cases h1 : r = t
  · subst h1
    rw [if_pos rfl, mirR, if_neg (by omega), mirR, if_pos (by omega)]
  · rw [if_neg h1]
    by_cases h2 : r = nr - t
    · subst h2
      rw [if_pos rfl, mirR, if_neg (by omega), mirR, if_pos (by omega)]; omega
    · rw [if_neg h2]
      unfold mirR
      split <;> split <;> omega

theorem mirR_exit (nr t r : Nat) (h1 : nr ≤ 2 * t) (h2 : 2 * t ≤ nr + 1) (hr : r ≤ nr) : mirR nr t r = nr - r := by
  unfold mirR
  split <;> omega

/-- `temp = rk[x]; rk[x] = rk[y]; rk[y] = temp` reads the old array through the transposition of `x` and `y` -/
theorem getD_swap (a : Array UInt32) (x y m : Nat) (hx : x < a.size) (hy : y < a.size) :
    ((a.setIfInBounds x (a.getD y 0)).setIfInBounds y (a.getD x 0)).getD m 0 =
      a.getD (if m = y then x else if m = x then y else m) 0 := by
  rw [getD_setIfInBounds _ _ _ _ (by simpa using hy), getD_setIfInBounds _ _ _ _ hx]
  split
  · rfl
  · split <;> rfl

/-- the local function `swap` of the loop body -/
def swapCol (a : Array UInt32) (i j k : Nat) : Array UInt32 :=
  (a.setIfInBounds (i + k) (a.getD (j + k) 0)).setIfInBounds (j + k) (a.getD (i + k) 0)

theorem swapLoop_succ (fuel : Nat) (a : Array UInt32) (i j : Nat) :
    Rijndael.swapLoop (fuel + 1) a i j =
      if i < j then Rijndael.swapLoop fuel (swapCol (swapCol (swapCol (swapCol a i j 0) i j 1) i j 2) i j 3) (i + 4) (j - 4)
      else a := rfl

theorem swapCol_rows (a : Array UInt32) (p q k : Nat) (hq : 4 * q + 4 ≤ a.size) (hpq : p < q) (hk : k < 4) (r c : Nat) (hc : c < 4) :
    (swapCol a (4 * p) (4 * q) k).getD (4 * r + c) 0 = a.getD (4 * (if c = k then swapRow p q r else r) + c) 0 := by
  rw [swapCol, getD_swap _ _ _ _ (by omega) (by omega)]
  by_cases hck : c = k
  · subst hck
    rw [if_pos rfl, swapRow]
    by_cases hrp : r = p
    · rw [if_pos hrp, if_neg (by omega), if_pos (by omega)]
    · rw [if_neg hrp]
      by_cases hrq : r = q
      · rw [if_pos hrq, if_pos (by omega)]
      · rw [if_neg hrq, if_neg (by omega), if_neg (by omega)]
  · rw [if_neg hck, if_neg (by omega), if_neg (by omega)]

theorem swapCol_size (a : Array UInt32) (i j k : Nat) : (swapCol a i j k).size = a.size := by simp [swapCol]

theorem swapBody_rows (a : Array UInt32) (p q : Nat) (hq : 4 * q + 4 ≤ a.size) (hpq : p < q) (r c : Nat) (hc : c < 4) :
    (swapCol (swapCol (swapCol (swapCol a (4 * p) (4 * q) 0) (4 * p) (4 * q) 1) (4 * p) (4 * q) 2) (4 * p) (4 * q) 3).getD
      (4 * r + c) 0 = a.getD (4 * swapRow p q r + c) 0 := by
  rw [swapCol_rows _ p q 3 (by simpa only [swapCol_size] using hq) hpq (by decide) r c hc,
    swapCol_rows _ p q 2 (by simpa only [swapCol_size] using hq) hpq (by decide) _ c hc,
    swapCol_rows _ p q 1 (by simpa only [swapCol_size] using hq) hpq (by decide) _ c hc,
    swapCol_rows _ p q 0 hq hpq (by decide) _ c hc]
  have hc' : c = 0 ∨ c = 1 ∨ c = 2 ∨ c = 3 := by omega
  rcases hc' with rfl | rfl | rfl | rfl <;> rfl

theorem swapLoop_ok (nr : Nat) (g : Nat → UInt32) (hnr : nr ≤ 14) : ∀ fuel a t, nr ≤ fuel + 2 * t → 2 * t ≤ nr + 1 →
    a.size = 60 → (∀ r c, c < 4 → a.getD (4 * r + c) 0 = g (4 * mirR nr t r + c)) →
    (Rijndael.swapLoop fuel a (4 * t) (4 * (nr - t))).size = 60 ∧
    ∀ r c, r ≤ nr → c < 4 → (Rijndael.swapLoop fuel a (4 * t) (4 * (nr - t))).getD (4 * r + c) 0 = g (4 * (nr - r) + c) := by
  have hexit : ∀ (a : Array UInt32) t, nr ≤ 2 * t → 2 * t ≤ nr + 1 →
      (∀ r c, c < 4 → a.getD (4 * r + c) 0 = g (4 * mirR nr t r + c)) →
      ∀ r c, r ≤ nr → c < 4 → a.getD (4 * r + c) 0 = g (4 * (nr - r) + c) :=
    fun a t h1 h2 h r c hr hc => by rw [h r c hc, mirR_exit nr t r h1 h2 hr]
  intro fuel
  induction fuel with
  | zero => exact fun a t hf ht hsz h => ⟨hsz, hexit a t (by omega) ht h⟩
  | succ fuel ih =>
    intro a t hf ht hsz h
    rw [swapLoop_succ]
    by_cases hlt : 4 * t < 4 * (nr - t)
    · rw [if_pos hlt, show 4 * t + 4 = 4 * (t + 1) by omega, show 4 * (nr - t) - 4 = 4 * (nr - (t + 1)) by omega]
      exact ih _ (t + 1) (by omega) (by omega) (by simp only [swapCol_size, hsz])
        (fun r c hc => by
          rw [swapBody_rows a t (nr - t) (by omega) (by omega) r c hc, h _ c hc, mirR_succ nr t r (by omega)])
    · rw [if_neg hlt]
      exact ⟨hsz, hexit a t (by omega) ht h⟩

/-! ## rijndaelKeySetupDec: the InvMixColumns loop, and the whole function -/

/-- the reading function after the words o .. o + k - 1 have been replaced by their `invMixWord` -/
def st (f : Nat → UInt32) (o k m : Nat) : UInt32 :=
  if o ≤ m ∧ m < o + k then Rijndael.invMixWord (f m) else f m

/-- `rk[p] = invMixWord(rk[p])` at the first word `p = o + n` not yet replaced -/
theorem mix_stage (f : Nat → UInt32) (a : Array UInt32) (o n : Nat) (hsz : a.size = 60)
    (h : ∀ m, a.getD m 0 = st f o n m) (off k : Nat) (hp : off + k = o + n) (ho : o + n < 60) :
    (Rijndael.wr a off k (Rijndael.invMixWord (Rijndael.rd a off k))).size = 60 ∧
      ∀ m, (Rijndael.wr a off k (Rijndael.invMixWord (Rijndael.rd a off k))).getD m 0 = st f o (n + 1) m := by
  unfold Rijndael.wr Rijndael.rd
  refine ⟨by simp [hsz], ?_⟩
  intro m
  rw [getD_setIfInBounds _ _ _ _ (by rw [hsz]; omega), hp]
  by_cases hm : m = o + n
  · subst hm
    rw [if_pos rfl, h]
    unfold st
    rw [if_neg (show ¬ (o ≤ o + n ∧ o + n < o + n) by omega),
      if_pos (show o ≤ o + n ∧ o + n < o + (n + 1) by omega)]
  · rw [if_neg hm, h]
    unfold st
    by_cases hin : o ≤ m ∧ m < o + n
    · rw [if_pos hin, if_pos (show o ≤ m ∧ m < o + (n + 1) by omega)]
    · rw [if_neg hin, if_neg (show ¬ (o ≤ m ∧ m < o + (n + 1)) by omega)]

theorem invMixLoop_ok (g : Nat → UInt32) : ∀ cnt a s, 4 + 4 * (s + cnt) + 4 ≤ 60 → a.size = 60 →
    (∀ m, a.getD m 0 = st g 4 (4 * s) m) →
    (Rijndael.invMixLoop cnt a (4 * s)).size = 60 ∧
    ∀ m, (Rijndael.invMixLoop cnt a (4 * s)).getD m 0 = st g 4 (4 * (s + cnt)) m := by
  intro cnt
  induction cnt with
  | zero => exact fun a s _ hsz h => ⟨hsz, h⟩
  | succ cnt ih =>
    intro a s hb hsz h
    rw [Rijndael.invMixLoop]
    obtain ⟨z1, s1⟩ := mix_stage g a 4 (4 * s) hsz h (4 * s + 4) 0 (by omega) (by omega)
    obtain ⟨z2, s2⟩ := mix_stage g _ 4 _ z1 s1 (4 * s + 4) 1 (by omega) (by omega)
    obtain ⟨z3, s3⟩ := mix_stage g _ 4 _ z2 s2 (4 * s + 4) 2 (by omega) (by omega)
    obtain ⟨z4, s4⟩ := mix_stage g _ 4 _ z3 s3 (4 * s + 4) 3 (by omega) (by omega)
    rw [show s + (cnt + 1) = (s + 1) + cnt by omega]
    exact ih _ (s + 1) (by omega) z4 s4

theorem keySetupDec_ok (key : Bytes) (hk : key.length = 16 ∨ key.length = 24 ∨ key.length = 32) :
    ∃ rk, Rijndael.keySetupDec key = some (rk, key.length / 4 + 6) ∧
      RkOK rk (eqInvKeys (keyExpansion key)).reverse := by
  obtain ⟨rk, he, ag⟩ := keySetupEnc_agree key hk
  generalize hnr : key.length / 4 + 6 = nr at he ag
  have hnr14 : nr ≤ 14 := by omega
  refine ⟨Rijndael.invMixLoop (nr - 1) (Rijndael.swapLoop (nr + 1) rk 0 (4 * nr)) 0, ?_, ?_⟩
  · simp only [Rijndael.keySetupDec, he]
  · have hl := Relic.Lemmas.Aes.length_keyExpansion key
    have hw := keyExpansion_W key (by omega)
    rw [hnr] at hl hw
    obtain ⟨hne, h16⟩ := Relic.Lemmas.Aes.keyExpansion_length_of_ge key (by omega)
    obtain ⟨zs, hs⟩ := swapLoop_ok nr (fun m => rk.getD m 0) hnr14 (nr + 1) rk 0 (by omega) (by omega) ag.1
      (fun r c _ => by rw [mirR, if_neg (by omega)])
    rw [Nat.mul_zero, show 4 * (nr - 0) = 4 * nr from rfl] at zs hs
    generalize Rijndael.swapLoop (nr + 1) rk 0 (4 * nr) = sw at zs hs
    obtain ⟨_, hm⟩ := invMixLoop_ok (fun m => sw.getD m 0) (nr - 1) sw 0 (by omega) zs
      (fun m => by rw [st, if_neg (by omega)])
    rw [Nat.mul_zero] at hm
    generalize Rijndael.invMixLoop (nr - 1) sw 0 = fin at hm
    intro r hr c hc
    rw [List.length_reverse, Relic.Lemmas.AesEqInv.eqInvKeys_length _ hne, hl] at hr
    rw [Relic.Lemmas.Aes.getD_reverse _ _ (by rw [Relic.Lemmas.AesEqInv.eqInvKeys_length _ hne, hl]; exact hr),
      Relic.Lemmas.AesEqInv.eqInvKeys_length _ hne, hl,
      Relic.Lemmas.AesEqInv.eqInvKeys_getD _ _ (by rw [hl]; omega), hl]
    have hsw : sw.getD (4 * r + c) 0 = Rijndael.getu32 ((keyExpansion key).getD (nr + 1 - 1 - r) []) (4 * c) := by
      rw [hs r c (by omega) hc, hw (nr + 1 - 1 - r) (by omega) c hc]
      exact ag.2 _ (by omega)
    rw [hm (4 * r + c), st]
    split
    · rw [if_neg (by omega), hsw]
      exact (invMixColumns_word _ (Relic.Lemmas.Aes.getD_length16 _ h16 _ (by rw [hl]; omega)) c hc).symm
    · rw [if_pos (by omega)]
      exact hsw

end Relic.Lemmas.Rijndael.Key
