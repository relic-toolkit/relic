/-
The formulas regenerated from the C text (RelicVerif/Gen/Fpx.lean, written by tools/translate_fpx.py from
src/fpx/*.c on every run) ARE the definitions of Model/Fpx.lean the theorems of Lemmas/Fpx.lean are about: same data
flow, so every equality is `rfl` (definitional unfolding of the `let` chains). A change of a C function that alters
the formula breaks the corresponding line here.
-/
import RelicVerif.Gen.Fpx
import RelicVerif.Model.Fpx

namespace Relic.Lemmas.FpxGen
open Relic.Model.Formula Relic.Model.Fpx Relic.Gen.Fpx

variable {E : Type} (o : FOps E) (nor : E → E)

theorem fp4_mul_basic_eq (a b : V2 E) : fp4_mul_basic o nor a b = quadMul o nor a b := rfl
theorem fp8_mul_basic_eq (a b : V2 E) : fp8_mul_basic o nor a b = quadMul o nor a b := rfl
theorem fp12_mul_basic_eq (a b : V2 E) : fp12_mul_basic o nor a b = quadMul o nor a b := rfl
theorem fp16_mul_basic_eq (a b : V2 E) : fp16_mul_basic o nor a b = quadMul o nor a b := rfl
theorem fp18_mul_basic_eq (a b : V2 E) : fp18_mul_basic o nor a b = quadMul o nor a b := rfl
theorem fp48_mul_basic_eq (a b : V2 E) : fp48_mul_basic o nor a b = quadMul o nor a b := rfl

theorem fp4_sqr_basic_eq (a : V2 E) : fp4_sqr_basic o nor a = quadSqr o nor a := rfl
theorem fp8_sqr_basic_eq (a : V2 E) : fp8_sqr_basic o nor a = quadSqr o nor a := rfl
theorem fp12_sqr_basic_eq (a : V2 E) : fp12_sqr_basic o nor a = quadSqr o nor a := rfl
theorem fp16_sqr_basic_eq (a : V2 E) : fp16_sqr_basic o nor a = quadSqr o nor a := rfl
theorem fp18_sqr_basic_eq (a : V2 E) : fp18_sqr_basic o nor a = quadSqr o nor a := rfl
theorem fp48_sqr_basic_eq (a : V2 E) : fp48_sqr_basic o nor a = quadSqr o nor a := rfl

theorem fp4_inv_eq (a : V2 E) : fp4_inv o nor a = quadInv o nor a := rfl
theorem fp8_inv_eq (a : V2 E) : fp8_inv o nor a = quadInv o nor a := rfl
theorem fp12_inv_eq (a : V2 E) : fp12_inv o nor a = quadInv o nor a := rfl
theorem fp16_inv_eq (a : V2 E) : fp16_inv o nor a = quadInv o nor a := rfl
theorem fp18_inv_eq (a : V2 E) : fp18_inv o nor a = quadInv o nor a := rfl
theorem fp48_inv_eq (a : V2 E) : fp48_inv o nor a = quadInv o nor a := rfl

theorem fp4_mul_art_eq (a : V2 E) : fp4_mul_art o nor a = quadArt nor a := rfl
theorem fp8_mul_art_eq (a : V2 E) : fp8_mul_art o nor a = quadArt nor a := rfl
theorem fp12_mul_art_eq (a : V2 E) : fp12_mul_art o nor a = quadArt nor a := rfl
theorem fp16_mul_art_eq (a : V2 E) : fp16_mul_art o nor a = quadArt nor a := rfl
theorem fp18_mul_art_eq (a : V2 E) : fp18_mul_art o nor a = quadArt nor a := rfl
theorem fp48_mul_art_eq (a : V2 E) : fp48_mul_art o nor a = quadArt nor a := rfl

theorem fp8_sqr_cyc_eq (a : V2 E) : fp8_sqr_cyc o nor a = quadSqrCyc o nor a := rfl
theorem fp16_sqr_cyc_eq (a : V2 E) : fp16_sqr_cyc o nor a = quadSqrCyc o nor a := rfl

theorem fp6_mul_basic_eq (a b : V3 E) : fp6_mul_basic o nor a b = cubMul o nor a b := rfl
theorem fp9_mul_basic_eq (a b : V3 E) : fp9_mul_basic o nor a b = cubMul o nor a b := rfl
theorem fp24_mul_basic_eq (a b : V3 E) : fp24_mul_basic o nor a b = cubMul o nor a b := rfl
theorem fp54_mul_basic_eq (a b : V3 E) : fp54_mul_basic o nor a b = cubMul o nor a b := rfl

theorem fp6_sqr_basic_eq (a : V3 E) : fp6_sqr_basic o nor a = cubSqr o nor a := rfl
theorem fp9_sqr_basic_eq (a : V3 E) : fp9_sqr_basic o nor a = cubSqr o nor a := rfl

theorem fp6_inv_eq (a : V3 E) : fp6_inv o nor a = cubInv o nor a := rfl
theorem fp9_inv_eq (a : V3 E) : fp9_inv o nor a = cubInv o nor a := rfl
theorem fp24_inv_eq (a : V3 E) : fp24_inv o nor a = cubInv o nor a := rfl
theorem fp54_inv_eq (a : V3 E) : fp54_inv o nor a = cubInv o nor a := rfl

theorem fp6_mul_art_eq (a : V3 E) : fp6_mul_art o nor a = cubArt nor a := rfl
theorem fp9_mul_art_eq (a : V3 E) : fp9_mul_art o nor a = cubArt nor a := rfl
theorem fp24_mul_art_eq (a : V3 E) : fp24_mul_art o nor a = cubArt nor a := rfl
theorem fp54_mul_art_eq (a : V3 E) : fp54_mul_art o nor a = cubArt nor a := rfl

theorem fp6_mul_dxs_eq (a b : V3 E) : fp6_mul_dxs o nor a b = cubMulDxs o nor a b := rfl
theorem fp9_mul_dxs_eq (a b : V3 E) : fp9_mul_dxs o nor a b = cubMulDxs o nor a b := rfl

theorem fp12_sqr_cyc_basic_eq (a : Fp12 E) : fp12_sqr_cyc_basic o nor a = fp12SqrCyc o nor a := rfl
theorem fp12_sqr_pck_basic_eq (c a : Fp12 E) : fp12_sqr_pck_basic o nor c a = fp12SqrPck o nor c a := rfl
theorem fp12_back_cyc_eq (a : Fp12 E) : fp12_back_cyc o nor a = fp12BackCyc o nor a := rfl

end Relic.Lemmas.FpxGen
