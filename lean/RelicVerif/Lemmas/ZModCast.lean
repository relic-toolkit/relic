/-
Naturals below the modulus and their casts to `ZMod p`: what the arithmetic models (canonical residues in ℕ) and the
specifications (`ZMod p`) exchange.  From `Mathlib.Data.ZMod.Basic` alone, so that every module can import it.
-/
import Mathlib.Data.ZMod.Basic

namespace Relic.Lemmas.ZModCast

theorem cast_inj_of_lt {p x y : Nat} (hx : x < p) (hy : y < p) (h : (x : ZMod p) = y) : x = y := by
  rw [← ZMod.val_natCast_of_lt hx, ← ZMod.val_natCast_of_lt hy, h]

theorem cast_eq_zero_iff_of_lt {p a : Nat} (ha : a < p) : (a : ZMod p) = 0 ↔ a = 0 := by
  rw [ZMod.natCast_eq_zero_iff]
  exact ⟨fun hd => Nat.eq_zero_of_dvd_of_lt hd ha, fun h => h ▸ dvd_zero _⟩

theorem cast_ne_zero_of_lt {p a : Nat} (h0 : 0 < a) (ha : a < p) : (a : ZMod p) ≠ 0 :=
  fun h => absurd ((cast_eq_zero_iff_of_lt ha).1 h) (Nat.pos_iff_ne_zero.1 h0)

theorem cast_mul_eq_one_iff {p a x : Nat} (hp : 1 < p) : (a : ZMod p) * x = 1 ↔ a * x % p = 1 := by
  rw [← Nat.cast_mul, ← Nat.cast_one (R := ZMod p), ZMod.natCast_eq_natCast_iff', Nat.mod_eq_of_lt hp]

theorem cast_mul_eq_one {p a x : Nat} (h : a * x % p = 1) : (a : ZMod p) * x = 1 := by
  have h2 := congrArg (Nat.cast : Nat → ZMod p) h
  rwa [ZMod.natCast_mod, Nat.cast_mul, Nat.cast_one] at h2

end Relic.Lemmas.ZModCast
