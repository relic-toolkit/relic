/- Proofs about the pseudo-Mersenne reduction model of Model/NtMod.lean: the folding loop terminates within the supplied fuel for every
   modulus (u = 2^bits - m ≤ 2^(bits-1) halves q in every round) and the result is the residue. -/
import RelicVerif.Lemmas.NtMod
import RelicVerif.Lemmas.NtModBarrt

namespace Relic.Lemmas.NtMod
open Relic.Model.NtMod

theorem pmersFold_spec (bits : Nat) (u : Int) (hu0 : 0 ≤ u) (hu : 2 * u ≤ (2 : Int) ^ bits) :
    ∀ (f : Nat) (c q : Int) (n : Nat), 0 ≤ c → 0 ≤ q → q < (2 : Int) ^ f →
    ∃ c' n', pmersFold bits u (f + 1) c q n = some (c', n') ∧ 0 ≤ c' ∧
      c' % ((2 : Int) ^ bits - u) = (c + q * (2 : Int) ^ bits) % ((2 : Int) ^ bits - u) := by
  have hP : (0 : Int) < (2 : Int) ^ bits := by positivity
  generalize hPd : (2 : Int) ^ bits = P at *
  intro f
  induction f with
  | zero =>
    intro c q n hc hq hq1
    have : q = 0 := by simp at hq1; omega
    subst this
    exact ⟨c, n, by simp [pmersFold], hc, by simp⟩
  | succ f ih =>
    intro c q n hc hq hq1
    by_cases h0 : q = 0
    · subst h0
      exact ⟨c, n, by simp [pmersFold], hc, by simp⟩
    · rw [pmersFold, if_neg h0]
      simp only [hPd]
      have ht0 : 0 ≤ q * u := mul_nonneg hq hu0
      have hq'0 : 0 ≤ q * u / P := Int.ediv_nonneg ht0 hP.le
      have hr0 : 0 ≤ q * u % P := Int.emod_nonneg _ hP.ne'
      have hq'1 : q * u / P < (2 : Int) ^ f := by
        have h1 : q * u / P * P ≤ q * u := Int.ediv_mul_le _ hP.ne'
        have h2 : q * (2 * u) ≤ q * P := mul_le_mul_of_nonneg_left hu hq
        have h3 : (2 * (q * u / P)) * P ≤ q * P := by linarith
        have h4 : 2 * (q * u / P) ≤ q := le_of_mul_le_mul_right h3 hP
        have : (2 : Int) ^ (f + 1) = 2 * 2 ^ f := by rw [pow_succ]; ring
        linarith
      obtain ⟨c', n', hv, hc', hmod⟩ := ih (c + q * u % P) (q * u / P) (n + 1) (Int.add_nonneg hc hr0) hq'0 hq'1
      refine ⟨c', n', hv, hc', ?_⟩
      rw [hmod]
      have e : q * u % P + q * u / P * P = q * u := Int.emod_add_ediv_mul _ _
      have : c + q * P = (c + q * u % P + q * u / P * P) + q * (P - u) := by linarith [mul_sub q P u]
      rw [this, Int.add_mul_emod_self_right]

theorem modPmersFull_spec (a m : Int) (hm : 0 < m) :
    ∃ r n, modPmersFull a m = some (a % m, r, n) := by
  have hmn : ¬ m ≤ 0 := not_le.mpr hm
  have hmt : (m.toNat : Int) = m := Int.toNat_of_nonneg hm.le
  have hmne : m.toNat ≠ 0 := by omega
  simp only [modPmersFull, prePmers, modPmers, hmn, if_false]
  have hlt := bitLen_lt_toNat m hm.le
  have hle : (2 : Int) ^ bitLen m.toNat ≤ 2 * m := by
    have h1 : 2 ^ (bitLen m.toNat - 1) ≤ m.toNat := NatBits.two_pow_pred_bl_le hmne
    have h2 : 1 ≤ bitLen m.toNat := NatBits.bl_pos hmne
    have h3 : (2 : Int) ^ (bitLen m.toNat - 1) ≤ m := by
      conv_rhs => rw [← hmt]
      exact_mod_cast h1
    have h4 : (2 : Int) ^ bitLen m.toNat = 2 * 2 ^ (bitLen m.toNat - 1) := by
      conv_lhs => rw [show bitLen m.toNat = (bitLen m.toNat - 1) + 1 by omega]
      rw [pow_succ]; ring
    linarith
  generalize hbits : bitLen m.toNat = bits at *
  have hP : (0 : Int) < (2 : Int) ^ bits := by positivity
  generalize hc : (if a < 0 then m - a else a) = c
  have hc0 : 0 ≤ c := by rw [← hc]; split_ifs <;> omega
  have hq0 : 0 ≤ c / (2 : Int) ^ bits := Int.ediv_nonneg hc0 hP.le
  have hqf := bitLen_lt_toNat _ hq0
  obtain ⟨c', n', hv, hc', hmod⟩ := pmersFold_spec bits ((2 : Int) ^ bits - m) (sub_nonneg.2 hlt.le) (by linarith)
    (bitLen (c / (2 : Int) ^ bits).toNat) (c % (2 : Int) ^ bits) (c / (2 : Int) ^ bits) 0
    (Int.emod_nonneg _ hP.ne') hq0 hqf
  have hmm : (2 : Int) ^ bits - ((2 : Int) ^ bits - m) = m := by ring
  rw [hmm, Int.emod_add_ediv_mul] at hmod
  rw [hv]
  simp only [subAll_spec m c' hm hc', hmod]
  refine ⟨n', (c' / m).toNat, ?_⟩
  have : c % m = (a.natAbs : Int) % m := by
    rw [← hc]
    split_ifs with h
    · rw [show m - a = (a.natAbs : Int) + 1 * m by omega, Int.add_mul_emod_self_right]
    · congr 1
      omega
  rw [this, sign_fix a m hm]

end Relic.Lemmas.NtMod
