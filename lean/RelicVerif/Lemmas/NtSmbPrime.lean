/-
Completeness of the Miller-Rabin decision logic of bn_is_prime_rabin: every prime is accepted.
In the field ZMod n: t^(n-1) = 1 for t ≠ 0 (Fermat) and the only square roots of 1 are ±1.
-/
import Mathlib.FieldTheory.Finite.Basic
import RelicVerif.Model.NtSmbPrime
import RelicVerif.Lemmas.ZModCast

namespace Relic.Lemmas.NtSmbPrime
open Relic.Model.NtSmbPrime

theorem powMod_eq (b e n : ℕ) : powMod b e n = b ^ e % n := by
  induction e using powMod.induct b n with
  | case1 => rw [powMod, dif_pos rfl, pow_zero]
  | case2 e h0 h1 ih =>
    rw [powMod, dif_neg h0]
    dsimp only
    rw [if_pos h1, ih, ← Nat.mul_mod, Nat.mod_mul_mod, ← pow_add, ← pow_succ]
    congr 2
    omega
  | case3 e h0 h1 ih =>
    rw [powMod, dif_neg h0]
    dsimp only
    rw [if_neg h1, ih, ← Nat.mul_mod, ← pow_add]
    congr 2
    omega

theorem split_spec : ∀ (f s0 r0 : ℕ), s0 ≤ (split f s0 r0).1 ∧ 2 ^ s0 * r0 = 2 ^ (split f s0 r0).1 * (split f s0 r0).2
  | 0, s0, r0 => by simp [split]
  | f + 1, s0, r0 => by
    unfold split
    split
    · next h =>
      have := split_spec f (s0 + 1) (r0 / 2)
      refine ⟨by omega, ?_⟩
      rw [← this.2, pow_succ, mul_assoc]
      congr 1
      omega
    · simp

variable {n : ℕ}

theorem eq_one_of_cast (hn : 2 < n) {y : ℕ} (hy : y < n) (h : (y : ZMod n) = 1) : y = 1 :=
  ZModCast.cast_inj_of_lt hy (by omega) (by rw [h, Nat.cast_one])

theorem eq_pred_of_cast_neg_one (hn : 2 < n) {y : ℕ} (hy : y < n) (h : (y : ZMod n) = -1) : y = n - 1 :=
  ZModCast.cast_inj_of_lt hy (by omega) (by rw [h, Nat.cast_pred (by omega), ZMod.natCast_self, zero_sub])

theorem sq_eq_one_cases [Fact n.Prime] (hn : 2 < n) {y : ℕ} (hy : y < n) (h : (y : ZMod n) * y = 1) : y = 1 ∨ y = n - 1 :=
  (mul_self_eq_one_iff.mp h).imp (eq_one_of_cast hn hy) (eq_pred_of_cast_neg_one hn hy)

theorem sqLoop_prime [Fact n.Prime] (hn : 2 < n) :
    ∀ (k y : ℕ), y < n → y ≠ 1 → (y : ZMod n) ^ (2 ^ (k + 1)) = 1 → sqLoop n (n - 1) k y = n - 1
  | 0, y, hy, h1, hp => by
    rw [sqLoop]
    exact (sq_eq_one_cases hn hy (by rwa [zero_add, pow_one, pow_two] at hp)).resolve_left h1
  | k + 1, y, hy, h1, hp => by
    rw [sqLoop]
    split
    · assumption
    · next hne =>
      have hc : ((y * y % n : ℕ) : ZMod n) = (y : ZMod n) * y := by rw [ZMod.natCast_mod, Nat.cast_mul]
      dsimp only
      split
      · next h1' => exact absurd (sq_eq_one_cases hn hy (by rw [← hc, h1', Nat.cast_one])) (not_or.mpr ⟨h1, hne⟩)
      · next h1' =>
        refine sqLoop_prime hn k _ (Nat.mod_lt _ (by omega)) h1' ?_
        rw [hc, ← pow_two, ← pow_mul, ← pow_succ']
        exact hp

theorem basePasses_prime [Fact n.Prime] (hn : 2 < n) {r s t : ℕ} (hs : 1 ≤ s) (hsr : n - 1 = 2 ^ s * r)
    (ht0 : 0 < t) (htn : t < n) : basePasses n (n - 1) r s t = true := by
  unfold basePasses
  dsimp only
  split
  · next h =>
    obtain ⟨k, rfl⟩ : ∃ k, s = k + 1 := ⟨s - 1, by omega⟩
    rw [decide_eq_true_eq, Nat.add_sub_cancel]
    refine sqLoop_prime hn k _ (by rw [powMod_eq]; exact Nat.mod_lt _ (by omega)) h.1 ?_
    rw [powMod_eq, ZMod.natCast_mod, Nat.cast_pow, ← pow_mul, mul_comm, ← hsr]
    exact ZMod.pow_card_sub_one_eq_one (ZModCast.cast_ne_zero_of_lt ht0 htn)
  · rfl

theorem basesLoop_prime [Fact n.Prime] (hn : 2 < n) {r s : ℕ} (hs : 1 ≤ s) (hsr : n - 1 = 2 ^ s * r) :
    ∀ (l : List ℕ), (∀ t ∈ l, 0 < t) → basesLoop n (n - 1) r s l = true
  | [], _ => rfl
  | t :: ts, h => by
    unfold basesLoop
    split
    · rfl
    · next hlt =>
      rw [basePasses_prime hn hs hsr (h t (by simp)) (by omega)]
      simp only [if_true]
      exact basesLoop_prime hn hs hsr ts (fun x hx => h x (by simp [hx]))

theorem primesTab_pos : ∀ t ∈ primesTab, 0 < t := by decide

end Relic.Lemmas.NtSmbPrime
