/- Proofs for Model/NtGcd.lean: the loops of bn_gcd_binar (Stein): the subtract-and-halve loop returns gcd(u, v); the common power of two. -/
import RelicVerif.Lemmas.NtGcd

namespace Relic.Lemmas.NtGcd
open Relic.Model.NtGcd

theorem coprime_two_of_odd (v : Nat) (hv : v % 2 = 1) : Nat.Coprime 2 v := by
  rw [Nat.Coprime, Nat.gcd_rec, hv]; rfl

theorem stripTwos_spec (f n : Nat) (hn : n ≠ 0) (hf : n ≤ f) :
    ∃ k, n = stripTwos f n * 2 ^ k ∧ stripTwos f n % 2 = 1 := by
  induction f generalizing n with
  | zero => omega
  | succ f ih =>
    unfold stripTwos
    split
    · next h =>
      obtain ⟨k, hk1, hk2⟩ := ih (n / 2) (by omega) (by omega)
      refine ⟨k + 1, ?_, hk2⟩
      rw [pow_succ, ← Nat.mul_assoc, ← hk1]
      omega
    · next h => exact ⟨0, (Nat.mul_one n).symm, by omega⟩

theorem oddPart_spec (n : Nat) (hn : n ≠ 0) : ∃ k, n = oddPart n * 2 ^ k ∧ oddPart n % 2 = 1 :=
  stripTwos_spec n n hn (Nat.le_refl _)

theorem stripTwos_le (f n : Nat) (hn : n ≠ 0) (hf : n ≤ f) : stripTwos f n ≤ n := by
  obtain ⟨k, h1, _⟩ := stripTwos_spec f n hn hf
  exact (Nat.le_mul_of_pos_right _ (Nat.two_pow_pos k)).trans_eq h1.symm

theorem stripTwos_odd (f n : Nat) (h : n % 2 = 1) : stripTwos f n = n := by
  cases f with
  | zero => rfl
  | succ f => rw [stripTwos, if_neg (by omega)]

theorem gcd_stripTwos_left (f u v : Nat) (hu : u ≠ 0) (hf : u ≤ f) (hodd : u % 2 = 1 ∨ v % 2 = 1) :
    Nat.gcd (stripTwos f u) v = Nat.gcd u v := by
  rcases hodd with h | hv
  · rw [stripTwos_odd f u h]
  · obtain ⟨k, h1, _⟩ := stripTwos_spec f u hu hf
    conv_rhs => rw [h1]
    exact (Nat.Coprime.gcd_mul_right_cancel _ (Nat.Coprime.pow_left k (coprime_two_of_odd v hv))).symm

theorem gcd_two_mul_left (t v : Nat) (hv : v % 2 = 1) : Nat.gcd t v = Nat.gcd (2 * t) v :=
  (Nat.Coprime.gcd_mul_left_cancel t (coprime_two_of_odd v hv)).symm

theorem gcd_two_mul_right (u t : Nat) (hu : u % 2 = 1) : Nat.gcd u t = Nat.gcd u (2 * t) :=
  (Nat.Coprime.gcd_mul_left_cancel_right t (coprime_two_of_odd u hu)).symm

theorem gcd_half_sub (u v : Nat) (hv : v % 2 = 1) (h : v ≤ u) (h2 : (u - v) % 2 = 0) :
    Nat.gcd ((u - v) / 2) v = Nat.gcd u v := by
  rw [gcd_two_mul_left _ _ hv, Nat.mul_div_cancel' (Nat.dvd_of_mod_eq_zero h2), Nat.gcd_sub_self_left h]

/-- the fuel of Stein's loop counts u + v: what is left of it after one round on the odd parts u' ≤ u, v' ≤ v -/
theorem binarLoop_fuel_step {u v u' v' f : Nat} (hu : u' ≤ u) (hv : v' ≤ v) (huo : u' % 2 = 1) (hvo : v' % 2 = 1) (hge : v' ≤ u')
    (hf : u + v < f + 1) :
    (u' - v') % 2 = 0 ∧ (u' - v') / 2 + v' < f ∧ v' ≠ 0 ∧ (v' < u' → (u' - v') / 2 ≠ 0) := by omega

theorem binarLoop_eq (f u v : Nat) (hf : u + v < f) (hv : v ≠ 0) (hodd : u % 2 = 1 ∨ v % 2 = 1) :
    binarLoop f u v = Nat.gcd u v := by
  induction f generalizing u v with
  | zero => omega
  | succ f ih =>
    unfold binarLoop oddPart
    by_cases hu : u = 0
    · subst hu; simp
    · simp only [hu, if_false]
      obtain ⟨ku, hku, hou⟩ := stripTwos_spec u u hu (Nat.le_refl _)
      obtain ⟨kv, hkv, hov⟩ := stripTwos_spec v v hv (Nat.le_refl _)
      have hule := stripTwos_le u u hu (Nat.le_refl _)
      have hvle := stripTwos_le v v hv (Nat.le_refl _)
      have hg : Nat.gcd (stripTwos u u) (stripTwos v v) = Nat.gcd u v := by
        rw [gcd_stripTwos_left u u _ hu (Nat.le_refl _) (Or.inr hov), Nat.gcd_comm,
          gcd_stripTwos_left v v u hv (Nat.le_refl _) hodd.symm, Nat.gcd_comm]
      clear hku hkv
      generalize stripTwos u u = u' at *
      generalize stripTwos v v = v' at *
      by_cases hge : u' ≥ v'
      · obtain ⟨e2, m, v0, _⟩ := binarLoop_fuel_step hule hvle hou hov hge hf
        rw [if_pos hge, if_pos hge, ih _ _ m v0 (Or.inr hov), gcd_half_sub _ _ hov hge e2, hg]
      · obtain ⟨e2, m, _, d0⟩ := binarLoop_fuel_step hvle hule hov hou (Nat.le_of_not_ge hge) (Nat.add_comm u v ▸ hf)
        rw [if_neg hge, if_neg hge, ih _ _ (Nat.add_comm _ _ ▸ m) (d0 (Nat.lt_of_not_ge hge)) (Or.inl hou), Nat.gcd_comm,
          gcd_half_sub _ _ hou (Nat.le_of_not_ge hge) e2, Nat.gcd_comm, hg]

theorem commonTwos_spec (f u v s : Nat) (hu : u ≠ 0) (hv : v ≠ 0) (hf : u < f) :
    ∃ x y k, commonTwos f u v s = (x, y, s + k) ∧ u = x * 2 ^ k ∧ v = y * 2 ^ k ∧ (x % 2 = 1 ∨ y % 2 = 1) ∧ x ≠ 0 ∧ y ≠ 0 := by
  induction f generalizing u v s with
  | zero => omega
  | succ f ih =>
    unfold commonTwos
    split
    · next h =>
      obtain ⟨x, y, k, h1, h2, h3, h4⟩ := ih (u / 2) (v / 2) (s + 1) (by omega) (by omega) (by omega)
      refine ⟨x, y, k + 1, by rw [h1, Nat.add_assoc, Nat.add_comm 1 k], ?_, ?_, h4⟩
      · rw [pow_succ, ← Nat.mul_assoc, ← h2]
        omega
      · rw [pow_succ, ← Nat.mul_assoc, ← h3]
        omega
    · next h => exact ⟨u, v, 0, rfl, (Nat.mul_one u).symm, (Nat.mul_one v).symm, by omega, hu, hv⟩

end Relic.Lemmas.NtGcd
