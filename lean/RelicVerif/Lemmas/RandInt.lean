/-
Lemmas about Model/RandInt.lean: digit bounds of a byte buffer read as digits, the value bound after masking the top digit,
the subtraction loop of fp_rand.
-/
import RelicVerif.Model.RandInt
import RelicVerif.Lemmas.BnLowAdd
import Mathlib.Tactic.Linarith

namespace Relic.Model.RandInt

theorem digitOf_aux (bytes : List UInt8) (off n : Nat) :
    (List.range n).foldl (fun acc j => acc + (bytes.getD (off + j) 0).toNat * 256 ^ j) 0 < 256 ^ n := by
  induction n with
  | zero => simp
  | succ n ih =>
    rw [List.range_succ, List.foldl_append]
    simp only [List.foldl_cons, List.foldl_nil]
    have hb : (bytes.getD (off + n) 0).toNat < 256 := UInt8.toNat_lt _
    have h1 : (bytes.getD (off + n) 0).toNat * 256 ^ n ≤ 255 * 256 ^ n := Nat.mul_le_mul_right _ (by omega)
    rw [Nat.pow_succ]
    omega

theorem digitOf_lt (bytes : List UInt8) (w i : Nat) : digitOf bytes (w / 8) i < 2 ^ w := by
  have h := digitOf_aux bytes (i * (w / 8)) (w / 8)
  have h2 : (256 : Nat) ^ (w / 8) ≤ 2 ^ w := by
    have : (256 : Nat) = 2 ^ 8 := rfl
    rw [this, ← Nat.pow_mul]
    exact Nat.pow_le_pow_right (by omega) (by omega)
  exact Nat.lt_of_lt_of_le h h2

theorem digitsOf_length (bytes : List UInt8) (w n : Nat) : (digitsOf bytes w n).length = n := by
  simp [digitsOf]

theorem digitsOf_lt (bytes : List UInt8) (w n : Nat) : ∀ d ∈ digitsOf bytes w n, d < 2 ^ w := by
  intro d hd
  simp only [digitsOf, List.mem_map] at hd
  obtain ⟨i, _, rfl⟩ := hd
  exact digitOf_lt bytes w i

/-- `val` (Model/BnLow.lean) and its lemmas `val_cons`, `val_lt`, `val_append` (Lemmas/BnLowAdd.lean) are found unqualified because they
    live in `Relic.Model`, like this file -/
theorem valDigits_eq_val (w : Nat) (l : List Nat) : valDigits w l = val (2 ^ w) l := by
  induction l with
  | nil => rfl
  | cons d ds ih => rw [valDigits, val_cons, ih]

theorem valDigits_lt (w : Nat) (l : List Nat) (h : ∀ d ∈ l, d < 2 ^ w) : valDigits w l < 2 ^ (w * l.length) := by
  rw [valDigits_eq_val, Nat.pow_mul]; exact val_lt _ l h

theorem valDigits_set_top (w k t : Nat) (ht : t < 2 ^ k) (l : List Nat) (hl : l ≠ []) (h : ∀ d ∈ l, d < 2 ^ w) :
    valDigits w (l.set (l.length - 1) t) < 2 ^ (w * (l.length - 1) + k) := by
  have hpos : 0 < l.length := List.length_pos_iff.mpr hl
  have e : l.set (l.length - 1) t = l.take (l.length - 1) ++ [t] := by
    rw [List.set_eq_take_append_cons_drop, if_pos (by omega), List.drop_of_length_le (by omega)]
  have hlow := val_lt (2 ^ w) (l.take (l.length - 1)) (digs_take h _)
  rw [List.length_take, Nat.min_eq_left (Nat.sub_le _ _), ← Nat.pow_mul] at hlow
  rw [valDigits_eq_val, e, val_append, val_cons, val_nil, Nat.mul_zero, Nat.add_zero, List.length_take,
    Nat.min_eq_left (Nat.sub_le _ _), ← Nat.pow_mul, Nat.pow_add]
  have := Nat.mul_le_mul_left (2 ^ (w * (l.length - 1))) (Nat.succ_le_of_lt ht)
  rw [Nat.mul_succ] at this
  omega

theorem maskTop_length (dp : List Nat) (bits : Nat) : (maskTop dp bits).length = dp.length := by
  unfold maskTop; split <;> simp

theorem valDigits_maskTop_lt (w : Nat) (dp : List Nat) (h : ∀ d ∈ dp, d < 2 ^ w) (bits : Nat) :
    valDigits w (maskTop dp bits) < (if bits > 0 ∧ dp.length > 0 then 2 ^ (w * (dp.length - 1) + bits) else 2 ^ (w * dp.length)) := by
  unfold maskTop
  split
  · next hc =>
    apply valDigits_set_top w bits _ (Nat.mod_lt _ (Nat.two_pow_pos _)) dp _ h
    intro e; simp [e] at hc
  · exact valDigits_lt w dp h

theorem valDigits_masked_lt (bytes : List UInt8) (w bits : Nat) :
    valDigits w (maskTop (digitsOf bytes w (digitsFor w bits)) (bits % w)) < 2 ^ bits := by
  have hb := valDigits_maskTop_lt w (digitsOf bytes w (digitsFor w bits)) (digitsOf_lt _ _ _) (bits % w)
  rw [digitsOf_length] at hb
  unfold digitsFor at hb ⊢
  by_cases hr : bits % w > 0
  · have hpos : bits / w + 1 > 0 := Nat.succ_pos _
    simp only [hr, hpos, and_self, if_true, Nat.add_sub_cancel] at hb ⊢
    rwa [Nat.div_add_mod] at hb
  · simp only [hr, if_false, false_and, Nat.add_zero] at hb ⊢
    exact Nat.lt_of_lt_of_le hb (Nat.pow_le_pow_right (by omega) (Nat.mul_div_le bits w))

theorem draw_some {σ β : Type} {g : List UInt8 → β} {d : Option (List UInt8 × σ)} {r : β} {s : σ}
    (h : (match d with | none => none | some (b, s') => some (g b, s')) = some (r, s)) : ∃ b, d = some (b, s) ∧ r = g b :=
  match d, h with
  | some (b, _), rfl => ⟨b, rfl, rfl⟩

theorem bnRand_some {σ : Type} (draw : σ → Nat → Option (List UInt8 × σ)) (w cap : Nat) (s s' : σ) (bits : Nat)
    (dp : List Nat) (h : bnRand draw w cap s bits = some (dp, s')) :
    digitsFor w bits ≤ cap ∧ ∃ bytes, draw s (digitsFor w bits * (w / 8)) = some (bytes, s') ∧
      dp = maskTop (digitsOf bytes w (digitsFor w bits)) (bits % w) := by
  unfold bnRand at h
  simp only at h
  split at h
  · simp at h
  · exact ⟨by omega, draw_some h⟩

theorem subWhile_eq_mod (p : Nat) (hp : 0 < p) (fuel a : Nat) (hf : a < fuel) : subWhile p fuel a = a % p := by
  induction fuel generalizing a with
  | zero => omega
  | succ n ih =>
    unfold subWhile
    split
    · next h => exact (Nat.mod_eq_of_lt h).symm
    · next h =>
      rw [ih (a - p) (by omega)]
      exact (Nat.mod_eq_sub_mod (by omega)).symm

end Relic.Model.RandInt
