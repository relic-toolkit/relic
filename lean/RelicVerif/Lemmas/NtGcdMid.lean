/-
Proofs for Model/NtGcdMid.lean (bn_gcd_ext_mid): every vector the loop records is in the lattice
{(x, y) : x + y·v0 ≡ 0 (mod u0)} of the GLV decomposition, (u0, v0) = (larger, smaller magnitude of the operands).
-/
import Mathlib.Tactic.Ring
import RelicVerif.Model.NtGcdMid

namespace Relic.Lemmas.NtGcdMid
open Relic.Model.NtGcdMid

/-- the loop invariant: remainders with their cofactors, and the three recorded vectors, are lattice elements -/
def Inv (u0 v0 : Int) (s : St) : Prop :=
  u0 ∣ s.u - s.t * v0 ∧ u0 ∣ s.v - s.x * v0 ∧ u0 ∣ s.c + s.d * v0 ∧ u0 ∣ s.e + s.f * v0 ∧ u0 ∣ s.w + s.y * v0

theorem midLoop_inv (u0 v0 p : Int) (fuel : Nat) (s : St) (h : Inv u0 v0 s) : Inv u0 v0 (midLoop p fuel s) := by
  induction fuel generalizing s with
  | zero => exact h
  | succ fuel ih =>
    unfold midLoop
    split
    · exact h
    · obtain ⟨h1, h2, h3, h4, h5⟩ := h
      have hr : u0 ∣ s.u % s.v - (s.t - s.u / s.v * s.x) * v0 := by
        rw [show s.u % s.v - (s.t - s.u / s.v * s.x) * v0 = (s.u - s.t * v0) - (s.u / s.v) * (s.v - s.x * v0) by
          rw [Int.emod_def]; ring]
        exact Int.dvd_sub h1 (Dvd.dvd.mul_left h2 _)
      have hr' : u0 ∣ s.u % s.v + -(s.t - s.u / s.v * s.x) * v0 := by rwa [neg_mul, ← sub_eq_add_neg]
      have hw : u0 ∣ s.v + -s.x * v0 := by rwa [neg_mul, ← sub_eq_add_neg]
      have he : u0 ∣ (if s.wait then s.u % s.v else s.e) + (if s.wait then -(s.t - s.u / s.v * s.x) else s.f) * v0 := by
        split
        · exact hr'
        · exact h4
      simp only []
      split
      · exact ih _ ⟨h2, hr, hr', he, hw⟩
      · exact ih _ ⟨h2, hr, h3, he, h5⟩

end Relic.Lemmas.NtGcdMid
