/-
Proofs for Model/NtGcd.lean: bn_gcd_ext_binar (binary extended gcd).  The strip loop and the main loop are total (the supplied fuel
suffices) and keep u = A·x + B·y, v = C·x + D·y; the last loop ("Now fix reciprocals") keeps the Bezout value and terminates: with
C·x + D·y = 1, x, y > 0, every round in which |C| > ⌊y/2⌋ strictly decreases |C|; a round with |C| ≤ ⌊y/2⌋ but |D| > ⌊x/2⌋ is possible
only for y = 2, C = −1, D = ⌊x/2⌋ + 1, and the round after it leaves the loop.  Hence fuel |C| + 2 suffices and the model is total.
-/
import Mathlib.Tactic.Linarith
import RelicVerif.Lemmas.NtGcdB

namespace Relic.Lemmas.NtGcd
open Relic.Model.NtGcd

theorem hlv_even (x : Int) (h : x % 2 = 0) : 2 * hlv x = x := by
  unfold hlv
  obtain ⟨c, rfl⟩ := Int.dvd_of_emod_eq_zero h
  rw [Int.mul_tdiv_cancel_left _ (by decide : (2 : Int) ≠ 0)]

/-- one cofactor halving halves the represented value A·x + B·y when that is even (HAC 14.61): needs x, y not both even.
When A, B are not both even, the parities of x, y, A, B leave only the cases in which A + y and B − x are even. -/
theorem halveCof_spec (x y A B : Int) (hxy : ¬(x % 2 = 0 ∧ y % 2 = 0)) (hev : (A * x + B * y) % 2 = 0) :
    2 * ((halveCof x y A B).1 * x + (halveCof x y A B).2 * y) = A * x + B * y := by
  unfold halveCof
  split
  · next h => linear_combination x * hlv_even A h.1 + y * hlv_even B h.2
  · next h =>
    have hp : (A + y) % 2 = 0 ∧ (B - x) % 2 = 0 := by
      simp only [← Int.even_iff, Int.even_add, Int.even_sub, Int.even_mul] at hxy hev h ⊢
      grind
    linear_combination x * hlv_even _ hp.1 + y * hlv_even _ hp.2

theorem halveCof_half (x y A B : Int) (hxy : ¬(x % 2 = 0 ∧ y % 2 = 0)) (v : Nat) (hv : (v : Int) = A * x + B * y)
    (hev : v % 2 = 0) : ((v / 2 : Nat) : Int) = (halveCof x y A B).1 * x + (halveCof x y A B).2 * y := by
  have hh := halveCof_spec x y A B hxy (by omega)
  omega

theorem extBinarStrip_fst (x y : Int) (f u : Nat) (A B : Int) : (extBinarStrip x y f u A B).1 = stripTwos f u := by
  induction f generalizing u A B with
  | zero => rfl
  | succ f ih =>
    rw [extBinarStrip, stripTwos]
    split_ifs
    · exact ih _ _ _
    · rfl

theorem extBinarStrip_bezout (x y : Int) (hxy : ¬(x % 2 = 0 ∧ y % 2 = 0)) (f u : Nat) (A B : Int)
    (hinv : (u : Int) = A * x + B * y) :
    ((extBinarStrip x y f u A B).1 : Int) = (extBinarStrip x y f u A B).2.1 * x + (extBinarStrip x y f u A B).2.2 * y := by
  induction f generalizing u A B with
  | zero => exact hinv
  | succ f ih =>
    rw [extBinarStrip]
    split
    · next h => exact ih _ _ _ (halveCof_half x y A B hxy u hinv h.2)
    · exact hinv

/-- the fuel of the main loop counts 2(u + v), plus one when a swap is due: what is left after each of its three moves -/
theorem extBinarMain_fuel_half {u v f : Nat} (hev : v % 2 = 0) (hv : v ≠ 0) (hf : 2 * (u + v) < f + 1) :
    2 * (u + v / 2) + 1 < f ∧ v / 2 ≠ 0 := by omega

theorem extBinarMain_fuel_swap {u v f : Nat} (hlt : v < u) (hf : 2 * (u + v) + 1 < f + 1) :
    2 * (v + u) < f ∧ (u < v → 2 * (v + u) + 1 < f) ∧ u ≠ 0 := by omega

theorem extBinarMain_fuel_sub {u v f : Nat} (hle : u ≤ v) (hne : ¬u = v) (hu : u % 2 = 1) (hf : 2 * (u + v) < f + 1) :
    2 * (u + (v - u)) + 1 < f ∧ v - u ≠ 0 := by omega

theorem extBinarMain_spec (x y : Int) (hxy : ¬(x % 2 = 0 ∧ y % 2 = 0)) (f u v : Nat) (A B C D : Int)
    (hf : 2 * (u + v) < f) (hf' : v < u → 2 * (u + v) + 1 < f) (huodd : u % 2 = 1) (hv : v ≠ 0)
    (hu : (u : Int) = A * x + B * y) (hvv : (v : Int) = C * x + D * y) :
    ∃ C' D', extBinarMain x y f u v A B C D = some (Nat.gcd u v, C', D') ∧ (Nat.gcd u v : Int) = C' * x + D' * y := by
  induction f generalizing u v A B C D with
  | zero => exact absurd hf (Nat.not_lt_zero _)
  | succ f ih =>
    rw [extBinarMain]
    by_cases huv : u = v
    · subst huv
      rw [if_pos rfl, Nat.gcd_self]
      exact ⟨C, D, rfl, hvv⟩
    rw [if_neg huv]
    by_cases hev : v % 2 = 0
    · rw [if_pos hev]
      obtain ⟨hf2, hv2⟩ := extBinarMain_fuel_half hev hv hf
      rw [show Nat.gcd u v = Nat.gcd u (v / 2) by
        rw [gcd_two_mul_right u (v / 2) huodd, Nat.mul_div_cancel' (Nat.dvd_of_mod_eq_zero hev)]]
      exact ih u (v / 2) A B _ _ (Nat.lt_of_succ_lt hf2) (fun _ => hf2) huodd hv2 hu
        (halveCof_half x y C D hxy v hvv hev)
    rw [if_neg hev]
    by_cases hlt : v < u
    · rw [if_pos hlt, Nat.gcd_comm]
      obtain ⟨m1, m2, m3⟩ := extBinarMain_fuel_swap hlt (hf' hlt)
      exact ih v u C D A B m1 m2 (Nat.mod_two_ne_zero.1 hev) m3 hvv hu
    · rw [if_neg hlt]
      have hle : u ≤ v := Nat.le_of_not_lt hlt
      obtain ⟨hf2, hv2⟩ := extBinarMain_fuel_sub hle huv huodd hf
      rw [← Nat.gcd_sub_self_right hle]
      exact ih u (v - u) A B (C - A) (D - B) (Nat.lt_of_succ_lt hf2) (fun _ => hf2) huodd hv2 hu
        (by rw [Nat.cast_sub hle, hu, hvv]; ring)

/-- the multiplier of one round: `t = C / hB; if (bn_bits(t) > 1) bn_hlv(t, t)` -/
def fixT (hB C : Int) : Int := if (C / hB).natAbs ≥ 2 then hlv (C / hB) else C / hB

/-- one round of the loop, as a function (the body of extBinarFix when the condition holds) -/
def fixRound (x y hB : Int) (C D : Int) : Int × Int :=
  if decide (C < 0) ≠ decide (y * fixT hB C < 0) then (C + y * fixT hB C, D - x * fixT hB C)
  else (C - y * fixT hB C, D + x * fixT hB C)

theorem extBinarFix_succ (x y hA hB : Int) (f : Nat) (C D : Int) :
    extBinarFix x y hA hB (f + 1) C D =
      if hB ≠ 0 ∧ (C.natAbs > hB.natAbs ∨ D.natAbs > hA.natAbs) then
        extBinarFix x y hA hB f (fixRound x y hB C D).1 (fixRound x y hB C D).2
      else some (C, D) := by
  rw [extBinarFix]
  refine if_congr Iff.rfl ?_ rfl
  by_cases hs : decide (C < 0) ≠ decide (y * fixT hB C < 0)
  · rw [fixRound, if_pos hs]
    exact if_pos hs
  · rw [fixRound, if_neg hs]
    exact if_neg hs

theorem fixRound_bezout (x y hB C D : Int) :
    (fixRound x y hB C D).1 * x + (fixRound x y hB C D).2 * y = C * x + D * y := by
  unfold fixRound
  split <;> ring

theorem extBinarFix_bezout (x y hA hB : Int) (f : Nat) (C D C' D' : Int)
    (h : extBinarFix x y hA hB f C D = some (C', D')) : C' * x + D' * y = C * x + D * y := by
  induction f generalizing C D with
  | zero => simp [extBinarFix] at h
  | succ f ih =>
    rw [extBinarFix_succ] at h
    split at h
    · rw [ih _ _ h, fixRound_bezout]
    · simp only [Option.some.injEq, Prod.mk.injEq] at h
      rw [h.1, h.2]

/-! ### termination of the last loop; assembly -/

theorem hlv_of_nonneg (t : Int) (h : 0 ≤ t) : hlv t = t / 2 := by
  unfold hlv; exact Int.tdiv_eq_ediv_of_nonneg h

theorem hlv_of_neg (t : Int) (h : t < 0) : hlv t = -((-t) / 2) := by
  unfold hlv
  have : t = -(-t) := by ring
  rw [this, Int.neg_tdiv, Int.tdiv_eq_ediv_of_nonneg (by omega)]
  simp

/-- t = ⌊q/2⌋ or 1 with q = ⌊C/hB⌋; the bound comes from q·hB ≤ C -/
theorem fixT_pos (hB C : Int) (hB1 : 1 ≤ hB) (hC : hB < C) : 1 ≤ fixT hB C ∧ (2 * hB + 1) * fixT hB C < 2 * C := by
  have d1 : C / hB * hB ≤ C := Int.ediv_mul_le C (by omega)
  have d2 : C < (C / hB + 1) * hB := Int.lt_ediv_add_one_mul_self C (by omega)
  unfold fixT
  generalize C / hB = q at d1 d2 ⊢
  have hq : 1 ≤ q := by
    by_contra hcon
    have := Int.mul_le_mul_of_nonneg_right (by omega : q + 1 ≤ 1) (by omega : 0 ≤ hB)
    omega
  split
  · rw [hlv_of_nonneg q (by omega)]
    have f1 := Int.mul_le_mul_of_nonneg_right (by omega : 2 * (q / 2) ≤ q) (by omega : 0 ≤ hB)
    have f2 := Int.mul_le_mul_of_nonneg_left hB1 (by omega : 0 ≤ q / 2)
    exact ⟨by omega, by linarith⟩
  · obtain rfl : q = 1 := by omega
    omega

/-- t = −⌊n/2⌋ with n = −⌊C/hB⌋ ≥ 2; the bound comes from (n − 1)·hB < −C -/
theorem fixT_neg (hB C : Int) (hB1 : 1 ≤ hB) (hC : C < -hB) : fixT hB C ≤ -1 ∧ 2 * C < (2 * hB + 1) * fixT hB C := by
  have d1 : C / hB * hB ≤ C := Int.ediv_mul_le C (by omega)
  have d2 : C < (C / hB + 1) * hB := Int.lt_ediv_add_one_mul_self C (by omega)
  unfold fixT
  generalize C / hB = q at d1 d2 ⊢
  have hq : q ≤ -2 := by
    by_contra hcon
    have := Int.mul_le_mul_of_nonneg_right (by omega : -1 ≤ q) (by omega : 0 ≤ hB)
    omega
  rw [if_pos (by omega), hlv_of_neg q (by omega)]
  have g1 := Int.mul_le_mul_of_nonneg_right (by omega : 2 * (-q / 2) ≤ -q) (by omega : 0 ≤ hB)
  have g2 := Int.mul_le_mul_of_nonneg_left hB1 (by omega : 0 ≤ -q - 2)
  have g3 : -q / 2 ≤ -q - 1 := by omega
  exact ⟨by omega, by linarith⟩

/-- with y > 0 the multiplier has the sign of C, so the round subtracts -/
theorem fixRound_eq (x y hB C D : Int) (h : C < 0 ↔ y * fixT hB C < 0) :
    fixRound x y hB C D = (C - y * fixT hB C, D + x * fixT hB C) := by
  unfold fixRound
  rw [if_neg (not_not.2 (decide_eq_decide.2 h))]

theorem fixRound_decreases (x y hB C D : Int) (hB1 : 1 ≤ hB) (hyB : 2 * hB ≤ y ∧ y ≤ 2 * hB + 1)
    (hC : C.natAbs > hB.natAbs) : (fixRound x y hB C D).1.natAbs < C.natAbs := by
  rcases (by omega : hB < C ∨ C < -hB) with h | h
  · obtain ⟨t1, t2⟩ := fixT_pos hB C hB1 h
    have e1 := Int.mul_le_mul_of_nonneg_right hyB.2 (by omega : 0 ≤ fixT hB C)
    have e2 := Int.mul_pos (by omega : 0 < y) (by omega : 0 < fixT hB C)
    rw [fixRound_eq x y hB C D ⟨fun _ => by omega, fun _ => by omega⟩]
    simp only []
    omega
  · obtain ⟨t1, t2⟩ := fixT_neg hB C hB1 h
    have e1 := Int.mul_le_mul_of_nonpos_right hyB.2 (by omega : fixT hB C ≤ 0)
    have e2 := Int.mul_neg_of_pos_of_neg (by omega : 0 < y) (by omega : fixT hB C < 0)
    rw [fixRound_eq x y hB C D ⟨fun _ => by omega, fun _ => by omega⟩]
    simp only []
    omega

/-- case |C| ≤ hB but |D| > hA: from (hA + 1)·y ≤ |D|·y ≤ 1 + hB·x follows hB = 1; then y ∈ {2, 3}, C ∈ {−1, 0, 1} and the
Bezout equation is linear: only y = 2, C = −1, D = hA + 1, x = 2·hA + 1 remains -/
theorem fix_small_C_forces (x y hA hB C D : Int) (hx : 0 < x) (hxA : 2 * hA ≤ x ∧ x ≤ 2 * hA + 1)
    (hB1 : 1 ≤ hB) (hyB : 2 * hB ≤ y ∧ y ≤ 2 * hB + 1) (hbez : C * x + D * y = 1)
    (hC : ¬ C.natAbs > hB.natAbs) (hD : D.natAbs > hA.natAbs) :
    y = 2 ∧ hB = 1 ∧ C = -1 ∧ D = hA + 1 ∧ x = 2 * hA + 1 := by
  have hCle : -hB ≤ C ∧ C ≤ hB := by omega
  have hDge : hA + 1 ≤ D ∨ D ≤ -(hA + 1) := by omega
  clear hC hD
  have k1 : hB = 1 := by
    have m1 := Int.mul_le_mul_of_nonneg_right hCle.1 hx.le
    have m2 := Int.mul_le_mul_of_nonneg_right hCle.2 hx.le
    have m3 := Int.mul_le_mul_of_nonneg_left hyB.1 (by omega : 0 ≤ hA + 1)
    have m4 := Int.mul_le_mul_of_nonneg_left hxA.2 (by omega : 0 ≤ hB)
    rcases hDge with hd | hd
    · have m5 := Int.mul_le_mul_of_nonneg_right hd (by omega : 0 ≤ y)
      linarith
    · have m5 := Int.mul_le_mul_of_nonneg_right hd (by omega : 0 ≤ y)
      linarith
  subst k1
  obtain rfl | rfl : y = 2 ∨ y = 3 := by omega
  all_goals obtain rfl | rfl | rfl : C = -1 ∨ C = 0 ∨ C = 1 := by omega
  all_goals omega

theorem extBinarFix_total (x y : Int) (hx : 0 < x) (hy : 0 < y) (f : Nat) (C D : Int)
    (hbez : C * x + D * y = 1) (hf : C.natAbs + 2 ≤ f) :
    ∃ r, extBinarFix x y (hlv x) (hlv y) f C D = some r := by
  rw [hlv_of_nonneg x hx.le, hlv_of_nonneg y hy.le]
  induction f generalizing C D with
  | zero => omega
  | succ f ih =>
    rw [extBinarFix_succ]
    split
    · next hcond =>
      by_cases hC : C.natAbs > (y / 2).natAbs
      · have g1 := fixRound_decreases x y (y / 2) C D (by omega) (by omega) hC
        exact ih _ _ (by rw [fixRound_bezout]; exact hbez) (by omega)
      · obtain ⟨rfl, k2, rfl, k4, k5⟩ := fix_small_C_forces x y (x / 2) (y / 2) C D hx (by omega) (by omega) (by omega)
          hbez hC (hcond.2.resolve_left hC)
        -- the round gives (1, −⌊x/2⌋); the next test fails
        have ht : fixT (2 / 2) (-1) = -1 := by decide
        have hr : fixRound x 2 (2 / 2) (-1) D = (1, -(x / 2)) := by
          rw [fixRound_eq x 2 (2 / 2) (-1) D (by rw [ht]; decide), ht]
          exact Prod.ext rfl (by simp only []; omega)
        rw [hr]
        cases f with
        | zero => omega
        | succ f =>
          rw [extBinarFix_succ, if_neg (by omega)]
          exact ⟨_, rfl⟩
    · exact ⟨_, rfl⟩

theorem gcdExtBinarImp_spec (a b : Int) :
    ∃ d e, gcdExtBinarImp a b = some ((Int.gcd a b : Int), d, e) ∧
      (a.natAbs : Int) * d + (b.natAbs : Int) * e = (Int.gcd a b : Int) := by
  unfold gcdExtBinarImp
  split
  · next ha => subst ha; exact ⟨0, 1, by simp, by simp⟩
  split
  · next hb => subst hb; exact ⟨1, 0, by simp, by simp⟩
  next ha hb =>
  obtain ⟨xn, yn, s, hct, c2, c3, c4, c5, hyn⟩ := commonTwos_spec (a.natAbs + 1) a.natAbs b.natAbs 0 (by omega) (by omega)
    (Nat.lt_succ_self _)
  rw [hct]
  simp only [Nat.zero_add]
  have hxy : ¬((xn : Int) % 2 = 0 ∧ (yn : Int) % 2 = 0) := by omega
  have hgcd : Int.gcd a b = Nat.gcd xn yn * 2 ^ s := by
    rw [Int.gcd_eq_natAbs_gcd_natAbs, c2, c3, Nat.gcd_mul_right]
  -- the strip loop: u = the odd part of x = A·x + B·y, gcd(u, y) = gcd(x, y)
  have s1 := extBinarStrip_bezout (xn : Int) (yn : Int) hxy (xn + 1) xn 1 0 (by ring)
  have s0 := extBinarStrip_fst (xn : Int) (yn : Int) (xn + 1) xn 1 0
  obtain ⟨k2, s3, s2⟩ := stripTwos_spec (xn + 1) xn c5 (by omega)
  have hgg : Nat.gcd (stripTwos (xn + 1) xn) yn = Nat.gcd xn yn := gcd_stripTwos_left _ _ _ c5 (by omega) c4
  generalize extBinarStrip (xn : Int) (yn : Int) (xn + 1) xn 1 0 = st at s0 s1 ⊢
  obtain ⟨un, A, B⟩ := st
  simp only [] at s0 s1 ⊢
  subst s0
  obtain ⟨C, D, m1, m3⟩ := extBinarMain_spec (xn : Int) (yn : Int) hxy (2 * (stripTwos (xn + 1) xn + yn) + 2) _ yn A B 0 1
    (by omega) (by omega) s2 hyn s1 (by ring)
  rw [hgg] at m1 m3
  rw [m1]
  have hg0 : Nat.gcd xn yn ≠ 0 := fun h0 => hyn (Nat.eq_zero_of_gcd_eq_zero_right h0)
  simp only [hg0, if_false]
  -- the reduced pair x' = x/g, y' = y/g has C·x' + D·y' = 1
  obtain ⟨x', hx'⟩ := Nat.gcd_dvd_left xn yn
  obtain ⟨y', hy'⟩ := Nat.gcd_dvd_right xn yn
  generalize Nat.gcd xn yn = g at *
  have hgne : (g : Int) ≠ 0 := by omega
  have ex : (xn : Int) / (g : Int) = x' := by rw [hx', Nat.cast_mul, Int.mul_ediv_cancel_left _ hgne]
  have ey : (yn : Int) / (g : Int) = y' := by rw [hy', Nat.cast_mul, Int.mul_ediv_cancel_left _ hgne]
  rw [ex, ey]
  have hbez : C * (x' : Int) + D * (y' : Int) = 1 := by
    apply Int.eq_of_mul_eq_mul_left hgne
    rw [hx', hy'] at m3
    push_cast at m3
    linear_combination -m3
  have hx0 : x' ≠ 0 := by
    rintro rfl
    exact c5 hx'
  have hy0 : y' ≠ 0 := by
    rintro rfl
    exact hyn hy'
  obtain ⟨⟨C', D'⟩, hr⟩ := extBinarFix_total (x' : Int) (y' : Int) (by omega) (by omega) (C.natAbs + 2) C D hbez (le_refl _)
  have hf := extBinarFix_bezout _ _ _ _ _ _ _ _ _ hr
  rw [hr]
  refine ⟨C', D', by rw [hgcd, Nat.shiftLeft_eq], ?_⟩
  rw [hgcd, c2, c3, hx', hy']
  push_cast
  linear_combination (g : Int) * 2 ^ s * (hf.trans hbez)

end Relic.Lemmas.NtGcd
