/-
Proofs for Model/NtPoly.lean: bn_evl is Horner's rule modulo b; bn_lag returns n + 1 coefficients in [0, b) of a polynomial
that agrees with Π (X − a_i) modulo b at every integer X.
-/
import Mathlib.Data.Int.ModEq
import Mathlib.Tactic.Ring
import Mathlib.Algebra.BigOperators.Group.List.Basic
import RelicVerif.Model.NtPoly

namespace Relic.Lemmas.NtPoly
open Relic.Model.NtPoly

theorem modEq_of_eq {b x y : Int} (h : x = y) : x ≡ y [ZMOD b] := h ▸ Int.ModEq.refl _

theorem fmod_modEq (a b : Int) (hb : 0 < b) : Int.fmod a b ≡ a [ZMOD b] := by
  rw [Int.fmod_eq_emod_of_nonneg _ (le_of_lt hb)]; exact Int.mod_modEq a b

theorem fmod_range (a b : Int) (hb : 0 < b) : 0 ≤ Int.fmod a b ∧ Int.fmod a b < b := by
  rw [Int.fmod_eq_emod_of_nonneg _ (le_of_lt hb)]
  exact ⟨Int.emod_nonneg _ (by omega), Int.emod_lt_of_pos _ hb⟩

theorem evl_cons (a : Int) (as : List Int) (x b : Int) :
    evl (a :: as) x b = Int.fmod (Int.fmod (evl as x b * x) b + a) b := rfl

theorem evalP_cons (c : Int) (cs : List Int) (X : Int) : evalP (c :: cs) X = c + X * evalP cs X := rfl

theorem evl_modEq (as : List Int) (x b : Int) (hb : 0 < b) : evl as x b ≡ evalP as x [ZMOD b] := by
  induction as with
  | nil => exact Int.ModEq.refl _
  | cons a as ih =>
    rw [evl_cons, evalP_cons]
    refine (fmod_modEq _ b hb).trans ?_
    have h1 := ((fmod_modEq (evl as x b * x) b hb).trans (ih.mul_right x)).add_right a
    exact h1.trans (modEq_of_eq (by ring))

theorem evl_range (as : List Int) (x b : Int) (hb : 0 < b) : 0 ≤ evl as x b ∧ evl as x b < b := by
  cases as with
  | nil => exact ⟨le_refl _, hb⟩
  | cons a as => rw [evl_cons]; exact fmod_range _ b hb

theorem lagStepAux_modEq (b a X : Int) (hb : 0 < b) (cs : List Int) (prev : Int) :
    evalP (lagStepAux b a prev cs) X ≡ prev + X * evalP cs X - a * evalP cs X [ZMOD b] := by
  induction cs generalizing prev with
  | nil => exact modEq_of_eq (by simp [lagStepAux, evalP])
  | cons c cs ih =>
    rw [lagStepAux, evalP_cons, evalP_cons]
    have h0 : Int.fmod (prev - Int.fmod (c * a) b) b ≡ prev - c * a [ZMOD b] :=
      (fmod_modEq _ b hb).trans ((Int.ModEq.refl prev).sub (fmod_modEq (c * a) b hb))
    exact (h0.add ((ih c).mul_left X)).trans (modEq_of_eq (by ring))

theorem lagStep_modEq (b a X : Int) (hb : 0 < b) (cs : List Int) :
    evalP (lagStep b a cs) X ≡ (X - a) * evalP cs X [ZMOD b] :=
  (lagStepAux_modEq b a X hb cs 0).trans (modEq_of_eq (by ring))

theorem lagStepAux_length (b a : Int) (cs : List Int) (prev : Int) : (lagStepAux b a prev cs).length = cs.length + 1 := by
  induction cs generalizing prev with
  | nil => rfl
  | cons c cs ih => simp [lagStepAux, ih]

theorem lagStepAux_range (b a : Int) (hb : 0 < b) (cs : List Int) (prev : Int)
    (hp : 0 ≤ prev ∧ prev < b) (hc : ∀ c ∈ cs, 0 ≤ c ∧ c < b) :
    ∀ c ∈ lagStepAux b a prev cs, 0 ≤ c ∧ c < b := by
  induction cs generalizing prev with
  | nil => intro c hc'; simp [lagStepAux] at hc'; rw [hc']; exact hp
  | cons c0 cs ih =>
    intro c hc'
    rw [lagStepAux] at hc'
    rcases List.mem_cons.mp hc' with h | h
    · rw [h]; exact fmod_range _ b hb
    · exact ih c0 (hc c0 (List.mem_cons_self)) (fun c' h' => hc c' (List.mem_cons_of_mem _ h')) c h

/-- `cs` are `n` coefficients in [0, b) of a polynomial that agrees with `P` modulo `b` at every integer: what bn_lag maintains -/
def IsPoly (b : Int) (P : Int → Int) (n : Nat) (cs : List Int) : Prop :=
  cs.length = n ∧ (∀ c ∈ cs, 0 ≤ c ∧ c < b) ∧ ∀ X, evalP cs X ≡ P X [ZMOD b]

theorem IsPoly.step {b : Int} {P : Int → Int} {n : Nat} {cs : List Int} (hb : 0 < b) (a : Int) (h : IsPoly b P n cs) :
    IsPoly b (fun X => P X * (X - a)) (n + 1) (lagStep b a cs) :=
  ⟨by unfold lagStep; rw [lagStepAux_length, h.1], lagStepAux_range b a hb cs 0 ⟨le_refl _, hb⟩ h.2.1,
    fun X => (lagStep_modEq b a X hb cs).trans (((Int.ModEq.refl (X - a)).mul (h.2.2 X)).trans (modEq_of_eq (mul_comm _ _)))⟩

theorem IsPoly.fold {b : Int} (hb : 0 < b) (rest : List Int) : ∀ {P : Int → Int} {n : Nat} {cs : List Int}, IsPoly b P n cs →
    IsPoly b (fun X => P X * (rest.map (fun a => X - a)).prod) (n + rest.length) (rest.foldl (fun cs a => lagStep b a cs) cs) := by
  induction rest with
  | nil => intro P n cs h; simpa using h
  | cons a rest ih =>
    intro P n cs h
    have := ih (h.step hb a)
    simp only [List.foldl_cons, List.map_cons, List.prod_cons, List.length_cons]
    rw [← Nat.add_assoc, Nat.add_right_comm]
    exact ⟨this.1, this.2.1, fun X => (this.2.2 X).trans (modEq_of_eq (by ring))⟩

end Relic.Lemmas.NtPoly
