/-
Bridge between the natural-number polynomials of Spec/Gf2.lean (bit i = coefficient of z^i, xor, shift-and-xor product,
schoolbook long division) and Mathlib's `Polynomial (ZMod 2)`: `toPoly` is an injective map that turns xor into +,
`<<< k` into multiplication by X^k, `clmul` into the product and `pmod` into `%ₘ`. Every algebraic law of the
natural-number operations follows from the commutative-ring structure of (ZMod 2)[X].
-/
import Mathlib.Algebra.Polynomial.Basic
import Mathlib.Algebra.Polynomial.Div
import Mathlib.Algebra.Polynomial.Expand
import Mathlib.Algebra.CharP.Two
import Mathlib.Data.ZMod.Basic
import Mathlib.FieldTheory.Finite.Basic
import Mathlib.Tactic.Ring
import Mathlib.Tactic.Linarith
import RelicVerif.Spec.Gf2
import RelicVerif.Lemmas.NatBits
import RelicVerif.Lemmas.Loops

namespace Relic.Lemmas.Gf2Poly
open Polynomial Relic.Spec.Gf2

noncomputable def toPoly (n : Nat) : (ZMod 2)[X] :=
  ∑ i ∈ Finset.range (bitLen n), if n.testBit i then X ^ i else 0

theorem bitLen_zero : bitLen 0 = 0 := rfl

theorem bitLen_le_iff (a n : Nat) : bitLen a ≤ n ↔ a < 2 ^ n := NatBits.bl_le_iff a n

theorem lt_two_pow_bitLen (a : Nat) : a < 2 ^ bitLen a := (bitLen_le_iff a _).1 le_rfl

theorem bitLen_pos {a : Nat} (ha : a ≠ 0) : 0 < bitLen a := NatBits.bl_pos ha

theorem ne_zero_of_bitLen_pos {a : Nat} (h : 0 < bitLen a) : a ≠ 0 := by
  rintro rfl; exact absurd h (lt_irrefl 0)

theorem testBit_bitLen_sub_one {a : Nat} (ha : a ≠ 0) : a.testBit (bitLen a - 1) = true := by
  unfold bitLen; rw [if_neg ha]; simpa using Nat.testBit_log2 ha

theorem testBit_of_bitLen_eq {f d : Nat} (h : bitLen f = d + 1) : f.testBit d = true := by
  have := testBit_bitLen_sub_one (ne_zero_of_bitLen_pos (by omega : 0 < bitLen f))
  rwa [h, Nat.add_sub_cancel] at this

theorem testBit_of_bitLen_le {n i : Nat} (h : bitLen n ≤ i) : n.testBit i = false :=
  Nat.testBit_lt_two_pow ((bitLen_le_iff n i).1 h)

theorem bitLen_xor_le {x y k : Nat} (hx : bitLen x ≤ k) (hy : bitLen y ≤ k) : bitLen (x ^^^ y) ≤ k := by
  rw [bitLen_le_iff] at *
  exact Nat.xor_lt_two_pow hx hy

theorem bitLen_half_le (k n : Nat) (h : bitLen k ≤ n + 1) : bitLen (k / 2) ≤ n := by
  rw [bitLen_le_iff] at h ⊢
  rw [Nat.pow_succ] at h
  omega

theorem shiftLeft_lt_two_pow {d w k N : Nat} (hd : d < 2 ^ w) (h : w + k ≤ N) : d <<< k < 2 ^ N := by
  rw [Nat.shiftLeft_eq]
  calc d * 2 ^ k < 2 ^ w * 2 ^ k := Nat.mul_lt_mul_of_pos_right hd (Nat.two_pow_pos k)
    _ = 2 ^ (w + k) := by rw [Nat.pow_add]
    _ ≤ 2 ^ N := Nat.pow_le_pow_right (by norm_num) h

theorem bitLen_shiftLeft_le {x k : Nat} (j : Nat) (hx : bitLen x ≤ k) : bitLen (x <<< j) ≤ k + j :=
  (bitLen_le_iff _ _).2 (shiftLeft_lt_two_pow ((bitLen_le_iff _ _).1 hx) le_rfl)

theorem bitLen_shiftRight (a m : Nat) (h : m < bitLen a) : bitLen (a >>> m) + m = bitLen a := by
  have key : ∀ k, bitLen (a >>> m) ≤ k ↔ bitLen a ≤ m + k := by
    intro k
    rw [bitLen_le_iff, bitLen_le_iff, Nat.shiftRight_eq_div_pow, Nat.div_lt_iff_lt_mul (by positivity),
      Nat.pow_add, Nat.mul_comm]
  have h1 := (key (bitLen a - m)).2 (by omega)
  have h2 := (key (bitLen (a >>> m))).1 le_rfl
  omega

theorem lt_two_pow_of_testBit_false {x k : Nat} (h : x < 2 ^ (k + 1)) (hb : x.testBit k = false) :
    x < 2 ^ k := by
  apply Nat.lt_pow_two_of_testBit
  intro i hi
  rcases Nat.eq_or_lt_of_le hi with rfl | hlt
  · exact hb
  · exact Nat.testBit_lt_two_pow (lt_of_lt_of_le h (Nat.pow_le_pow_right (by norm_num) hlt))

theorem xor_lt_of_testBit {x y k : Nat} (hx : x < 2 ^ (k + 1)) (hy : y < 2 ^ (k + 1)) (bx : x.testBit k = true)
    (byk : y.testBit k = true) : x ^^^ y < 2 ^ k :=
  lt_two_pow_of_testBit_false (Nat.xor_lt_two_pow hx hy) (by rw [Nat.testBit_xor, bx, byk]; rfl)

theorem bitLen_xor_lt {x y : Nat} (h : bitLen x = bitLen y) (hx : 0 < bitLen x) : bitLen (x ^^^ y) < bitLen x := by
  obtain ⟨k, hk⟩ : ∃ k, bitLen x = k + 1 := ⟨bitLen x - 1, by omega⟩
  have hy : bitLen y = k + 1 := h ▸ hk
  rw [hk, Nat.lt_succ_iff, bitLen_le_iff]
  exact xor_lt_of_testBit ((bitLen_le_iff x _).1 hk.le) ((bitLen_le_iff y _).1 hy.le) (testBit_of_bitLen_eq hk)
    (testBit_of_bitLen_eq hy)

theorem split_lo_hi (a s : Nat) : a = (a % 2 ^ s) ^^^ ((a >>> s) <<< s) := by
  have h := NatBits.mod_two_pow_add a s (bitLen a)
  rwa [Nat.mod_eq_of_lt (lt_of_lt_of_le (lt_two_pow_bitLen a) (Nat.pow_le_pow_right (by norm_num) (by omega))),
    Nat.mod_eq_of_lt (lt_of_le_of_lt (Nat.shiftRight_le _ _) (lt_two_pow_bitLen a))] at h

theorem foldl_xor_init {ι : Type} (φ : ι → Nat) (l : List ι) (init : Nat) :
    l.foldl (fun r i => r ^^^ φ i) init = init ^^^ l.foldl (fun r i => r ^^^ φ i) 0 := by
  induction l generalizing init with
  | nil => simp
  | cons t ts ih => rw [List.foldl_cons, List.foldl_cons, ih, ih (0 ^^^ _), Nat.zero_xor, Nat.xor_assoc]

theorem coeff_toPoly (n i : Nat) : (toPoly n).coeff i = if n.testBit i then 1 else 0 := by
  unfold toPoly
  rw [Polynomial.finsetSum_coeff]
  have h : ∀ j, ((if n.testBit j then (X : (ZMod 2)[X]) ^ j else 0).coeff i)
      = if i = j then (if n.testBit j then 1 else 0) else 0 := by
    intro j
    by_cases hb : n.testBit j <;> simp [hb, coeff_X_pow]
  simp only [h]
  rw [Finset.sum_ite_eq]
  by_cases hi : i ∈ Finset.range (bitLen n)
  · rw [if_pos hi]
  · rw [if_neg hi]
    rw [Finset.mem_range, not_lt] at hi
    rw [testBit_of_bitLen_le hi]; simp

theorem toPoly_eq_of_coeff {n : Nat} {p : (ZMod 2)[X]}
    (h : ∀ i, p.coeff i = if n.testBit i then 1 else 0) : toPoly n = p := by
  ext i; rw [coeff_toPoly, h]

theorem testBit_eq_of_coeff_eq {a b i j : Nat} (h : (toPoly a).coeff i = (toPoly b).coeff j) :
    a.testBit i = b.testBit j := by
  rw [coeff_toPoly, coeff_toPoly] at h
  revert h
  cases a.testBit i <;> cases b.testBit j <;> decide

theorem toPoly_injective : Function.Injective toPoly := fun _ _ h =>
  Nat.eq_of_testBit_eq fun i => testBit_eq_of_coeff_eq (by rw [h])

theorem toPoly_zero : toPoly 0 = 0 := by
  apply toPoly_eq_of_coeff; intro i; simp

theorem testBit_of_coeff_eq_zero {a i : Nat} (h : (toPoly a).coeff i = 0) : a.testBit i = false := by
  rw [← Nat.zero_testBit i]
  exact testBit_eq_of_coeff_eq (by rw [h, toPoly_zero, coeff_zero])

theorem toPoly_two_pow (k : Nat) : toPoly (2 ^ k) = X ^ k := by
  apply toPoly_eq_of_coeff; intro i
  rw [Nat.testBit_two_pow, coeff_X_pow]
  by_cases h : i = k
  · subst h; simp
  · have : ¬ k = i := fun e => h e.symm
    simp [h, this]

theorem toPoly_one : toPoly 1 = 1 := by
  simpa using toPoly_two_pow 0

theorem toPoly_two : toPoly 2 = X := by
  simpa using toPoly_two_pow 1

theorem toPoly_eq_zero_iff (a : Nat) : toPoly a = 0 ↔ a = 0 := by
  rw [← toPoly_zero]; exact toPoly_injective.eq_iff

theorem toPoly_xor (a b : Nat) : toPoly (a ^^^ b) = toPoly a + toPoly b := by
  apply toPoly_eq_of_coeff; intro i
  rw [coeff_add, coeff_toPoly, coeff_toPoly, Nat.testBit_xor]
  cases a.testBit i <;> cases b.testBit i <;> decide

theorem toPoly_shiftLeft (a k : Nat) : toPoly (a <<< k) = X ^ k * toPoly a := by
  apply toPoly_eq_of_coeff; intro i
  rw [coeff_X_pow_mul', coeff_toPoly, Nat.testBit_shiftLeft]
  by_cases h : k ≤ i <;> simp [h]

theorem degree_toPoly_lt_iff (a n : Nat) : (toPoly a).degree < n ↔ bitLen a ≤ n := by
  rw [degree_lt_iff_coeff_zero, bitLen_le_iff]
  constructor
  · exact fun h => Nat.lt_pow_two_of_testBit _ fun i hi => testBit_of_coeff_eq_zero (h i hi)
  · intro h i hi
    rw [coeff_toPoly, Nat.testBit_lt_two_pow (lt_of_lt_of_le h (Nat.pow_le_pow_right (by norm_num) hi))]
    simp

theorem natDegree_toPoly (a : Nat) (ha : a ≠ 0) : (toPoly a).natDegree = bitLen a - 1 := by
  apply le_antisymm
  · have h : (toPoly a).degree < (bitLen a : ℕ) := (degree_toPoly_lt_iff a _).2 le_rfl
    have hp := bitLen_pos ha
    have h2 : (toPoly a).natDegree < bitLen a := by
      rw [degree_eq_natDegree ((toPoly_eq_zero_iff a).not.2 ha)] at h
      exact_mod_cast h
    omega
  · apply le_natDegree_of_ne_zero
    rw [coeff_toPoly, testBit_bitLen_sub_one ha]; simp

theorem monic_toPoly (a : Nat) (ha : a ≠ 0) : (toPoly a).Monic := by
  unfold Monic leadingCoeff
  rw [natDegree_toPoly a ha, coeff_toPoly, testBit_bitLen_sub_one ha]; simp

theorem degree_toPoly_lt_of_bitLen_lt {r f : Nat} (h : bitLen r < bitLen f) :
    (toPoly r).degree < (toPoly f).degree := by
  have hf : f ≠ 0 := ne_zero_of_bitLen_pos (by omega)
  rw [degree_eq_natDegree ((toPoly_eq_zero_iff f).not.2 hf), natDegree_toPoly f hf,
    degree_toPoly_lt_iff]
  omega

theorem toPoly_clmul_loop (a b : Nat) (n init : Nat) :
    toPoly ((List.range n).foldl (fun acc i => if b.testBit i then acc ^^^ (a <<< i) else acc) init)
      = toPoly init + ∑ i ∈ Finset.range n, if b.testBit i then toPoly (a <<< i) else 0 := by
  induction n with
  | zero => simp
  | succ n ih =>
    rw [Loops.foldl_range_succ, Finset.sum_range_succ, ← add_assoc, ← ih]
    by_cases hb : b.testBit n
    · simp only [hb, if_true]; rw [toPoly_xor]
    · simp only [hb]; simp

theorem toPoly_clmul (a b : Nat) : toPoly (clmul a b) = toPoly a * toPoly b := by
  unfold clmul
  rw [toPoly_clmul_loop, toPoly_zero, zero_add]
  conv_rhs => rw [show toPoly b = ∑ i ∈ Finset.range (bitLen b), if b.testBit i then X ^ i else 0 from rfl,
    Finset.mul_sum]
  apply Finset.sum_congr rfl
  intro i _
  by_cases hb : b.testBit i
  · simp only [hb, if_true]; rw [toPoly_shiftLeft, mul_comm]
  · simp [hb]

theorem clmul_comm (a b : Nat) : clmul a b = clmul b a := by
  apply toPoly_injective; simp only [toPoly_clmul]; ring

theorem clmul_assoc (a b c : Nat) : clmul (clmul a b) c = clmul a (clmul b c) := by
  apply toPoly_injective; simp only [toPoly_clmul]; ring

theorem clmul_xor_right (a b c : Nat) : clmul a (b ^^^ c) = clmul a b ^^^ clmul a c := by
  apply toPoly_injective; simp only [toPoly_clmul, toPoly_xor]; ring

theorem clmul_xor_left (a b c : Nat) : clmul (a ^^^ b) c = clmul a c ^^^ clmul b c := by
  rw [clmul_comm, clmul_xor_right, clmul_comm c, clmul_comm c]

theorem clmul_shiftLeft_right (a b k : Nat) : clmul a (b <<< k) = clmul a b <<< k := by
  apply toPoly_injective; simp only [toPoly_clmul, toPoly_shiftLeft]; ring

theorem clmul_shiftLeft_left (a b k : Nat) : clmul (a <<< k) b = clmul a b <<< k := by
  rw [clmul_comm, clmul_shiftLeft_right, clmul_comm]

theorem clmul_one (a : Nat) : clmul a 1 = a := by
  apply toPoly_injective; rw [toPoly_clmul, toPoly_one, mul_one]

theorem clmul_zero (a : Nat) : clmul a 0 = 0 := rfl

theorem clmul_one_left (b : Nat) : clmul 1 b = b := by rw [clmul_comm, clmul_one]

theorem clmul_zero_left (b : Nat) : clmul 0 b = 0 := by rw [clmul_comm, clmul_zero]

theorem clmul_two_pow (a k : Nat) : clmul a (2 ^ k) = a <<< k := by
  apply toPoly_injective; rw [toPoly_clmul, toPoly_two_pow, toPoly_shiftLeft, mul_comm]

theorem bitLen_clmul (a b : Nat) (ha : a ≠ 0) (hb : b ≠ 0) : bitLen (clmul a b) = bitLen a + bitLen b - 1 := by
  have hm : (toPoly (clmul a b)).Monic := by
    rw [toPoly_clmul]; exact (monic_toPoly a ha).mul (monic_toPoly b hb)
  have hc : clmul a b ≠ 0 := by
    intro h; rw [h, toPoly_zero] at hm; exact hm.ne_zero rfl
  have h := (monic_toPoly a ha).natDegree_mul (monic_toPoly b hb)
  rw [← toPoly_clmul, natDegree_toPoly _ hc, natDegree_toPoly _ ha, natDegree_toPoly _ hb] at h
  have := bitLen_pos ha; have := bitLen_pos hb; have := bitLen_pos hc
  omega

theorem clmul_lt (a b n : Nat) (ha : a < 2 ^ n) (hb : b < 2 ^ n) : clmul a b < 2 ^ (2 * n) := by
  rcases eq_or_ne a 0 with rfl | ha0
  · rw [clmul_zero_left]; exact Nat.two_pow_pos _
  rcases eq_or_ne b 0 with rfl | hb0
  · exact Nat.two_pow_pos _
  rw [← bitLen_le_iff, bitLen_clmul a b ha0 hb0]
  have h1 := (bitLen_le_iff a n).mpr ha
  have h2 := (bitLen_le_iff b n).mpr hb
  omega

theorem toPoly_clmul_self (a : Nat) : toPoly (clmul a a) = expand (ZMod 2) 2 (toPoly a) := by
  rw [toPoly_clmul, ZMod.expand_card, pow_two]

theorem clmul_self_testBit_even (a i : Nat) : (clmul a a).testBit (2 * i) = a.testBit i := by
  apply testBit_eq_of_coeff_eq
  rw [toPoly_clmul_self, mul_comm, coeff_expand_mul (by norm_num)]

theorem clmul_self_testBit_odd (a i : Nat) : (clmul a a).testBit (2 * i + 1) = false := by
  apply testBit_of_coeff_eq_zero
  rw [toPoly_clmul_self, coeff_expand (by norm_num), if_neg (by omega)]

theorem clmul_self_xor (x y : Nat) : clmul (x ^^^ y) (x ^^^ y) = clmul x x ^^^ clmul y y := by
  apply toPoly_injective
  simp only [toPoly_clmul, toPoly_xor]
  exact CharTwo.add_mul_self _ _

theorem pmod_zero_right (a : Nat) : pmod a 0 = a := by simp [pmod]

theorem pmod_zero (f : Nat) : pmod 0 f = 0 := by simp [pmod, bitLen_zero]

theorem pmod_of_bitLen_lt (a f : Nat) (h : bitLen a < bitLen f) : pmod a f = a := by
  unfold pmod
  have : bitLen a - (bitLen f - 1) = 0 := by omega
  simp [this]

theorem pmod_loop (f d : Nat) (hf : bitLen f = d + 1) (n acc : Nat) (h : acc < 2 ^ (d + n)) :
    ∃ q, (List.range n).reverse.foldl (fun acc j => if acc.testBit (d + j) then acc ^^^ (f <<< j) else acc) acc
        = acc ^^^ clmul q f ∧ acc ^^^ clmul q f < 2 ^ d := by
  induction n generalizing acc with
  | zero => exact ⟨0, by simp [clmul_zero_left], by simpa [clmul_zero_left] using h⟩
  | succ n ih =>
    rw [← Nat.add_assoc] at h
    rw [List.range_succ, List.reverse_append, List.reverse_singleton, List.singleton_append, List.foldl_cons]
    by_cases hb : acc.testBit (d + n)
    · rw [if_pos hb]
      have hlt : acc ^^^ f <<< n < 2 ^ (d + n) :=
        xor_lt_of_testBit h (shiftLeft_lt_two_pow ((bitLen_le_iff f _).1 hf.le) (by omega)) hb
          (by rw [Nat.testBit_shiftLeft]; simp [testBit_of_bitLen_eq hf])
      obtain ⟨q, hq⟩ := ih _ hlt
      have e : acc ^^^ clmul (q ^^^ 2 ^ n) f = acc ^^^ f <<< n ^^^ clmul q f := by
        rw [clmul_xor_left, clmul_comm (2 ^ n), clmul_two_pow, Nat.xor_comm (clmul q f), Nat.xor_assoc]
      exact ⟨q ^^^ 2 ^ n, by rwa [e]⟩
    · rw [if_neg hb]
      exact ih acc (lt_two_pow_of_testBit_false h (by simpa using hb))

theorem pmod_loop_spec (a f : Nat) (hf : f ≠ 0) :
    ∃ q : Nat, pmod a f = a ^^^ clmul q f ∧ pmod a f < 2 ^ (bitLen f - 1) := by
  have hfd : bitLen f = (bitLen f - 1) + 1 := by have := bitLen_pos hf; omega
  obtain ⟨q, hq, hlt⟩ := pmod_loop f (bitLen f - 1) hfd (bitLen a - (bitLen f - 1)) a
    (lt_of_lt_of_le (lt_two_pow_bitLen a) (Nat.pow_le_pow_right (by norm_num) (by omega)))
  exact ⟨q, hq, lt_of_eq_of_lt hq hlt⟩

theorem pmod_eq_xor_clmul (a f : Nat) : ∃ q, pmod a f = a ^^^ clmul q f := by
  rcases eq_or_ne f 0 with rfl | hf
  · exact ⟨0, by rw [pmod_zero_right, clmul_zero, Nat.xor_zero]⟩
  · exact (pmod_loop_spec a f hf).imp fun _ h => h.1

theorem bitLen_pmod_lt (a f : Nat) (hf : f ≠ 0) : bitLen (pmod a f) < bitLen f := by
  obtain ⟨_, _, hlt⟩ := pmod_loop_spec a f hf
  have := (bitLen_le_iff _ _).2 hlt
  have := bitLen_pos hf
  omega

theorem pmod_spec (a f : Nat) : ∃ q, a = clmul q f ^^^ pmod a f := by
  obtain ⟨q, hq⟩ := pmod_eq_xor_clmul a f
  exact ⟨q, by rw [hq, Nat.xor_comm a, ← Nat.xor_assoc, Nat.xor_self, Nat.zero_xor]⟩

theorem modByMonic_of_eq {a f q r : Nat} (h : a = clmul q f ^^^ r) (hr : bitLen r < bitLen f) :
    toPoly a %ₘ toPoly f = toPoly r := by
  refine (div_modByMonic_unique (toPoly q) (toPoly r) (monic_toPoly f (ne_zero_of_bitLen_pos (by omega)))
    ⟨?_, degree_toPoly_lt_of_bitLen_lt hr⟩).2
  rw [h, toPoly_xor, toPoly_clmul]; ring

theorem toPoly_pmod (a f : Nat) (hf : f ≠ 0) : toPoly (pmod a f) = toPoly a %ₘ toPoly f := by
  obtain ⟨q, hq⟩ := pmod_spec a f
  exact (modByMonic_of_eq hq (bitLen_pmod_lt a f hf)).symm

theorem pmod_unique (a f q r : Nat) (h : a = clmul q f ^^^ r) (hr : bitLen r < bitLen f) : pmod a f = r :=
  toPoly_injective ((toPoly_pmod a f (ne_zero_of_bitLen_pos (by omega))).trans (modByMonic_of_eq h hr))

theorem pmod_xor (a b f : Nat) : pmod (a ^^^ b) f = pmod a f ^^^ pmod b f := by
  rcases eq_or_ne f 0 with rfl | hf
  · simp only [pmod_zero_right]
  · apply toPoly_injective
    simp only [toPoly_pmod _ _ hf, toPoly_xor, add_modByMonic]

theorem pmod_pmod (a f : Nat) (hf : f ≠ 0) : pmod (pmod a f) f = pmod a f :=
  pmod_of_bitLen_lt _ _ (bitLen_pmod_lt a f hf)

theorem pmod_clmul_self (q f : Nat) : pmod (clmul q f) f = 0 := by
  rcases eq_or_ne f 0 with rfl | hf
  · rw [clmul_zero, pmod_zero_right]
  · exact pmod_unique _ _ q 0 (Nat.xor_zero _).symm (bitLen_pos hf)

theorem pmod_xor_clmul (a q f : Nat) : pmod (a ^^^ clmul q f) f = pmod a f := by
  rw [pmod_xor, pmod_clmul_self, Nat.xor_zero]

theorem pmod_clmul_pmod_left (a b f : Nat) : pmod (clmul (pmod a f) b) f = pmod (clmul a b) f := by
  obtain ⟨q, hq⟩ := pmod_eq_xor_clmul a f
  rw [hq, clmul_xor_left, clmul_assoc, clmul_comm f, ← clmul_assoc, pmod_xor_clmul]

theorem pmod_clmul_pmod_right (a b f : Nat) : pmod (clmul a (pmod b f)) f = pmod (clmul a b) f := by
  rw [clmul_comm a, pmod_clmul_pmod_left, clmul_comm b]

/-! ### the ring GF(2)[z]/(f) on natural numbers -/

theorem Field.mul_comm (F : Field) (a b : Nat) : F.mul a b = F.mul b a := by
  unfold Field.mul; rw [clmul_comm]

theorem Field.mul_assoc (F : Field) (a b c : Nat) : F.mul (F.mul a b) c = F.mul a (F.mul b c) := by
  unfold Field.mul
  rw [pmod_clmul_pmod_left, pmod_clmul_pmod_right, clmul_assoc]

theorem Field.mul_xor (F : Field) (a b c : Nat) : F.mul a (b ^^^ c) = F.mul a b ^^^ F.mul a c := by
  unfold Field.mul
  rw [clmul_xor_right, pmod_xor]

theorem Field.xor_mul (F : Field) (hf : F.f ≠ 0) (a b c : Nat) : F.mul (a ^^^ b) c = F.mul a c ^^^ F.mul b c := by
  rw [Field.mul_comm, Field.mul_xor, Field.mul_comm F c, Field.mul_comm F c]

theorem Field.mul_one (F : Field) (a : Nat) (ha : bitLen a < bitLen F.f) : F.mul a 1 = a := by
  unfold Field.mul
  rw [clmul_one, pmod_of_bitLen_lt _ _ ha]

theorem Field.mul_zero (F : Field) (a : Nat) : F.mul a 0 = 0 := pmod_zero F.f

theorem Field.zero_mul (F : Field) (a : Nat) : F.mul 0 a = 0 := by
  rw [Field.mul_comm, Field.mul_zero]

theorem Field.sqr_xor (F : Field) (a b : Nat) : F.sqr (a ^^^ b) = F.sqr a ^^^ F.sqr b := by
  unfold Field.sqr Field.mul
  rw [clmul_self_xor, pmod_xor]

theorem Field.sqrN_xor (F : Field) (n a b : Nat) : F.sqrN n (a ^^^ b) = F.sqrN n a ^^^ F.sqrN n b := by
  induction n generalizing a b with
  | zero => rfl
  | succ n ih => rw [Field.sqrN, Field.sqr_xor, ih]; rfl

theorem Field.sqrN_zero (F : Field) (n : Nat) : F.sqrN n 0 = 0 := by
  induction n with
  | zero => rfl
  | succ n ih => rw [Field.sqrN, Field.sqr, Field.mul_zero, ih]

theorem wf_parts {F : Field} (hF : F.wellFormed = true) :
    bitLen F.f = F.m + 1 ∧ F.f % 2 = 1 ∧ 2 ≤ F.m ∧ F.f ≠ 0 := by
  unfold Field.wellFormed at hF
  simp only [Bool.and_eq_true, beq_iff_eq, decide_eq_true_eq] at hF
  obtain ⟨⟨h1, h2⟩, h3⟩ := hF
  exact ⟨h1, h2, h3, ne_zero_of_bitLen_pos (by omega)⟩

theorem isElem_iff (F : Field) (a : Nat) : F.isElem a = true ↔ bitLen a ≤ F.m := decide_eq_true_iff

theorem isElem_pmod (F : Field) (hF : F.wellFormed = true) (a : Nat) : bitLen (pmod a F.f) ≤ F.m := by
  obtain ⟨h1, _, _, hf⟩ := wf_parts hF
  have := bitLen_pmod_lt a F.f hf
  omega

theorem isElem_mul (F : Field) (hF : F.wellFormed = true) (a b : Nat) : bitLen (F.mul a b) ≤ F.m :=
  isElem_pmod F hF _

theorem isElem_sqr (F : Field) (hF : F.wellFormed = true) (a : Nat) : bitLen (F.sqr a) ≤ F.m :=
  isElem_pmod F hF _

theorem pmod_elem (F : Field) (hF : F.wellFormed = true) {a : Nat} (ha : bitLen a ≤ F.m) : pmod a F.f = a :=
  pmod_of_bitLen_lt _ _ (by have := (wf_parts hF).1; omega)

end Relic.Lemmas.Gf2Poly
