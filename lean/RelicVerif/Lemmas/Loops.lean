/-
Invariants of `List.foldl` loops that carry the position in the list, from core Lean alone so that every module can import them.
(Two folds over one list that keep a relation: `List.foldl_rel` of core.)
Also the length of ⌈n/o⌉ blocks of o elements cut to n, which every counter-mode derivation function writes down again, the
index loop over two buffers as a `zipWith`, and the octet-wise xor with one string applied twice (`Mac.xorBytes`,
`Aes.addRoundKey` are this `zipWith`).
-/

namespace Relic.Lemmas.Loops

theorem foldl_range_succ {α : Type} (g : α → Nat → α) (init : α) (n : Nat) :
    (List.range (n + 1)).foldl g init = g ((List.range n).foldl g init) n := by
  rw [List.range_succ, List.foldl_append]; rfl

theorem foldl_ind_idx {α β : Type} (g : α → β → α) (P : Nat → α → Prop) (l : List β) {init : α} (h0 : P 0 init)
    (hs : ∀ (i : Nat) (hi : i < l.length) (st : α), P i st → P (i + 1) (g st l[i])) : P l.length (l.foldl g init) := by
  induction l generalizing P init with
  | nil => exact h0
  | cons b l ih =>
    exact ih (fun i => P (i + 1)) (hs 0 (Nat.zero_lt_succ _) _ h0) fun i hi st h => hs (i + 1) (Nat.succ_lt_succ hi) st h

theorem foldl_range_ind {α : Type} (g : α → Nat → α) (P : Nat → α → Prop) {init : α} (h0 : P 0 init) (n : Nat)
    (hs : ∀ k st, k < n → P k st → P (k + 1) (g st k)) : P n ((List.range n).foldl g init) := by
  have := foldl_ind_idx g P (List.range n) h0 fun i hi st h => by
    rw [List.getElem_range]; exact hs i st (by simpa using hi) h
  rwa [List.length_range] at this

theorem length_flatMap_const {α β : Type} (k : Nat) (f : α → List β) : ∀ l : List α, (∀ d ∈ l, (f d).length = k) →
    (l.flatMap f).length = l.length * k
  | [], _ => by simp
  | x :: l, h => by
    rw [List.flatMap_cons, List.length_append, length_flatMap_const k f l (fun d hd => h d (by simp [hd])),
      h x (by simp), List.length_cons, Nat.succ_mul, Nat.add_comm]

theorem ceil_div_bounds (k o : Nat) (hpos : 0 < o) :
    k ≤ o * ((k + o - 1) / o) ∧ o * ((k + o - 1) / o) < k + o := by
  have hdm := Nat.div_add_mod (k + o - 1) o
  have hml := Nat.mod_lt (k + o - 1) hpos
  generalize (k + o - 1) % o = r at *
  generalize o * ((k + o - 1) / o) = q at *
  omega

theorem length_take_flatMap_ceil {α β : Type} (o : Nat) (hpos : 0 < o) (l : List α) (f : α → List β)
    (hf : ∀ i, (f i).length = o) (n : Nat) (hl : l.length = (n + o - 1) / o) : ((l.flatMap f).take n).length = n := by
  rw [List.length_take, length_flatMap_const o f l (fun i _ => hf i), hl]
  have := (ceil_div_bounds n o hpos).1
  rw [Nat.mul_comm] at this
  omega

theorem map_range_zipWith {α β γ} (f : α → β → γ) (a : List α) (b : List β) (da : α) (db : β) (n : Nat)
    (ha : a.length = n) (hb : b.length = n) :
    (List.range n).map (fun i => f (a.getD i da) (b.getD i db)) = List.zipWith f a b := by
  apply List.ext_getElem
  · simp [ha, hb]
  · intro i h1 h2
    simp at h1 h2
    simp [ha, hb, h1]

theorem zipWith_xor_cancel (a b : List UInt8) (h : a.length ≤ b.length) :
    List.zipWith (· ^^^ ·) (List.zipWith (· ^^^ ·) a b) b = a := by
  induction a generalizing b with
  | nil => simp
  | cons x t ih =>
    cases b with
    | nil => simp at h
    | cons y s =>
      simp only [List.zipWith_cons_cons, List.cons.injEq]
      refine ⟨?_, ih s (by simpa using h)⟩
      rw [UInt8.xor_assoc, UInt8.xor_self, UInt8.xor_zero]

theorem map_range_getD {α β} (l : List α) (d : α) (f : α → β) (n : Nat) (h : l.length = n) :
    (List.range n).map (fun i => f (l.getD i d)) = l.map f := by
  rw [map_range_zipWith (fun x _ => f x) l l d d n h h, List.zipWith_self]

theorem foldl_sim {α β γ : Type} (f : α → β) (I : α → Prop) (g : α → γ → α) (g' : β → γ → β)
    (h : ∀ x y, I x → f (g x y) = g' (f x) y ∧ I (g x y)) (l : List γ) (x : α) (hx : I x) :
    f (l.foldl g x) = l.foldl g' (f x) ∧ I (l.foldl g x) :=
  List.foldl_rel (r := fun a b => f a = b ∧ I a) ⟨rfl, hx⟩ fun y _ a _ ⟨e, hi⟩ => e ▸ h a y hi

theorem foldl_chunks_inv {σ β : Type} (f : σ → List β → σ) (I : σ → List β → Prop) (N : Nat)
    (step : ∀ s m c, I s m → m.length + c.length ≤ N → I (f s c) (m ++ c)) (cs : List (List β)) (s : σ) (m : List β)
    (hi : I s m) (h : m.length + cs.flatten.length ≤ N) : I (cs.foldl f s) (m ++ cs.flatten) := by
  induction cs generalizing s m with
  | nil => simpa using hi
  | cons c t ih =>
    rw [List.flatten_cons, List.length_append] at h
    rw [List.foldl_cons, List.flatten_cons, ← List.append_assoc]
    exact ih _ _ (step s m c hi (by omega)) (by rw [List.length_append]; omega)

end Relic.Lemmas.Loops
