/-
The fast evaluators of Model/BinFast.lean (window product, folding reduction, shared doubling chains) are equal to the
plain definitions of Spec/Gf2.lean and Spec/BinCurve.lean: the specification column of the driver is the specification's value.
-/
import Mathlib.Tactic.Ring
import Mathlib.Tactic.Linarith
import Mathlib.Tactic.IntervalCases
import RelicVerif.Lemmas.Gf2Poly
import RelicVerif.Model.BinFast

namespace Relic.Lemmas.BinFast
open Relic.Spec.Gf2 Relic.Spec.BinCurve Relic.Model.BinFast Relic.Lemmas.Gf2Poly

theorem tab16_getD (a u : Nat) (hu : u < 16) : (tab16 a).getD u 0 = clmul a u := by
  have h := clmul_xor_right a
  have h1 := clmul_one a
  have h2 : clmul a 2 = a <<< 1 := clmul_two_pow a 1
  have h4 : clmul a 4 = a <<< 2 := clmul_two_pow a 2
  have h8 : clmul a 8 = a <<< 3 := clmul_two_pow a 3
  interval_cases u
  · rfl
  · exact h1.symm
  · exact h2.symm
  · show _ = clmul a (2 ^^^ 1); rw [h, h2, h1]; rfl
  · exact h4.symm
  · show _ = clmul a (4 ^^^ 1); rw [h, h4, h1]; rfl
  · show _ = clmul a (4 ^^^ 2); rw [h, h4, h2]; rfl
  · show _ = clmul a (4 ^^^ 2 ^^^ 1); rw [h, h, h4, h2, h1]; rfl
  · exact h8.symm
  · show _ = clmul a (8 ^^^ 1); rw [h, h8, h1]; rfl
  · show _ = clmul a (8 ^^^ 2); rw [h, h8, h2]; rfl
  · show _ = clmul a (8 ^^^ 2 ^^^ 1); rw [h, h, h8, h2, h1]; rfl
  · show _ = clmul a (8 ^^^ 4); rw [h, h8, h4]; rfl
  · show _ = clmul a (8 ^^^ 4 ^^^ 1); rw [h, h, h8, h4, h1]; rfl
  · show _ = clmul a (8 ^^^ 4 ^^^ 2); rw [h, h, h8, h4, h2]; rfl
  · show _ = clmul a (8 ^^^ 4 ^^^ 2 ^^^ 1); rw [h, h, h, h8, h4, h2, h1]; rfl

/-- Horner evaluation over windows of width w, from the top window down -/
theorem window_fold (a w : Nat) (g : Nat → Nat → Nat)
    (hg : ∀ hi d, d < 2 ^ w → g d (clmul a hi) = clmul a (hi <<< w ^^^ d)) (x : Nat) :
    ∀ n hi, (List.range n).foldr (fun k acc => g ((x >>> (w * k)) % 2 ^ w) acc) (clmul a hi)
      = clmul a (hi <<< (w * n) ^^^ x % 2 ^ (w * n)) := by
  intro n
  induction n with
  | zero => intro hi; simp [Nat.mod_one]
  | succ n ih =>
    intro hi
    rw [List.range_succ, List.foldr_append]
    simp only [List.foldr_cons, List.foldr_nil]
    rw [hg hi _ (Nat.mod_lt _ (by positivity)), ih]
    congr 1
    rw [Nat.mul_succ, NatBits.mod_two_pow_add, Nat.shiftLeft_xor_distrib, ← Nat.shiftLeft_add, Nat.xor_assoc,
      Nat.xor_comm (x % _), Nat.add_comm w]

theorem clmulW_eq (a b : Nat) : clmulW a b = clmul a b := by
  have inner : ∀ hi d, d < 2 ^ 32 →
      (List.range 8).foldr (fun k acc => (acc <<< 4) ^^^ (tab16 a).getD ((d >>> (4 * k)) % 16) 0) (clmul a hi)
        = clmul a (hi <<< 32 ^^^ d) := by
    intro hi d hd
    have := window_fold a 4 (fun nib acc => (acc <<< 4) ^^^ (tab16 a).getD nib 0) (by
      intro hi d hd
      rw [tab16_getD a d hd, clmul_xor_right, clmul_shiftLeft_right]) d 8 hi
    simp only [show (2:ℕ) ^ 4 = 16 from rfl, show 4 * 8 = 32 from rfl] at this
    rw [this, Nat.mod_eq_of_lt hd]
  unfold clmulW limbs32
  simp only []
  rw [List.foldr_map]
  have := window_fold a 32 (fun limb acc =>
      (List.range 8).foldr (fun k acc => (acc <<< 4) ^^^ (tab16 a).getD ((limb >>> (4 * k)) % 16) 0) acc)
      inner b ((bitLen b + 31) / 32) 0
  rw [clmul_zero] at this
  rw [this]
  congr 1
  have hb : b < 2 ^ (32 * ((bitLen b + 31) / 32)) := by
    rw [← bitLen_le_iff]; omega
  rw [Nat.mod_eq_of_lt hb]; simp

theorem setBits_fold (n h : Nat) : ∀ bound init,
    (setBits n bound).foldl (fun acc e => acc ^^^ (h <<< e)) init = init ^^^ clmul h (n % 2 ^ bound) := by
  intro bound
  induction bound with
  | zero => intro init; simp [setBits, Nat.mod_one, clmul_zero]
  | succ b ih =>
    intro init
    have ih' := ih init
    unfold setBits at ih' ⊢
    rw [List.range_succ, List.filter_append, List.foldl_append, ih', NatBits.mod_two_pow_succ]
    by_cases hb : n.testBit b
    · simp [hb, clmul_xor_right, clmul_two_pow, Nat.xor_assoc]
    · simp [hb]

theorem split_top (f m : Nat) (h : bitLen f = m + 1) : 2 ^ m ^^^ f % 2 ^ m = f := by
  have := NatBits.mod_two_pow_succ f m
  rwa [Nat.mod_eq_of_lt ((bitLen_le_iff f _).1 h.le), testBit_of_bitLen_eq h, if_pos rfl, Nat.xor_comm,
    eq_comm] at this

theorem setBits_sum (f m : Nat) (h : bitLen f = m + 1) :
    (setBits f m).foldl (fun acc e => acc ^^^ (1 <<< e)) (1 <<< m) = f := by
  rw [setBits_fold, clmul_comm, clmul_one, Nat.one_shiftLeft, split_top f m h]

theorem foldStep_spec (f m a : Nat) (h : bitLen f = m + 1) :
    foldStep m (setBits f m) a = a ^^^ clmul (a >>> m) f := by
  unfold foldStep
  simp only []
  rw [setBits_fold, Nat.xor_assoc, ← clmul_two_pow, ← clmul_xor_right, split_top f m h]

/-- the multiple of f added by a folding step has the degree of a, so it cancels the leading coefficient -/
theorem foldStep_bitLen_lt (f m a : Nat) (h : bitLen f = m + 1) (ha : m < bitLen a) :
    bitLen (a ^^^ clmul (a >>> m) f) < bitLen a := by
  have hs := bitLen_shiftRight a m ha
  refine bitLen_xor_lt ?_ (by omega)
  rw [bitLen_clmul _ _ (ne_zero_of_bitLen_pos (by omega)) (ne_zero_of_bitLen_pos (by omega))]
  omega

theorem pmodS_go_eq (f m : Nat) (h : bitLen f = m + 1) : ∀ fuel a, bitLen a ≤ m + fuel →
    pmodS.go m (setBits f m) fuel a = pmod a f := by
  intro fuel
  induction fuel with
  | zero =>
    intro a ha
    unfold pmodS.go
    exact (pmod_of_bitLen_lt a f (by omega)).symm
  | succ fuel ih =>
    intro a ha
    unfold pmodS.go
    by_cases hle : bitLen a ≤ m
    · rw [if_pos hle]; exact (pmod_of_bitLen_lt a f (by omega)).symm
    · rw [if_neg hle, foldStep_spec f m a h, ih, pmod_xor_clmul]
      have := foldStep_bitLen_lt f m a h (by omega)
      omega

theorem pmodS_eq (F : Field) (hF : F.wellFormed = true) (a : Nat) : pmodS F.m (setBits F.f F.m) a = pmod a F.f := by
  unfold pmodS
  exact pmodS_go_eq F.f F.m (wf_parts hF).1 _ _ (by omega)

/-! ### the field operations -/

theorem FF.pmodS_ofField (F : Field) (hF : F.wellFormed = true) (a : Nat) :
    pmodS (FF.ofField F).F.m (FF.ofField F).exps a = pmod a F.f := pmodS_eq F hF a

theorem FF.mul_eq (F : Field) (hF : F.wellFormed = true) : (FF.ofField F).mul = F.mul := by
  funext a b
  rw [FF.mul, FF.pmodS_ofField F hF, clmulW_eq]; rfl

theorem FF.sqr_eq (F : Field) (hF : F.wellFormed = true) : (FF.ofField F).sqr = F.sqr := by
  funext a
  rw [FF.sqr, FF.mul_eq F hF]; rfl

theorem FF.sqrN_eq (F : Field) (hF : F.wellFormed = true) (n a : Nat) : (FF.ofField F).sqrN n a = F.sqrN n a := by
  induction n generalizing a with
  | zero => rfl
  | succ n ih => rw [FF.sqrN, Field.sqrN, FF.sqr_eq F hF, ih]

theorem FF.invFermat_eq (F : Field) (hF : F.wellFormed = true) (a : Nat) : (FF.ofField F).invFermat a = F.invFermat a := by
  rw [FF.invFermat, FF.pmodS_ofField F hF, FF.pmodS_ofField F hF, FF.mul_eq F hF, FF.sqr_eq F hF]
  rfl

theorem FF.inv_eq (F : Field) (hF : F.wellFormed = true) (a : Nat) : (FF.ofField F).inv a = F.inv a := by
  rw [FF.inv, FF.mul_eq F hF, FF.invFermat_eq F hF]
  rfl

theorem FF.pow_go_eq (F : Field) (hF : F.wellFormed = true) : ∀ fuel base e acc,
    FF.pow.go (FF.ofField F) fuel base e acc = Field.pow.go F fuel base e acc := by
  intro fuel
  induction fuel with
  | zero => intro base e acc; rfl
  | succ fuel ih =>
    intro base e acc
    rw [FF.pow.go, Field.pow.go, ih, FF.sqr_eq F hF, FF.mul_eq F hF]

theorem FF.pow_eq (F : Field) (hF : F.wellFormed = true) (a e : Nat) : (FF.ofField F).pow a e = F.pow a e := by
  rw [FF.pow, FF.pow_go_eq F hF, FF.pmodS_ofField F hF, FF.pmodS_ofField F hF]
  rfl

theorem FF.sqrt_eq (F : Field) (hF : F.wellFormed = true) (a : Nat) : (FF.ofField F).sqrt a = F.sqrt a :=
  FF.sqrN_eq F hF _ a

theorem FF.trace_eq (F : Field) (hF : F.wellFormed = true) (a : Nat) : (FF.ofField F).trace a = F.trace a := by
  rw [FF.trace, FF.pmodS_ofField F hF, FF.sqr_eq F hF]
  rfl

theorem FF.halfTrace_eq (F : Field) (hF : F.wellFormed = true) (a : Nat) : (FF.ofField F).halfTrace a = F.halfTrace a := by
  rw [FF.halfTrace, FF.pmodS_ofField F hF, FF.sqr_eq F hF]
  rfl

theorem FF.itr_eq (F : Field) (hF : F.wellFormed = true) (a : Nat) (b : Int) : (FF.ofField F).itr a b = F.itr a b := by
  rw [FF.itr, FF.sqrN_eq F hF, FF.sqrN_eq F hF]; rfl

theorem FF.exp_eq (F : Field) (hF : F.wellFormed = true) (a : Nat) (k : Int) : (FF.ofField F).exp a k = F.exp a k := by
  rw [FF.exp, FF.pow_eq F hF, FF.pow_eq F hF, FF.inv_eq F hF]; rfl

theorem FF.mul2_eq (F : Field) (hF : F.wellFormed = true) : (FF.ofField F).mul2 = Ext.mul F := by
  funext a b
  rw [FF.mul2, FF.mul_eq F hF]; rfl

theorem FF.sqr2_eq (F : Field) (hF : F.wellFormed = true) : (FF.ofField F).sqr2 = Ext.sqr F := by
  funext a
  rw [FF.sqr2, FF.mul2_eq F hF]; rfl

theorem FF.trace2_eq (F : Field) (hF : F.wellFormed = true) (a : Ext.El) : (FF.ofField F).trace2 a = Ext.trace F a := by
  rw [FF.trace2, FF.sqr2_eq F hF]
  rfl

theorem add_eq (c : Curve) (hF : c.F.wellFormed = true) (p q : Point) :
    Relic.Model.BinFast.add (FC.ofCurve c) p q = Relic.Spec.BinCurve.add c p q := by
  rcases p with _ | ⟨x1, y1⟩ <;> rcases q with _ | ⟨x2, y2⟩ <;>
    simp only [Relic.Model.BinFast.add, Relic.Spec.BinCurve.add, FC.ofCurve,
      FF.mul_eq c.F hF, FF.sqr_eq c.F hF, FF.inv_eq c.F hF]

theorem dbl_eq (c : Curve) (hF : c.F.wellFormed = true) (p : Point) :
    Relic.Model.BinFast.dbl (FC.ofCurve c) p = Relic.Spec.BinCurve.dbl c p := by
  unfold Relic.Model.BinFast.dbl Relic.Spec.BinCurve.dbl
  exact add_eq c hF p p

theorem neg_eq (c : Curve) (p : Point) : Relic.Model.BinFast.neg p = Relic.Spec.BinCurve.neg c p := by
  unfold Relic.Model.BinFast.neg Relic.Spec.BinCurve.neg
  rfl

theorem onCurve_eq (c : Curve) (hF : c.F.wellFormed = true) (p : Point) :
    Relic.Model.BinFast.onCurve (FC.ofCurve c) p = Relic.Spec.BinCurve.onCurve c p := by
  unfold Relic.Model.BinFast.onCurve Relic.Spec.BinCurve.onCurve FC.ofCurve
  simp only [FF.mul_eq c.F hF, FF.sqr_eq c.F hF]
  rfl

theorem frb_eq (c : Curve) (hF : c.F.wellFormed = true) (p : Point) :
    Relic.Model.BinFast.frb (FC.ofCurve c) p = Relic.Spec.BinCurve.frb c p := by
  rcases p with _ | ⟨x, y⟩ <;>
    simp only [Relic.Model.BinFast.frb, Relic.Spec.BinCurve.frb, FC.ofCurve, FF.sqr_eq c.F hF]

theorem mulNat_go_zero (c : Curve) (fuel : Nat) (base acc : Point) :
    Relic.Spec.BinCurve.mulNat.go c fuel 0 base acc = acc := by
  cases fuel <;> simp [Relic.Spec.BinCurve.mulNat.go]

theorem mulNatChain_go_eq (c : Curve) (hF : c.F.wellFormed = true) : ∀ n fuel k base acc,
    bitLen k ≤ n → bitLen k ≤ fuel →
    mulNatChain.go (FC.ofCurve c) (dblChain (FC.ofCurve c) n base) k acc
      = Relic.Spec.BinCurve.mulNat.go c fuel k base acc := by
  intro n
  induction n with
  | zero =>
    intro fuel k base acc hn _
    obtain rfl : k = 0 := by
      by_contra h
      have := bitLen_pos h
      omega
    rw [mulNat_go_zero]; rfl
  | succ n ih =>
    intro fuel k base acc hn hf
    rcases eq_or_ne k 0 with rfl | hk
    · rw [mulNat_go_zero]; rfl
    · obtain ⟨f, rfl⟩ : ∃ f, fuel = f + 1 := ⟨fuel - 1, by have := bitLen_pos hk; omega⟩
      unfold dblChain mulNatChain.go Relic.Spec.BinCurve.mulNat.go
      rw [if_neg hk, if_neg hk, dbl_eq c hF, add_eq c hF]
      exact ih f (k / 2) _ _ (bitLen_half_le k n hn) (bitLen_half_le k f hf)

theorem mulNatChain_eq (c : Curve) (hF : c.F.wellFormed = true) (p : Point) (k n : Nat) (hn : bitLen k ≤ n) :
    mulNatChain (FC.ofCurve c) (dblChain (FC.ofCurve c) n p) k = Relic.Spec.BinCurve.mulNat c p k := by
  unfold mulNatChain Relic.Spec.BinCurve.mulNat
  apply mulNatChain_go_eq c hF n _ k p none hn
  unfold bitLen; split <;> omega

theorem mulNat_eq (c : Curve) (hF : c.F.wellFormed = true) (p : Point) (k : Nat) :
    Relic.Model.BinFast.mulNat (FC.ofCurve c) p k = Relic.Spec.BinCurve.mulNat c p k := by
  unfold Relic.Model.BinFast.mulNat
  exact mulNatChain_eq c hF p k _ le_rfl

theorem mul_eq (c : Curve) (hF : c.F.wellFormed = true) (p : Point) (k : Int) :
    Relic.Model.BinFast.mul (FC.ofCurve c) p k = Relic.Spec.BinCurve.mul c p k := by
  unfold Relic.Model.BinFast.mul Relic.Spec.BinCurve.mul
  rw [mulNat_eq c hF, mulNat_eq c hF, neg_eq c]

theorem dblChain_length (fc : FC) : ∀ n p, (dblChain fc n p).length = n := by
  intro n
  induction n with
  | zero => intro p; rfl
  | succ n ih => intro p; unfold dblChain; simp [ih]

/-- what the driver evaluates: with the memoised chain of p (any length) or without -/
theorem mulWith_eq (c : Curve) (hF : c.F.wellFormed = true) (p : Point) (k : Int) (n : Nat) :
    mulWith (FC.ofCurve c) (some (dblChain (FC.ofCurve c) n p)) p k = Relic.Spec.BinCurve.mul c p k ∧
    mulWith (FC.ofCurve c) none p k = Relic.Spec.BinCurve.mul c p k := by
  refine ⟨?_, ?_⟩
  · unfold mulWith
    simp only [dblChain_length]
    by_cases hle : bitLen k.natAbs ≤ n
    · rw [if_pos hle]
      unfold Relic.Spec.BinCurve.mul
      by_cases hk : k < 0
      · rw [if_pos hk, if_pos hk, mulNatChain_eq c hF p _ n hle, neg_eq c]
      · rw [if_neg hk, if_neg hk]
        have : k.toNat = k.natAbs := by omega
        rw [mulNatChain_eq c hF p _ n (by rw [this]; exact hle)]
    · rw [if_neg hle]; exact mul_eq c hF p k
  · unfold mulWith
    exact mul_eq c hF p k

end Relic.Lemmas.BinFast
