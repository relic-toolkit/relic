/-
The lookup tables of src/bc/rijndael-alg-fst.c, as extracted from the C text on every run (Gen/AesTables.lean, written by
tools/translate_aes.py), are what the comment above them in the C file (lines 32-44) claims, for all 256 indices:

    Te0[x] = S [x].[02, 01, 01, 03]   …   Te4[x] = S [x].[01, 01, 01, 01]
    Td0[x] = Si[x].[0e, 09, 0d, 0b]   …   Td4[x] = Si[x].[01, 01, 01, 01]
    rcon[i] = x^i in GF(2^8), in the top byte

with S, Si and the products those of Spec/Aes.lean.  The ten statements are one predicate `IsCol`, each checked by one kernel
evaluation on `Nat` against the literal S-boxes of Lemmas/Aes.lean.  Words are written in the xor form `X` of GETU32; the `|||`
form `pack` of the statement in Props/C14 is the same word.
-/
import RelicVerif.Lemmas.Aes
import RelicVerif.Gen.AesTables
import RelicVerif.Model.Rijndael

namespace Relic.Lemmas.AesTables
open Relic.Spec.Aes Relic.Gen.AesTables Relic.Model

/-- the word (a, b, c, d), a in the most significant byte -/
def pack (a b c d : UInt8) : UInt32 :=
  (a.toUInt32 <<< (24 : UInt32)) ||| (b.toUInt32 <<< (16 : UInt32)) ||| (c.toUInt32 <<< (8 : UInt32)) ||| d.toUInt32

/-- GETU32 of four bytes -/
def X (a b c d : UInt8) : UInt32 :=
  (a.toUInt32 <<< (24 : UInt32)) ^^^ (b.toUInt32 <<< (16 : UInt32)) ^^^ (c.toUInt32 <<< (8 : UInt32)) ^^^ d.toUInt32

/-- `T[x] = f[x]·(c0, c1, c2, c3)`: the bytes of the table word are the GF(2^8) multiples of `f x` -/
def IsCol (t : Array UInt32) (f : UInt8 → UInt8) (c0 c1 c2 c3 : UInt8) : Prop :=
  ∀ a : UInt8, Rijndael.tab t a.toUInt32 = X (gmul c0 (f a)) (gmul c1 (f a)) (gmul c2 (f a)) (gmul c3 (f a))

/-- `c·s` for `c < 16` from the three multiples `x1 = 2s, x2 = 4s, x3 = 8s` -/
def mulN (s x1 x2 x3 c : Nat) : Nat :=
  (s * (c &&& 1)) ^^^ (x1 * ((c >>> 1) &&& 1)) ^^^ (x2 * ((c >>> 2) &&& 1)) ^^^ (x3 * (c >>> 3))

/-- the word `s·(c0, c1, c2, c3)` on `Nat`: one chain of `xtime` serves the four bytes -/
def colN (c0 c1 c2 c3 s : Nat) : Nat :=
  let x1 := Aes.xtimeN s; let x2 := Aes.xtimeN x1; let x3 := Aes.xtimeN x2
  (mulN s x1 x2 x3 c0 <<< 24) ^^^ (mulN s x1 x2 x3 c1 <<< 16) ^^^ (mulN s x1 x2 x3 c2 <<< 8) ^^^ mulN s x1 x2 x3 c3

/-- the coefficients of MixColumns and InvMixColumns -/
def coeffs : List UInt8 := [1, 2, 3, 9, 0x0b, 0x0d, 0x0e]

theorem gmul_coeff (c : UInt8) (hc : c ∈ coeffs) (s : UInt8) :
    (gmul c s).toNat = mulN s.toNat (Aes.xtimeN s.toNat) (Aes.xtimeN (Aes.xtimeN s.toNat))
      (Aes.xtimeN (Aes.xtimeN (Aes.xtimeN s.toNat))) c.toNat := by
  -- `gmul s c` folds over the bits of the literal `c`
  rw [Aes.gmul_comm, Aes.gmul_toNat]
  simp only [coeffs, List.mem_cons, List.not_mem_nil, or_false] at hc
  rcases hc with rfl | rfl | rfl | rfl | rfl | rfl | rfl <;>
    simp [Aes.gmulN, Aes.gfoldN, mulN]

theorem X_toNat (a b c d : UInt8) :
    (X a b c d).toNat = (a.toNat <<< 24) ^^^ (b.toNat <<< 16) ^^^ (c.toNat <<< 8) ^^^ d.toNat := by
  have ha := a.toNat_lt; have hb := b.toNat_lt; have hc := c.toNat_lt
  simp only [X, UInt32.toNat_xor, UInt32.toNat_shiftLeft, UInt8.toNat_toUInt32, Nat.shiftLeft_eq]
  rw [Nat.mod_eq_of_lt (a := a.toNat * _) (by simp; omega), Nat.mod_eq_of_lt (a := b.toNat * _) (by simp; omega),
    Nat.mod_eq_of_lt (a := c.toNat * _) (by simp; omega)]
  rfl

/-- checked on `Nat`: the kernel computes on `Nat` literals natively -/
theorem isCol_of_check {t : Array UInt32} {l : Array UInt8} {f : UInt8 → UInt8} {c0 c1 c2 c3 : UInt8}
    (hf : ∀ a : UInt8, f a = l.getD a.toNat 0) (hl : l.size = 256)
    (hc : c0 ∈ coeffs ∧ c1 ∈ coeffs ∧ c2 ∈ coeffs ∧ c3 ∈ coeffs)
    (h : t.toList.map UInt32.toNat = l.toList.map (fun s => colN c0.toNat c1.toNat c2.toNat c3.toNat s.toNat)) :
    IsCol t f c0 c1 c2 c3 := by
  intro a
  have hi : a.toNat < l.size := hl ▸ a.toNat_lt
  have ht : a.toNat < t.size := by
    have := congrArg List.length h
    simp only [List.length_map, Array.length_toList] at this
    omega
  have := congrArg (fun L => L[a.toNat]?) h
  simp only [List.getElem?_map, Array.getElem?_toList, Array.getElem?_eq_getElem hi, Array.getElem?_eq_getElem ht,
    Option.map_some, Option.some.injEq] at this
  rw [← UInt32.toNat_inj, X_toNat, gmul_coeff _ hc.1, gmul_coeff _ hc.2.1, gmul_coeff _ hc.2.2.1, gmul_coeff _ hc.2.2.2, hf]
  simpa [Rijndael.tab, ht, hi, colN] using this

theorem Te0_col : IsCol Te0 sbox 2 1 1 3 := isCol_of_check Aes.sbox_eq Aes.sboxL_size (by decide) (by decide +kernel)
theorem Te1_col : IsCol Te1 sbox 3 2 1 1 := isCol_of_check Aes.sbox_eq Aes.sboxL_size (by decide) (by decide +kernel)
theorem Te2_col : IsCol Te2 sbox 1 3 2 1 := isCol_of_check Aes.sbox_eq Aes.sboxL_size (by decide) (by decide +kernel)
theorem Te3_col : IsCol Te3 sbox 1 1 3 2 := isCol_of_check Aes.sbox_eq Aes.sboxL_size (by decide) (by decide +kernel)
theorem Te4_col : IsCol Te4 sbox 1 1 1 1 := isCol_of_check Aes.sbox_eq Aes.sboxL_size (by decide) (by decide +kernel)
theorem Td0_col : IsCol Td0 invSbox 0x0e 0x09 0x0d 0x0b :=
  isCol_of_check Aes.invSbox_eq Aes.invSboxL_size (by decide) (by decide +kernel)
theorem Td1_col : IsCol Td1 invSbox 0x0b 0x0e 0x09 0x0d :=
  isCol_of_check Aes.invSbox_eq Aes.invSboxL_size (by decide) (by decide +kernel)
theorem Td2_col : IsCol Td2 invSbox 0x0d 0x0b 0x0e 0x09 :=
  isCol_of_check Aes.invSbox_eq Aes.invSboxL_size (by decide) (by decide +kernel)
theorem Td3_col : IsCol Td3 invSbox 0x09 0x0d 0x0b 0x0e :=
  isCol_of_check Aes.invSbox_eq Aes.invSboxL_size (by decide) (by decide +kernel)
theorem Td4_col : IsCol Td4 invSbox 1 1 1 1 :=
  isCol_of_check Aes.invSbox_eq Aes.invSboxL_size (by decide) (by decide +kernel)

theorem IsCol.diag {t : Array UInt32} {f : UInt8 → UInt8} (h : IsCol t f 1 1 1 1) (a : UInt8) :
    Rijndael.tab t a.toUInt32 = X (f a) (f a) (f a) (f a) := by
  rw [h, Aes.gmul_one_left]

theorem Te_size : Te0.size = 256 ∧ Te1.size = 256 ∧ Te2.size = 256 ∧ Te3.size = 256 ∧ Te4.size = 256 := by decide +kernel
theorem Td_size : Td0.size = 256 ∧ Td1.size = 256 ∧ Td2.size = 256 ∧ Td3.size = 256 ∧ Td4.size = 256 := by decide +kernel

/-- `rcon[i]` is the round constant Rcon[i+1] = x^i of FIPS-197 §5.2 in the top byte -/
theorem rcon_spec : ∀ i, i < 10 → Gen.AesTables.rcon.getD i 0 = (Spec.Aes.rcon (i + 1)).toUInt32 <<< (24 : UInt32) := by
  decide +kernel

/-! ### The FIPS 197 round written out; the bytes of a GETU32 word -/

/-- one full round of FIPS-197 §5.1 -/
def specRound (s k : Bytes) : Bytes := addRoundKey (mixColumns (shiftRows (subBytes s))) k

theorem specRound_explicit (x0 x1 x2 x3 x4 x5 x6 x7 x8 x9 x10 x11 x12 x13 x14 x15 k0 k1 k2 k3 k4 k5 k6 k7 k8 k9 k10 k11 k12 k13 k14 k15 : UInt8) :
    specRound [x0, x1, x2, x3, x4, x5, x6, x7, x8, x9, x10, x11, x12, x13, x14, x15] [k0, k1, k2, k3, k4, k5, k6, k7, k8, k9, k10, k11, k12, k13, k14, k15] =
    [((((0 ^^^ gmul 2 (sbox x0)) ^^^ gmul 3 (sbox x5)) ^^^ gmul 1 (sbox x10)) ^^^ gmul 1 (sbox x15)) ^^^ k0,
     ((((0 ^^^ gmul 1 (sbox x0)) ^^^ gmul 2 (sbox x5)) ^^^ gmul 3 (sbox x10)) ^^^ gmul 1 (sbox x15)) ^^^ k1,
     ((((0 ^^^ gmul 1 (sbox x0)) ^^^ gmul 1 (sbox x5)) ^^^ gmul 2 (sbox x10)) ^^^ gmul 3 (sbox x15)) ^^^ k2,
     ((((0 ^^^ gmul 3 (sbox x0)) ^^^ gmul 1 (sbox x5)) ^^^ gmul 1 (sbox x10)) ^^^ gmul 2 (sbox x15)) ^^^ k3,
     ((((0 ^^^ gmul 2 (sbox x4)) ^^^ gmul 3 (sbox x9)) ^^^ gmul 1 (sbox x14)) ^^^ gmul 1 (sbox x3)) ^^^ k4,
     ((((0 ^^^ gmul 1 (sbox x4)) ^^^ gmul 2 (sbox x9)) ^^^ gmul 3 (sbox x14)) ^^^ gmul 1 (sbox x3)) ^^^ k5,
     ((((0 ^^^ gmul 1 (sbox x4)) ^^^ gmul 1 (sbox x9)) ^^^ gmul 2 (sbox x14)) ^^^ gmul 3 (sbox x3)) ^^^ k6,
     ((((0 ^^^ gmul 3 (sbox x4)) ^^^ gmul 1 (sbox x9)) ^^^ gmul 1 (sbox x14)) ^^^ gmul 2 (sbox x3)) ^^^ k7,
     ((((0 ^^^ gmul 2 (sbox x8)) ^^^ gmul 3 (sbox x13)) ^^^ gmul 1 (sbox x2)) ^^^ gmul 1 (sbox x7)) ^^^ k8,
     ((((0 ^^^ gmul 1 (sbox x8)) ^^^ gmul 2 (sbox x13)) ^^^ gmul 3 (sbox x2)) ^^^ gmul 1 (sbox x7)) ^^^ k9,
     ((((0 ^^^ gmul 1 (sbox x8)) ^^^ gmul 1 (sbox x13)) ^^^ gmul 2 (sbox x2)) ^^^ gmul 3 (sbox x7)) ^^^ k10,
     ((((0 ^^^ gmul 3 (sbox x8)) ^^^ gmul 1 (sbox x13)) ^^^ gmul 1 (sbox x2)) ^^^ gmul 2 (sbox x7)) ^^^ k11,
     ((((0 ^^^ gmul 2 (sbox x12)) ^^^ gmul 3 (sbox x1)) ^^^ gmul 1 (sbox x6)) ^^^ gmul 1 (sbox x11)) ^^^ k12,
     ((((0 ^^^ gmul 1 (sbox x12)) ^^^ gmul 2 (sbox x1)) ^^^ gmul 3 (sbox x6)) ^^^ gmul 1 (sbox x11)) ^^^ k13,
     ((((0 ^^^ gmul 1 (sbox x12)) ^^^ gmul 1 (sbox x1)) ^^^ gmul 2 (sbox x6)) ^^^ gmul 3 (sbox x11)) ^^^ k14,
     ((((0 ^^^ gmul 3 (sbox x12)) ^^^ gmul 1 (sbox x1)) ^^^ gmul 1 (sbox x6)) ^^^ gmul 2 (sbox x11)) ^^^ k15] := by
  rw [specRound, subBytes]
  simp only [List.map_cons, List.map_nil]
  -- the kernel would compare the folds of `mixColumn` with the explicit sums by unfolding `^^^` on `UInt8`
  rw [Aes.shiftRows_sixteen, mixColumns, Aes.mixColumns_sixteen, Aes.mixColumn_fold, Aes.mixColumn_fold, Aes.mixColumn_fold,
    Aes.mixColumn_fold]
  rfl

theorem and_xor_r (p q m : UInt32) : (p ^^^ q) &&& m = (p &&& m) ^^^ (q &&& m) := by
  apply UInt32.eq_of_toBitVec_eq
  simp only [UInt32.toBitVec_and, UInt32.toBitVec_xor]
  ext i
  simp only [BitVec.getElem_and, BitVec.getElem_xor]
  cases p.toBitVec[i] <;> cases q.toBitVec[i] <;> cases m.toBitVec[i] <;> rfl

theorem bytes_facts (a : UInt8) :
    Rijndael.b3 (a.toUInt32 <<< (24 : UInt32)) = a.toUInt32 ∧ Rijndael.b3 (a.toUInt32 <<< (16 : UInt32)) = 0 ∧ Rijndael.b3 (a.toUInt32 <<< (8 : UInt32)) = 0 ∧ Rijndael.b3 a.toUInt32 = 0 ∧
    Rijndael.b2 (a.toUInt32 <<< (24 : UInt32)) = 0 ∧ Rijndael.b2 (a.toUInt32 <<< (16 : UInt32)) = a.toUInt32 ∧ Rijndael.b2 (a.toUInt32 <<< (8 : UInt32)) = 0 ∧ Rijndael.b2 a.toUInt32 = 0 ∧
    Rijndael.b1 (a.toUInt32 <<< (24 : UInt32)) = 0 ∧ Rijndael.b1 (a.toUInt32 <<< (16 : UInt32)) = 0 ∧ Rijndael.b1 (a.toUInt32 <<< (8 : UInt32)) = a.toUInt32 ∧ Rijndael.b1 a.toUInt32 = 0 ∧
    Rijndael.b0 (a.toUInt32 <<< (24 : UInt32)) = 0 ∧ Rijndael.b0 (a.toUInt32 <<< (16 : UInt32)) = 0 ∧ Rijndael.b0 (a.toUInt32 <<< (8 : UInt32)) = 0 ∧ Rijndael.b0 a.toUInt32 = a.toUInt32 :=
  Aes.forall_byte (by decide +kernel) a

theorem b3_xor (p q : UInt32) : Rijndael.b3 (p ^^^ q) = Rijndael.b3 p ^^^ Rijndael.b3 q := by
  simp only [Rijndael.b3, UInt32.shiftRight_xor]
theorem b2_xor (p q : UInt32) : Rijndael.b2 (p ^^^ q) = Rijndael.b2 p ^^^ Rijndael.b2 q := by
  simp only [Rijndael.b2, UInt32.shiftRight_xor, and_xor_r]
theorem b1_xor (p q : UInt32) : Rijndael.b1 (p ^^^ q) = Rijndael.b1 p ^^^ Rijndael.b1 q := by
  simp only [Rijndael.b1, UInt32.shiftRight_xor, and_xor_r]
theorem b0_xor (p q : UInt32) : Rijndael.b0 (p ^^^ q) = Rijndael.b0 p ^^^ Rijndael.b0 q := by
  simp only [Rijndael.b0, and_xor_r]

theorem idx_X (a b c d : UInt8) :
    Rijndael.b3 (X a b c d) = a.toUInt32 ∧ Rijndael.b2 (X a b c d) = b.toUInt32 ∧
    Rijndael.b1 (X a b c d) = c.toUInt32 ∧ Rijndael.b0 (X a b c d) = d.toUInt32 := by
  obtain ⟨a1, a2, a3, a4, a5, a6, a7, a8, a9, a10, a11, a12, a13, a14, a15, a16⟩ := bytes_facts a
  obtain ⟨b1, b2, b3, b4, b5, b6, b7, b8, b9, b10, b11, b12, b13, b14, b15, b16⟩ := bytes_facts b
  obtain ⟨c1, c2, c3, c4, c5, c6, c7, c8, c9, c10, c11, c12, c13, c14, c15, c16⟩ := bytes_facts c
  obtain ⟨d1, d2, d3, d4, d5, d6, d7, d8, d9, d10, d11, d12, d13, d14, d15, d16⟩ := bytes_facts d
  unfold X
  simp only [b3_xor, b2_xor, b1_xor, b0_xor, a1, b2, c3, d4, a5, b6, c7, d8, a9, b10, c11, d12, a13, b14, c15, d16,
    UInt32.xor_zero, UInt32.zero_xor]
  refine ⟨?_, ?_, ?_, ?_⟩ <;> first | rfl | trivial

theorem b3_X (a b c d : UInt8) : Rijndael.b3 (X a b c d) = a.toUInt32 := (idx_X a b c d).1
theorem b2_X (a b c d : UInt8) : Rijndael.b2 (X a b c d) = b.toUInt32 := (idx_X a b c d).2.1
theorem b1_X (a b c d : UInt8) : Rijndael.b1 (X a b c d) = c.toUInt32 := (idx_X a b c d).2.2.1
theorem b0_X (a b c d : UInt8) : Rijndael.b0 (X a b c d) = d.toUInt32 := (idx_X a b c d).2.2.2

theorem xor4 (a b c d a' b' c' d' : UInt32) :
    (a ^^^ b ^^^ c ^^^ d) ^^^ (a' ^^^ b' ^^^ c' ^^^ d') = (a ^^^ a') ^^^ (b ^^^ b') ^^^ (c ^^^ c') ^^^ (d ^^^ d') := by
  ac_rfl

theorem X_xor (a b c d a' b' c' d' : UInt8) :
    X a b c d ^^^ X a' b' c' d' = X (a ^^^ a') (b ^^^ b') (c ^^^ c') (d ^^^ d') := by
  unfold X
  rw [UInt8.toUInt32_xor, UInt8.toUInt32_xor, UInt8.toUInt32_xor, UInt8.toUInt32_xor,
    UInt32.shiftLeft_xor, UInt32.shiftLeft_xor, UInt32.shiftLeft_xor]
  -- stated on variables first: `ac_rfl` on the shifted terms themselves runs out of heartbeats
  exact xor4 _ _ _ _ _ _ _ _

theorem shr_shl (w n : UInt32) (hn : n < 32) : (w >>> n) <<< n = w &&& ((0xffffffff : UInt32) <<< n) := by
  have hn' : n.toNat < 32 := by simpa using UInt32.lt_iff_toNat_lt.mp hn
  apply UInt32.eq_of_toBitVec_eq
  simp only [UInt32.toBitVec_and, UInt32.toBitVec_shiftLeft, UInt32.toBitVec_shiftRight]
  have : n.toBitVec % 32 = n.toBitVec := by
    apply BitVec.eq_of_toNat_eq
    simpa using Nat.mod_eq_of_lt hn'
  rw [this]
  show (w.toBitVec >>> n.toBitVec.toNat) <<< n.toBitVec.toNat = _
  rw [BitVec.shiftLeft_ushiftRight]
  rfl

/-- the masks are those of the last rounds and of SubWord / RotWord in the C text -/
theorem mask_eq (w : UInt32) :
    w &&& 0xff000000 = Rijndael.b3 w <<< (24 : UInt32) ∧ w &&& 0x00ff0000 = Rijndael.b2 w <<< (16 : UInt32) ∧
    w &&& 0x0000ff00 = Rijndael.b1 w <<< (8 : UInt32) ∧ w &&& 0x000000ff = Rijndael.b0 w := by
  refine ⟨(shr_shl w 24 (by decide)).symm, ?_, ?_, rfl⟩
  · rw [Rijndael.b2, UInt32.shiftLeft_and, shr_shl w 16 (by decide), UInt32.and_assoc]; rfl
  · rw [Rijndael.b1, UInt32.shiftLeft_and, shr_shl w 8 (by decide), UInt32.and_assoc]; rfl

theorem X_masks (a b c d : UInt8) :
    X a b c d &&& 0xff000000 = a.toUInt32 <<< (24 : UInt32) ∧ X a b c d &&& 0x00ff0000 = b.toUInt32 <<< (16 : UInt32) ∧
    X a b c d &&& 0x0000ff00 = c.toUInt32 <<< (8 : UInt32) ∧ X a b c d &&& 0x000000ff = d.toUInt32 := by
  obtain ⟨m3, m2, m1, m0⟩ := mask_eq (X a b c d)
  rw [m3, m2, m1, m0, b3_X, b2_X, b1_X, b0_X]
  exact ⟨rfl, rfl, rfl, rfl⟩

theorem X_single (a : UInt8) :
    X a 0 0 0 = a.toUInt32 <<< (24 : UInt32) ∧ X 0 a 0 0 = a.toUInt32 <<< (16 : UInt32) ∧
    X 0 0 a 0 = a.toUInt32 <<< (8 : UInt32) ∧ X 0 0 0 a = a.toUInt32 := by
  simp [X]

/-- the word assembled from one byte of each of four words of equal bytes: the last rounds (over Te4 / Td4), SubWord, RotWord -/
theorem X_diag (p q r s : UInt8) :
    (X p p p p &&& 0xff000000) ^^^ (X q q q q &&& 0x00ff0000) ^^^ (X r r r r &&& 0x0000ff00) ^^^
      (X s s s s &&& 0x000000ff) = X p q r s := by
  rw [(X_masks p p p p).1, (X_masks q q q q).2.1, (X_masks r r r r).2.2.1, (X_masks s s s s).2.2.2]
  rfl

theorem toUInt32_toUInt8 (a : UInt8) : a.toUInt32.toUInt8 = a := Aes.forall_byte (by decide +kernel) a

theorem and_255 (a : UInt8) : a &&& 255 = a := Aes.forall_byte (by decide +kernel) a

theorem low8 (v : UInt32) : (v &&& 0xff).toUInt8 = v.toUInt8 := by
  rw [UInt32.toUInt8_and]
  have : (0xff : UInt32).toUInt8 = 255 := by decide
  rw [this, and_255]

theorem toUInt8_of_eq {w : UInt32} {a : UInt8} (h : w = a.toUInt32) : w.toUInt8 = a := by
  rw [h, toUInt32_toUInt8]

theorem putu32_X (a b c d : UInt8) : Rijndael.putu32 (X a b c d) = [a, b, c, d] := by
  have e3 := toUInt8_of_eq (b3_X a b c d)
  have e2 := toUInt8_of_eq (b2_X a b c d)
  have e1 := toUInt8_of_eq (b1_X a b c d)
  have e0 := toUInt8_of_eq (b0_X a b c d)
  rw [Rijndael.b3] at e3
  rw [Rijndael.b2, low8] at e2
  rw [Rijndael.b1, low8] at e1
  rw [Rijndael.b0, low8] at e0
  unfold Rijndael.putu32
  rw [e3, e2, e1, e0]

/-! ### `|||` and `^^^` assemble the same word from bytes -/

theorem or_eq_xor {x y : UInt32} (h : x &&& y = 0) : x ||| y = x ^^^ y := by
  have h' := congrArg UInt32.toBitVec h
  apply UInt32.eq_of_toBitVec_eq
  simp only [UInt32.toBitVec_and, UInt32.toBitVec_or, UInt32.toBitVec_xor] at h' ⊢
  ext i hi
  have hb := congrArg (fun v : BitVec 32 => v[i]) h'
  simp only [BitVec.getElem_and, BitVec.getElem_or, BitVec.getElem_xor] at hb ⊢
  revert hb
  cases x.toBitVec[i] <;> cases y.toBitVec[i] <;> simp

theorem and_eq_zero_of_mask {x y m : UInt32} (hx : x &&& m = x) (hy : y &&& m = 0) : x &&& y = 0 := by
  rw [← hx, UInt32.and_assoc, UInt32.and_comm m y, hy, UInt32.and_zero]

theorem or4_eq_xor4 {p q r s : UInt32} (pq : p &&& q = 0) (pr : p &&& r = 0) (qr : q &&& r = 0)
    (ps : p &&& s = 0) (qs : q &&& s = 0) (rs : r &&& s = 0) : p ||| q ||| r ||| s = p ^^^ q ^^^ r ^^^ s := by
  have h2 : (p ^^^ q) &&& r = 0 := by rw [and_xor_r, pr, qr]; rfl
  have h3 : (p ^^^ q ^^^ r) &&& s = 0 := by rw [and_xor_r, and_xor_r, ps, qs, rs]; rfl
  rw [or_eq_xor pq, or_eq_xor h2, or_eq_xor h3]

theorem pack_eq_X (a b c d : UInt8) : pack a b c d = X a b c d := by
  -- the four shifted bytes are disjoint: each is a word `X` with one non-zero byte, read under the masks
  obtain ⟨a3, -, -, -⟩ := X_masks a 0 0 0
  obtain ⟨b3, b2, -, -⟩ := X_masks 0 b 0 0
  obtain ⟨c3, c2, c1, -⟩ := X_masks 0 0 c 0
  obtain ⟨d3, d2, d1, -⟩ := X_masks 0 0 0 d
  rw [(X_single a).1] at a3
  rw [(X_single b).2.1] at b3 b2
  rw [(X_single c).2.2.1] at c3 c2 c1
  rw [(X_single d).2.2.2] at d3 d2 d1
  exact or4_eq_xor4 (and_eq_zero_of_mask a3 b3) (and_eq_zero_of_mask a3 c3) (and_eq_zero_of_mask b2 c2)
    (and_eq_zero_of_mask a3 d3) (and_eq_zero_of_mask b2 d2) (and_eq_zero_of_mask c1 d1)

/-! ### The table words read by index; one output word of a table round -/

theorem getD_of_isCol {t : Array UInt32} {f : UInt8 → UInt8} {c0 c1 c2 c3 : UInt8} (h : IsCol t f c0 c1 c2 c3)
    (i : Nat) (hi : i < 256) :
    t.getD i 0 = pack (gmul c0 (f (UInt8.ofNat i))) (gmul c1 (f (UInt8.ofNat i))) (gmul c2 (f (UInt8.ofNat i)))
      (gmul c3 (f (UInt8.ofNat i))) := by
  rw [pack_eq_X, ← h]
  simp [Rijndael.tab, Nat.mod_eq_of_lt hi]

/-- one output word of a table round of rijndaelEncrypt / rijndaelDecrypt: the four tables hold the columns of the circulant
matrix `m` applied to `f`, and the word is the column `m · (f p, f q, f r, f s) ^ (k0, .., k3)` -/
theorem half_word {T0 T1 T2 T3 : Array UInt32} {f : UInt8 → UInt8} {m0 m1 m2 m3 : UInt8}
    (h0 : IsCol T0 f m0 m3 m2 m1) (h1 : IsCol T1 f m1 m0 m3 m2) (h2 : IsCol T2 f m2 m1 m0 m3)
    (h3 : IsCol T3 f m3 m2 m1 m0) {w0 w1 w2 w3 kw : UInt32} {p q r s k0 k1 k2 k3 : UInt8}
    (e0 : Rijndael.b3 w0 = p.toUInt32) (e1 : Rijndael.b2 w1 = q.toUInt32) (e2 : Rijndael.b1 w2 = r.toUInt32)
    (e3 : Rijndael.b0 w3 = s.toUInt32) (hk : kw = X k0 k1 k2 k3) :
    Rijndael.tab T0 (Rijndael.b3 w0) ^^^ Rijndael.tab T1 (Rijndael.b2 w1) ^^^ Rijndael.tab T2 (Rijndael.b1 w2) ^^^
      Rijndael.tab T3 (Rijndael.b0 w3) ^^^ kw =
    X (Aes.row m0 m1 m2 m3 (f p) (f q) (f r) (f s) ^^^ k0) (Aes.row m3 m0 m1 m2 (f p) (f q) (f r) (f s) ^^^ k1)
      (Aes.row m2 m3 m0 m1 (f p) (f q) (f r) (f s) ^^^ k2) (Aes.row m1 m2 m3 m0 (f p) (f q) (f r) (f s) ^^^ k3) := by
  rw [e0, e1, e2, e3, h0, h1, h2, h3, hk, X_xor, X_xor, X_xor, X_xor]
  rfl

/-- for a table that holds `f` of its index in every byte: Te4 with the S-box, Td4 with its inverse -/
theorem lastRound_word {T : Array UInt32} {f : UInt8 → UInt8}
    (hT : ∀ a : UInt8, Rijndael.tab T a.toUInt32 = X (f a) (f a) (f a) (f a))
    {w0 w1 w2 w3 kw : UInt32} {p q r s k0 k1 k2 k3 : UInt8}
    (h0 : Rijndael.b3 w0 = p.toUInt32) (h1 : Rijndael.b2 w1 = q.toUInt32) (h2 : Rijndael.b1 w2 = r.toUInt32)
    (h3 : Rijndael.b0 w3 = s.toUInt32) (hk : kw = X k0 k1 k2 k3) :
    Rijndael.putu32 ((Rijndael.tab T (Rijndael.b3 w0) &&& 0xff000000) ^^^ (Rijndael.tab T (Rijndael.b2 w1) &&& 0x00ff0000) ^^^
      (Rijndael.tab T (Rijndael.b1 w2) &&& 0x0000ff00) ^^^ (Rijndael.tab T (Rijndael.b0 w3) &&& 0x000000ff) ^^^ kw) =
    [f p ^^^ k0, f q ^^^ k1, f r ^^^ k2, f s ^^^ k3] := by
  rw [h0, h1, h2, h3, hT, hT, hT, hT, X_diag, hk, X_xor, putu32_X]

end Relic.Lemmas.AesTables
