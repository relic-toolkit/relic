/-
The streaming model of Model/ShaStream.lean (one model for sha224-256.c and sha384-512.c)
equals the generic Merkle–Damgård definition for every chunking, and Spec/Sha256.lean / Spec/Sha512.lean
(FIPS 180-4 SHA-224/256/384/512) are instances of that definition.
-/
import RelicVerif.Model.ShaStream
import RelicVerif.Lemmas.Blocks
import RelicVerif.Lemmas.Loops

namespace Relic.Lemmas.ShaStream
open Relic.Spec Relic.Model.ShaStream Relic.Lemmas.Blocks
open Relic.Spec.Sha256 (beBytes)

variable {W : Type}

theorem blocks_fuel (bs : Nat) (_hbs : 0 < bs) (f g : Nat) (l : List UInt8) (hf : l.length ≤ bs * f)
    (hg : l.length ≤ bs * g) : MD.blocks bs f l = MD.blocks bs g l := by
  induction f generalizing g l with
  | zero => rw [List.eq_nil_of_length_eq_zero (by omega : l.length = 0), blocks_nil, blocks_nil]
  | succ f ih =>
    cases g with
    | zero => rw [List.eq_nil_of_length_eq_zero (by omega : l.length = 0), blocks_nil, blocks_nil]
    | succ g =>
      simp only [MD.blocks]
      split
      · rfl
      · rw [Nat.mul_succ] at hf hg
        rw [ih g (l.drop bs) (by simp; omega) (by simp; omega)]

def foldB (bs : Nat) (cf : List W → List UInt8 → List W) (h : List W) (l : List UInt8) : List W :=
  (MD.blocks bs (l.length / bs + 1) l).foldl cf h

theorem foldB_nil (bs : Nat) (cf : List W → List UInt8 → List W) (h : List W) : foldB bs cf h [] = h := by
  simp [foldB, MD.blocks]

theorem le_mul_div_succ (n bs : Nat) (hbs : 0 < bs) : n ≤ bs * (n / bs + 1) := by
  have := Nat.div_add_mod n bs
  have := Nat.mod_lt n hbs
  rw [Nat.mul_succ]; omega

theorem foldB_cons (bs : Nat) (hbs : 0 < bs) (cf : List W → List UInt8 → List W) (h : List W)
    (a b : List UInt8) (ha : a.length = bs) :
    foldB bs cf h (a ++ b) = foldB bs cf (cf h a) b := by
  unfold foldB
  rw [List.length_append, ha, Nat.add_div_left _ hbs, blocks_cons bs _ a b hbs ha, List.foldl_cons]

theorem foldB_single (bs : Nat) (hbs : 0 < bs) (cf : List W → List UInt8 → List W) (h : List W)
    (a : List UInt8) (ha : a.length = bs) : foldB bs cf h a = cf h a := by
  have := foldB_cons bs hbs cf h a [] ha
  rwa [List.append_nil, foldB_nil] at this

/-- feeding `n` bytes never trips the AddLength test and never wraps the counter -/
def Safe (P : Params W) (n : Nat) : Prop :=
  ∀ L, L ≤ 8 * n → L < 2 ^ (8 * P.lenBytes) ∧ (8 ≤ L → P.corruptAfterAdd L = false)

theorem Safe.mono {P : Params W} {n m : Nat} (h : Safe P n) (hm : m ≤ n) : Safe P m :=
  fun L hL => h L (by omega)

structure Inv (P : Params W) (c : Ctx W) (msg : List UInt8) : Prop where
  corr : c.corrupted = false
  comp : c.computed = false
  len : c.lenBits = 8 * msg.length
  blk : c.block.length < P.blockSize
  mod : msg.length % P.blockSize = c.block.length
  /-- for whatever follows: `result_eq` takes the padding for `rest` -/
  fold : ∀ rest, foldB P.blockSize P.compress P.h0 (msg ++ rest) = foldB P.blockSize P.compress c.h (c.block ++ rest)

theorem inv_reset (P : Params W) (hbs : 0 < P.blockSize) : Inv P (reset P) [] :=
  ⟨rfl, rfl, rfl, hbs, Nat.zero_mod _, fun _ => rfl⟩

theorem inv_inputByte (P : Params W) (hbs : 0 < P.blockSize) (c : Ctx W) (msg : List UInt8) (b : UInt8)
    (hi : Inv P c msg) (hlen : Safe P (msg.length + 1)) :
    Inv P (inputByte P c b) (msg ++ [b]) := by
  obtain ⟨hcorr, hcomp, hl, hblk, hmod, hf⟩ := hi
  unfold inputByte
  simp only [hcorr, Bool.false_eq_true, if_false]
  obtain ⟨hlt, hnc⟩ := hlen (c.lenBits + 8) (by omega)
  simp only [Nat.mod_eq_of_lt hlt, hnc (by omega), Bool.false_eq_true, if_false]
  have hl1 : c.lenBits + 8 = 8 * (msg ++ [b]).length := by
    rw [List.length_append, List.length_singleton, hl, Nat.mul_add]
  have hm1 : (msg ++ [b]).length % P.blockSize = (c.block.length + 1) % P.blockSize := by
    rw [List.length_append, List.length_singleton, ← Nat.mod_add_mod, hmod]
  split
  · rename_i hfull
    rw [List.length_append, List.length_singleton] at hfull
    refine ⟨rfl, hcomp, hl1, hbs, by rw [hm1, hfull, Nat.mod_self]; rfl, fun rest => ?_⟩
    rw [List.append_assoc, hf, ← List.append_assoc]
    exact foldB_cons _ hbs _ _ _ _ (by rw [List.length_append, List.length_singleton, hfull])
  · rename_i hfull
    rw [List.length_append, List.length_singleton] at hfull
    refine ⟨rfl, hcomp, hl1, by rw [List.length_append, List.length_singleton]; omega,
      by rw [hm1, Nat.mod_eq_of_lt (by omega)]; simp, fun rest => ?_⟩
    rw [List.append_assoc, hf, List.append_assoc]

theorem inv_foldl (P : Params W) (hbs : 0 < P.blockSize) (l : List UInt8) (c : Ctx W) (msg : List UInt8)
    (hi : Inv P c msg) (hlen : Safe P (msg.length + l.length)) :
    Inv P (l.foldl (inputByte P) c) (msg ++ l) := by
  induction l generalizing c msg with
  | nil => simpa using hi
  | cons b t ih =>
    simp only [List.foldl_cons]
    have := ih _ _ (inv_inputByte P hbs c msg b hi (hlen.mono (by simp)))
      (hlen.mono (by simp; omega))
    simpa using this

theorem inv_input (P : Params W) (hbs : 0 < P.blockSize) (l : List UInt8) (c : Ctx W) (msg : List UInt8)
    (hi : Inv P c msg) (hlen : Safe P (msg.length + l.length)) :
    Inv P (input P c l) (msg ++ l) := by
  unfold input
  split
  · rename_i he
    have : l = [] := by simpa using he
    subst this; simpa using hi
  · simp only [hi.comp, hi.corr, Bool.false_eq_true, if_false]
    exact inv_foldl P hbs l c msg hi hlen

theorem beBytes_length (n k : Nat) : (beBytes n k).length = k := by simp [beBytes]

/-- the number of zero bytes of the padding, in the two cases of SHA*_PadMessage -/
theorem pad_zeros (bs lb len n : Nat) (hlb : lb + 1 ≤ bs) (hn : len % bs = n) :
    (bs - (len + lb + 1) % bs) % bs =
      if n ≥ bs - lb then (bs - (n + 1)) + (bs - lb) else bs - lb - (n + 1) := by
  have hnlt : n < bs := hn ▸ Nat.mod_lt _ (by omega)
  rw [Nat.add_assoc, ← Nat.mod_add_mod, hn]
  split
  · rw [Nat.mod_eq_sub_mod (by omega : n + (lb + 1) ≥ bs), Nat.mod_eq_of_lt (by omega : n + (lb + 1) - bs < bs),
      Nat.mod_eq_of_lt (by omega : bs - (n + (lb + 1) - bs) < bs)]
    omega
  · by_cases heq : n + (lb + 1) = bs
    · rw [heq, Nat.mod_self, Nat.sub_zero, Nat.mod_self]
      omega
    · rw [Nat.mod_eq_of_lt (by omega : n + (lb + 1) < bs), Nat.mod_eq_of_lt (by omega : bs - (n + (lb + 1)) < bs)]
      omega

theorem padMessage_h (P : Params W) (hlb : P.lenBytes + 1 ≤ P.blockSize) (c : Ctx W) (len : Nat)
    (hb : c.block.length < P.blockSize) (hl : len % P.blockSize = c.block.length)
    (hbits : c.lenBits = 8 * len) (hlen : 8 * len < 2 ^ (8 * P.lenBytes)) :
    (padMessage P c).h = foldB P.blockSize P.compress c.h (c.block ++ MD.pad P.blockSize P.lenBytes len) := by
  have hbs : 0 < P.blockSize := by omega
  have hmod : 8 * len % 2 ^ (8 * P.lenBytes) = 8 * len := Nat.mod_eq_of_lt hlen
  unfold padMessage MD.pad
  rw [hmod, hbits, pad_zeros P.blockSize P.lenBytes len _ hlb hl]
  -- the one or two blocks the code compresses, read back as a fold over their concatenation
  by_cases hcase : c.block.length ≥ P.blockSize - P.lenBytes
  · simp only [hcase, if_true, processBlock]
    rw [← foldB_single P.blockSize hbs P.compress, ← foldB_cons P.blockSize hbs P.compress]
    · congr 1
      simp [← List.replicate_append_replicate]
    · simp; omega
    · simp [beBytes_length]; omega
  · simp only [hcase, if_false, processBlock]
    rw [← foldB_single P.blockSize hbs P.compress]
    · congr 1
      simp
    · simp [beBytes_length]; omega

theorem result_eq (P : Params W) (hlb : P.lenBytes + 1 ≤ P.blockSize) (c : Ctx W) (msg : List UInt8)
    (hi : Inv P c msg) (hlen : 8 * msg.length < 2 ^ (8 * P.lenBytes)) :
    result P c = some ((P.digest (MD.hash P.blockSize P.lenBytes P.compress P.h0 msg)).take P.hashSize) := by
  unfold result
  simp only [hi.corr, hi.comp, Bool.false_eq_true, if_false]
  rw [padMessage_h P hlb c msg.length hi.blk hi.mod hi.len hlen, ← hi.fold]
  rfl  -- `MD.hash` is `foldB` over `msg ++ MD.pad ..` by definition

theorem run_eq (P : Params W) (hlb : P.lenBytes + 1 ≤ P.blockSize) (chunks : List (List UInt8))
    (hlen : Safe P chunks.flatten.length) :
    run P chunks =
      some ((P.digest (MD.hash P.blockSize P.lenBytes P.compress P.h0 chunks.flatten)).take P.hashSize) := by
  have hbs : 0 < P.blockSize := by omega
  have := Loops.foldl_chunks_inv (input P) (Inv P) _ (fun c msg l hi hle => inv_input P hbs l c msg hi (hlen.mono hle))
    chunks (reset P) [] (inv_reset P hbs) (by simp)
  rw [List.nil_append] at this
  exact result_eq P hlb _ _ this (hlen _ (Nat.le_refl _)).1

/-! ## FIPS 180-4 as instances -/

theorem pad256 (len : Nat) : Sha256.pad len = MD.pad 64 8 len := rfl
theorem pad512 (len : Nat) : Sha512.pad len = MD.pad 128 16 len := rfl

theorem compress256_length (h : List UInt32) (b : List UInt8) : (Sha256.compress h b).length = 8 := by
  simp [Sha256.compress]
theorem compress512_length (h : List UInt64) (b : List UInt8) : (Sha512.compress h b).length = 8 := by
  simp [Sha512.compress]

theorem hash_length8 (bs lb : Nat) (cf : List W → List UInt8 → List W) (hcf : ∀ h b, (cf h b).length = 8) (h0 : List W)
    (hh : h0.length = 8) (msg : List UInt8) : (MD.hash bs lb cf h0 msg).length = 8 := by
  show ((MD.blocks bs _ (msg ++ MD.pad bs lb msg.length)).foldl cf h0).length = 8
  generalize MD.blocks bs _ _ = l
  induction l generalizing h0 with
  | nil => simpa using hh
  | cons b t ih => exact ih (cf h0 b) (hcf h0 b)

theorem digest256_length (h : List UInt32) : (Sha256.digestBytes h).length = 4 * h.length := by
  unfold Sha256.digestBytes
  induction h with
  | nil => rfl
  | cons w t ih => simp [List.flatMap_cons, ih, Sha256.wordBytes]; omega

theorem digest512_length (h : List UInt64) : (Sha512.digestBytes h).length = 8 * h.length := by
  unfold Sha512.digestBytes
  induction h with
  | nil => rfl
  | cons w t ih => simp [List.flatMap_cons, ih, Sha512.wordBytes]; omega

theorem digest256_take (h : List UInt32) (hh : h.length = 8) : (Sha256.digestBytes h).take 32 = Sha256.digestBytes h :=
  List.take_of_length_le (by rw [digest256_length, hh]; decide)

theorem sha256_eq (msg : List UInt8) :
    Sha256.sha256 msg = (Sha256.digestBytes (MD.hash 64 8 Sha256.compress Sha256.H0 msg)).take 32 := by
  rw [digest256_take _ (hash_length8 _ _ _ compress256_length _ rfl msg)]
  simp only [Sha256.sha256, MD.hash, blocks256_eq, pad256]

theorem sha224_eq (msg : List UInt8) :
    Sha256.sha224 msg = (Sha256.digestBytes (MD.hash 64 8 Sha256.compress Sha256.H0_224 msg)).take 28 := by
  simp only [Sha256.sha224, MD.hash, blocks256_eq, pad256]

theorem sha384_eq (msg : List UInt8) :
    Sha512.sha384 msg = (Sha512.digestBytes (MD.hash 128 16 Sha512.compress Sha512.H0_384 msg)).take 48 := by
  simp only [Sha512.sha384, Sha512.hashWith, MD.hash, blocks512_eq, pad512]

theorem sha512_eq (msg : List UInt8) :
    Sha512.sha512 msg = (Sha512.digestBytes (MD.hash 128 16 Sha512.compress Sha512.H0_512 msg)).take 64 := by
  rw [List.take_of_length_le (by rw [digest512_length, hash_length8 _ _ _ compress512_length _ rfl]; decide)]
  simp only [Sha512.sha512, Sha512.hashWith, MD.hash, blocks512_eq, pad512]

theorem sha256_length (b : List UInt8) : (Sha256.sha256 b).length = 32 := by
  rw [sha256_eq, List.length_take, digest256_length, hash_length8 _ _ _ compress256_length _ rfl]
  rfl

theorem sha224_length (b : List UInt8) : (Sha256.sha224 b).length = 28 := by
  rw [sha224_eq, List.length_take, digest256_length, hash_length8 _ _ _ compress256_length _ rfl]
  rfl

theorem sha384_length (b : List UInt8) : (Sha512.sha384 b).length = 48 := by
  rw [sha384_eq, List.length_take, digest512_length, hash_length8 _ _ _ compress512_length _ rfl]
  rfl

theorem sha512_length (b : List UInt8) : (Sha512.sha512 b).length = 64 := by
  rw [sha512_eq, List.length_take, digest512_length, hash_length8 _ _ _ compress512_length _ rfl]
  rfl

/-! ## the length counters -/

theorem safe64 (P : Params UInt32) (hl : P.lenBytes = 8) (hc : P.corruptAfterAdd = corrupt64) (n : Nat)
    (h : 8 * n < 2 ^ 64) : Safe P n := by
  intro L hL
  rw [hl, hc]
  refine ⟨by omega, fun h8 => ?_⟩
  simp [corrupt64]; omega

/-- below 8 means just wrapped: the counter moves in steps of 8 from 0 -/
theorem corrupt128w_iff (l : Nat) (hl : l < 2 ^ 128) : corrupt128w l = true ↔ l < 8 := by
  unfold corrupt128w
  simp only [Bool.and_eq_true, decide_eq_true_eq, beq_iff_eq]
  constructor
  · rintro ⟨⟨⟨h0, h1⟩, h2⟩, h3⟩; omega
  · intro h; refine ⟨⟨⟨?_, ?_⟩, ?_⟩, ?_⟩ <;> omega

theorem safe128w (P : Params UInt64) (hl : P.lenBytes = 16) (hc : P.corruptAfterAdd = corrupt128w) (n : Nat)
    (h : 8 * n < 2 ^ 128) : Safe P n := by
  intro L hL
  rw [hl, hc]
  refine ⟨by omega, fun h8 => ?_⟩
  have hlt : L < 2 ^ 128 := by omega
  cases hcase : corrupt128w L with
  | false => rfl
  | true => exact absurd ((corrupt128w_iff L hlt).mp hcase) (by omega)

/-! ## the four hash functions -/

theorem sha224_streaming (chunks : List (List UInt8)) (hlen : 8 * chunks.flatten.length < 2 ^ 64) :
    run sha224P chunks = some (Sha256.sha224 chunks.flatten) := by
  rw [sha224_eq]; exact run_eq sha224P (by decide) chunks (safe64 _ rfl rfl _ hlen)

theorem sha256P_streaming (chunks : List (List UInt8)) (hlen : 8 * chunks.flatten.length < 2 ^ 64) :
    run sha256P chunks = some (Sha256.sha256 chunks.flatten) := by
  rw [sha256_eq]; exact run_eq sha256P (by decide) chunks (safe64 _ rfl rfl _ hlen)

theorem sha384_streaming (chunks : List (List UInt8)) (hlen : 8 * chunks.flatten.length < 2 ^ 128) :
    run sha384P chunks = some (Sha512.sha384 chunks.flatten) := by
  rw [sha384_eq]; exact run_eq sha384P (by decide) chunks (safe128w _ rfl rfl _ hlen)

theorem sha512_streaming (chunks : List (List UInt8)) (hlen : 8 * chunks.flatten.length < 2 ^ 128) :
    run sha512P chunks = some (Sha512.sha512 chunks.flatten) := by
  rw [sha512_eq]; exact run_eq sha512P (by decide) chunks (safe128w _ rfl rfl _ hlen)

end Relic.Lemmas.ShaStream
