/-
RSA and Rabin for properties C05 and C06: the recombination `bn_mxp_crt` performs (Model/Cp.lean `garner`) and the one of the
CRT signature primitive (RFC 8017 §5.1.2 step 2.b, `rsasp1Crt` of Spec/Sig.lean) return the residue modulo p·q that the two
half-size exponentiations determine, the reduced exponents of the CRT path are positive for odd primes, and the square roots
of a square modulo a prime are ± each other.
-/
import RelicVerif.Spec.Sig
import RelicVerif.Lemmas.NumC06
import RelicVerif.Model.Cp

namespace Relic.Lemmas.RsaC06
open Relic.Model.Cp

/-- Garner's recombination as in `bn_mxp_crt`: the difference t − u is made non-negative by adding (u / p + 1)·p -/
theorem garner_eq (p q qi x : Nat) (hp : 1 < p) (hq : 0 < q) (hqi : qi * q % p = 1) :
    garner (x % p) (x % q) p q qi = x % (p * q) := by
  refine NumC06.garner_recombine p q qi x _ hp hq hqi ?_
  have hup : x % q < (x % q / p + 1) * p := (Nat.lt_mul_div_succ _ (by omega)).trans_eq (Nat.mul_comm _ _)
  rw [ZMod.natCast_mod, Nat.cast_sub (by omega), Nat.cast_add, Nat.cast_mul, ZMod.natCast_self, mul_zero, add_zero]

theorem mxpCrt_eq_mod (a b c p q qi x : Nat) (hp : 1 < p) (hq : 0 < q) (hqi : qi * q % p = 1)
    (h1 : a ^ b ≡ x [MOD p]) (h2 : a ^ c ≡ x [MOD q]) : mxpCrt a b c p q qi = x % (p * q) := by
  rw [mxpCrt, Relic.Spec.Curve.powMod_eq, Relic.Spec.Curve.powMod_eq, h1, h2]
  exact garner_eq p q qi x hp hq hqi

/-- with a = p, q: the dP, dQ of the CRT path are positive -/
theorem red_exp_pos (a e d L : Nat) (ha : 2 < a) (haL : a - 1 ∣ L) (hed : (e * d) % L = 1) :
    0 < d % (a - 1) := by
  have h1 : (e * d) % (a - 1) = 1 := by
    rw [← Nat.mod_mod_of_dvd _ haL, hed, Nat.mod_eq_of_lt (by omega)]
  rcases Nat.eq_zero_or_pos (d % (a - 1)) with h0 | h0
  · have : (a - 1) ∣ e * d := Dvd.dvd.mul_left (Nat.dvd_of_mod_eq_zero h0) e
    rw [Nat.mod_eq_zero_of_dvd this] at h1
    omega
  · exact h0

theorem sq_modEq_sq_iff {p : Nat} (hp : p.Prime) (r s : Nat) :
    r ^ 2 ≡ s ^ 2 [MOD p] ↔ (r % p = s % p ∨ (r + s) % p = 0) := by
  have : Fact p.Prime := ⟨hp⟩
  rw [← ZMod.natCast_eq_natCast_iff, ← ZMod.natCast_eq_natCast_iff' r s, ← Nat.dvd_iff_mod_eq_zero,
    ← ZMod.natCast_eq_zero_iff]
  push_cast
  rw [sq_eq_sq_iff_eq_or_eq_neg, eq_neg_iff_add_eq_zero]

end Relic.Lemmas.RsaC06

namespace Relic.Lemmas.Rsa
open Relic.Spec.Sig
open Relic.Spec.Curve (powMod powMod_eq)

/-- RFC 8017 §5.1.2 step 2.b; `rsasp1Crt` reduces the difference m₁ − m₂ as an integer -/
theorem rsasp1Crt_eq_mod (p q dp dq qi m x : Nat) (hp : 1 < p) (hq : 0 < q) (hqi : qi * q % p = 1)
    (h1 : m ^ dp ≡ x [MOD p]) (h2 : m ^ dq ≡ x [MOD q]) : rsasp1Crt p q dp dq qi m = x % (p * q) := by
  unfold rsasp1Crt
  rw [powMod_eq, powMod_eq, h1, h2]
  refine NumC06.garner_recombine p q qi x _ hp hq hqi ?_
  rw [← Int.cast_natCast, Int.toNat_of_nonneg (Int.emod_nonneg _ (by omega)), ZMod.intCast_mod, Int.cast_sub,
    Int.cast_natCast, Int.cast_natCast]

/-- the hypotheses are satisfiable: the textbook key p = 53, q = 61, e = 17, d = 2753 -/
example : (17 * 2753) % Nat.lcm (61 - 1) (53 - 1) = 1 ∧ rsasp1Crt 53 61 (2753 % 52) (2753 % 60) 20 65 = powMod 65 2753 (53 * 61) := by
  decide

end Relic.Lemmas.Rsa
