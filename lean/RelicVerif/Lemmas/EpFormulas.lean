/-
The generated coordinate-system formulas (Gen/EpFormulas.lean, regenerated from src/tmpl/relic_ep_add_tmpl.h,
relic_ep_dbl_tmpl.h, src/ep/relic_ep_add.c, relic_ep_dbl.c on every run) compute the affine chord-and-tangent law.
Each coordinate system has its law once as a point of polynomials (`jacAdd`, `jacDbl`; `rcbAdd`, `rcbDbl`: the complete
formulas of Renes–Costello–Batina).  A generated function equals that point (`*_closed`): the templates use no division, so
this is an identity of polynomials, stated over `ringOps` for every commutative ring (where `ring` is also much cheaper than
over a field).  Over a field the affine image of the point is the chord resp. tangent point (`*_chord`, `*_tangent`; the
homogeneous ones only modulo the curve equation, with cofactors found by an untrusted polynomial division).  `fieldOps` is
`ringOps` at a field (`fieldOps_eq`); the mixed and affine-flagged variants are the instances z = 1.
-/
import Mathlib.Algebra.Field.Defs
import Mathlib.Algebra.Field.Basic
import Mathlib.Tactic.FieldSimp
import Mathlib.Tactic.Ring
import Mathlib.Tactic.LinearCombination
import Mathlib.Tactic.SplitIfs
import Mathlib.Algebra.Ring.Defs
import RelicVerif.Gen.EpFormulas

namespace Relic.Lemmas
open Relic.Model.Formula

/-- The operations of a commutative ring as the record `FOps` the generated formula code is written over; inversion, halving and
    the zero test, which a commutative ring does not have in general, are parameters. -/
def ringOps {R : Type} [CommRing R] (inv hlv : R → R) (isZero : R → Bool) : FOps R :=
  { zero := 0, one := 1, add := (· + ·), sub := (· - ·), mul := (· * ·), neg := Neg.neg, sqr := fun a => a * a,
    dbl := fun a => a + a, hlv := hlv, inv := inv, ofNat := fun n => (n : R), isZero := isZero }

end Relic.Lemmas

namespace Relic.Lemmas.EpFormulas
open Relic.Model.Formula Relic.Gen

set_option linter.unusedSimpArgs false
set_option linter.unusedSectionVars false
set_option linter.unusedVariables false
set_option linter.unnecessarySeqFocus false

variable {R : Type} [CommRing R] [DecidableEq R] (inv hlv : R → R) (isZ : R → Bool)
variable {F : Type} [Field F] [DecidableEq F]

def fieldOps : FOps F :=
  { zero := 0, one := 1, add := (· + ·), sub := (· - ·), mul := (· * ·), neg := Neg.neg, sqr := fun a => a * a,
    dbl := fun a => a + a, hlv := fun a => a / 2, inv := fun a => a⁻¹, ofNat := fun n => (n : F),
    isZero := fun a => decide (a = 0) }

theorem fieldOps_eq : (fieldOps : FOps F) = ringOps (fun a => a⁻¹) (fun a => a / 2) fun a => decide (a = 0) := rfl

/-- affine chord through (x1,y1), (x2,y2), x1 ≠ x2 -/
def chordX (x1 y1 x2 y2 : F) : F := ((y2 - y1) / (x2 - x1)) ^ 2 - x1 - x2
def chordY (x1 y1 x2 y2 : F) : F := ((y2 - y1) / (x2 - x1)) * (x1 - chordX x1 y1 x2 y2) - y1
/-- affine tangent at (x1,y1), y1 ≠ 0, on y² = x³ + a x + b -/
def tangX (a x1 y1 : F) : F := ((3 * x1 ^ 2 + a) / (2 * y1)) ^ 2 - 2 * x1
def tangY (a x1 y1 : F) : F := ((3 * x1 ^ 2 + a) / (2 * y1)) * (x1 - tangX a x1 y1) - y1

/-- the affine point a representation denotes (z ≠ 0) -/
def affX (r : Pt F) : F := match r.coord with
  | .basic => r.x
  | .projc => r.x / r.z
  | .jacob => r.x / r.z ^ 2
def affY (r : Pt F) : F := match r.coord with
  | .basic => r.y
  | .projc => r.y / r.z
  | .jacob => r.y / r.z ^ 3

def OnCurve (cv : CurveC F) (r : Pt F) : Prop := match r.coord with
  | .basic => r.y ^ 2 = r.x ^ 3 + cv.a * r.x + cv.b
  | .projc => r.y ^ 2 * r.z = r.x ^ 3 + cv.a * r.x * r.z ^ 2 + cv.b * r.z ^ 3
  | .jacob => r.y ^ 2 = r.x ^ 3 + cv.a * r.x * r.z ^ 4 + cv.b * r.z ^ 6


/-- The cubic `x³ + a x + b − (y1 + l (x − x1))²` has the roots x1, x2 and root sum l²; it agrees with
`(x − x1)(x − x2)(x − chordX)` up to a linear polynomial, which vanishes at x1 ≠ x2. -/
theorem chord_onCurve (a b x1 y1 x2 y2 : F) (hd : x2 - x1 ≠ 0)
    (h1 : y1 ^ 2 = x1 ^ 3 + a * x1 + b) (h2 : y2 ^ 2 = x2 ^ 3 + a * x2 + b) :
    chordY x1 y1 x2 y2 ^ 2 = chordX x1 y1 x2 y2 ^ 3 + a * chordX x1 y1 x2 y2 + b := by
  simp only [chordY, chordX]
  generalize hl : (y2 - y1) / (x2 - x1) = l
  rw [div_eq_iff hd] at hl
  obtain rfl : y2 = y1 + l * (x2 - x1) := by linear_combination hl
  apply mul_left_cancel₀ hd
  linear_combination (x2 - (l ^ 2 - x1 - x2)) * h1 + (l ^ 2 - x1 - x2 - x1) * h2

/-- the same with a double root at x1: `hl` says that the derivative of the cubic vanishes there -/
theorem tangent_onCurve (a b x1 y1 : F) (h2 : (2 : F) ≠ 0) (hy : y1 ≠ 0) (h1 : y1 ^ 2 = x1 ^ 3 + a * x1 + b) :
    tangY a x1 y1 ^ 2 = tangX a x1 y1 ^ 3 + a * tangX a x1 y1 + b := by
  simp only [tangY, tangX]
  generalize hl : (3 * x1 ^ 2 + a) / (2 * y1) = l
  rw [div_eq_iff (mul_ne_zero h2 hy)] at hl
  linear_combination h1 - (l ^ 2 - 2 * x1 - x1) * hl

/-! ### the affine law on homogeneous triples; the affine templates -/

theorem slope_projc (x1 y1 z1 x2 y2 z2 : F) (hz1 : z1 ≠ 0) (hz2 : z2 ≠ 0) :
    (y2 / z2 - y1 / z1) / (x2 / z2 - x1 / z1) = (y2 * z1 - y1 * z2) / (x2 * z1 - x1 * z2) := by
  rw [div_sub_div _ _ hz2 hz1, div_sub_div _ _ hz2 hz1, div_div_div_cancel_right₀ (mul_ne_zero hz2 hz1),
    mul_comm z2 y1, mul_comm z2 x1]

theorem chordX_projc (x1 y1 z1 x2 y2 z2 : F) (hz1 : z1 ≠ 0) (hz2 : z2 ≠ 0) (hv : x2 * z1 - x1 * z2 ≠ 0) :
    chordX (x1 / z1) (y1 / z1) (x2 / z2) (y2 / z2) =
      ((y2 * z1 - y1 * z2) ^ 2 * z1 * z2 - (x1 * z2 + x2 * z1) * (x2 * z1 - x1 * z2) ^ 2) /
        (z1 * z2 * (x2 * z1 - x1 * z2) ^ 2) := by
  rw [chordX, slope_projc x1 y1 z1 x2 y2 z2 hz1 hz2]
  generalize x2 * z1 - x1 * z2 = v at hv ⊢
  generalize y2 * z1 - y1 * z2 = u
  field_simp
  ring

theorem chordY_projc (x1 y1 z1 x2 y2 z2 : F) (hz1 : z1 ≠ 0) (hz2 : z2 ≠ 0) (hv : x2 * z1 - x1 * z2 ≠ 0) :
    chordY (x1 / z1) (y1 / z1) (x2 / z2) (y2 / z2) =
      ((y2 * z1 - y1 * z2) * (x1 * z2 * (x2 * z1 - x1 * z2) ^ 2 -
          ((y2 * z1 - y1 * z2) ^ 2 * z1 * z2 - (x1 * z2 + x2 * z1) * (x2 * z1 - x1 * z2) ^ 2)) -
        y1 * z2 * (x2 * z1 - x1 * z2) ^ 3) / (z1 * z2 * (x2 * z1 - x1 * z2) ^ 3) := by
  rw [chordY, chordX_projc x1 y1 z1 x2 y2 z2 hz1 hz2 hv, slope_projc x1 y1 z1 x2 y2 z2 hz1 hz2]
  generalize x2 * z1 - x1 * z2 = v at hv ⊢
  generalize y2 * z1 - y1 * z2 = u
  field_simp

theorem tangX_projc (a x1 y1 z1 : F) (h2 : (2 : F) ≠ 0) (hz1 : z1 ≠ 0) (hy1 : y1 ≠ 0) :
    tangX a (x1 / z1) (y1 / z1) =
      ((3 * x1 ^ 2 + a * z1 ^ 2) ^ 2 - 8 * x1 * y1 ^ 2 * z1) / (2 * y1 * z1) ^ 2 := by
  simp only [tangX]
  field_simp <;> ring

theorem tangY_projc (a x1 y1 z1 : F) (h2 : (2 : F) ≠ 0) (hz1 : z1 ≠ 0) (hy1 : y1 ≠ 0) :
    tangY a (x1 / z1) (y1 / z1) =
      ((3 * x1 ^ 2 + a * z1 ^ 2) * (12 * x1 * y1 ^ 2 * z1 - (3 * x1 ^ 2 + a * z1 ^ 2) ^ 2) - 8 * y1 ^ 4 * z1 ^ 2) /
        (2 * y1 * z1) ^ 3 := by
  simp only [tangY, tangX]
  field_simp <;> ring

theorem add_basic_imp_chord (cv : CurveC F) (p q : Pt F) (hx : q.x - p.x ≠ 0) :
    let r := ep_add_basic_imp fieldOps cv p q
    r.x = chordX p.x p.y q.x q.y ∧ r.y = chordY p.x p.y q.x q.y ∧ r.z = p.z ∧ r.coord = .basic := by
  simp only [ep_add_basic_imp, fieldOps, decide_eq_true_eq, hx, not_true_eq_false, if_false, chordX, chordY,
    div_eq_mul_inv, and_true]
  constructor <;> ring

theorem add_basic_imp_exceptional (cv : CurveC F) (p q : Pt F) (hx : q.x - p.x = 0) :
    (q.y - p.y = 0 → ep_add_basic_imp fieldOps cv p q = ep_dbl_basic fieldOps cv p) ∧
    (q.y - p.y ≠ 0 → (ep_add_basic_imp fieldOps cv p q).z = 0) := by
  constructor
  · intro hy
    simp only [ep_add_basic_imp, fieldOps, decide_eq_true_eq, hx, hy, if_true]
  · intro hy
    simp only [ep_add_basic_imp, fieldOps, decide_eq_true_eq, hx, hy, if_true, if_false]

theorem dbl_basic_imp_tangent (cv : CurveC F) (p : Pt F) (h2 : (2 : F) ≠ 0) (hy : p.y ≠ 0) :
    let r := ep_dbl_basic_imp fieldOps cv p
    r.x = tangX cv.a p.x p.y ∧ r.y = tangY cv.a p.x p.y ∧ r.z = p.z ∧ r.coord = .basic := by
  simp only [ep_dbl_basic_imp, fieldOps, not_true_eq_false, if_false, tangX, tangY, div_eq_mul_inv, and_true]
  constructor <;> ring

/-! ### Jacobian -/

/-- the chord law on Jacobian triples, `z = z1·z2·(x2·z1² − x1·z2²)`; `jadd` of Spec/CurveFast.lean computes this
point, the templates compute it scaled by 2 -/
def jacAdd (x1 y1 z1 x2 y2 z2 : R) : Pt R :=
  let h := x2 * z1 ^ 2 - x1 * z2 ^ 2
  let r := y2 * z1 ^ 3 - y1 * z2 ^ 3
  let x3 := r ^ 2 - h ^ 3 - 2 * (x1 * z2 ^ 2 * h ^ 2)
  ⟨x3, r * (x1 * z2 ^ 2 * h ^ 2 - x3) - y1 * z2 ^ 3 * h ^ 3, z1 * z2 * h, .jacob⟩

/-- the tangent law on a Jacobian triple, `z = 2·y·z` -/
def jacDbl (a x y z : R) : Pt R :=
  let m := 3 * x ^ 2 + a * z ^ 4
  let s := 4 * (x * y ^ 2)
  let x3 := m ^ 2 - 2 * s
  ⟨x3, m * (s - x3) - 8 * y ^ 4, 2 * (y * z), .jacob⟩

def jacScale (s : R) (r : Pt R) : Pt R := ⟨s ^ 2 * r.x, s ^ 3 * r.y, s * r.z, r.coord⟩

theorem jacScale_spec {s : F} (hs : s ≠ 0) {r : Pt F} {cx cy : F}
    (h : r.coord = .jacob ∧ r.z ≠ 0 ∧ r.x / r.z ^ 2 = cx ∧ r.y / r.z ^ 3 = cy) :
    let r' := jacScale s r
    r'.coord = .jacob ∧ r'.z ≠ 0 ∧ r'.x / r'.z ^ 2 = cx ∧ r'.y / r'.z ^ 3 = cy := by
  obtain ⟨hc, hz, hx, hy⟩ := h
  refine ⟨hc, mul_ne_zero hs hz, ?_, ?_⟩
  · simp only [jacScale, mul_pow, mul_div_mul_left _ _ (pow_ne_zero 2 hs), hx]
  · simp only [jacScale, mul_pow, mul_div_mul_left _ _ (pow_ne_zero 3 hs), hy]

/-- a Jacobian triple (x, y, z) denotes the same point as the homogeneous triple (xz, y, z³) -/
theorem jacob_eq_projc (x z : F) (hz : z ≠ 0) : x / z ^ 2 = x * z / z ^ 3 := by
  rw [pow_succ z 2, mul_div_mul_right _ _ hz]

theorem jacAdd_chord (x1 y1 z1 x2 y2 z2 : F) (hz1 : z1 ≠ 0) (hz2 : z2 ≠ 0)
    (hx : x2 * z1 ^ 2 - x1 * z2 ^ 2 ≠ 0) :
    let r := jacAdd x1 y1 z1 x2 y2 z2
    r.coord = .jacob ∧ r.z ≠ 0 ∧
    r.x / r.z ^ 2 = chordX (x1 / z1 ^ 2) (y1 / z1 ^ 3) (x2 / z2 ^ 2) (y2 / z2 ^ 3) ∧
    r.y / r.z ^ 3 = chordY (x1 / z1 ^ 2) (y1 / z1 ^ 3) (x2 / z2 ^ 2) (y2 / z2 ^ 3) := by
  have hw : z1 * z2 * (x2 * z1 ^ 2 - x1 * z2 ^ 2) ≠ 0 := mul_ne_zero (mul_ne_zero hz1 hz2) hx
  have hv : x2 * z2 * z1 ^ 3 - x1 * z1 * z2 ^ 3 ≠ 0 := by
    have e : x2 * z2 * z1 ^ 3 - x1 * z1 * z2 ^ 3 = z1 * z2 * (x2 * z1 ^ 2 - x1 * z2 ^ 2) := by ring
    rwa [e]
  have hz1' := pow_ne_zero 3 hz1
  have hz2' := pow_ne_zero 3 hz2
  rw [jacob_eq_projc x1 z1 hz1, jacob_eq_projc x2 z2 hz2]
  refine ⟨rfl, hw, ?_, ?_⟩
  · simp only [jacAdd]
    rw [chordX_projc _ _ _ _ _ _ hz1' hz2' hv,
      div_eq_div_iff (pow_ne_zero 2 hw) (mul_ne_zero (mul_ne_zero hz1' hz2') (pow_ne_zero 2 hv))]
    ring
  · simp only [jacAdd]
    rw [chordY_projc _ _ _ _ _ _ hz1' hz2' hv,
      div_eq_div_iff (pow_ne_zero 3 hw) (mul_ne_zero (mul_ne_zero hz1' hz2') (pow_ne_zero 3 hv))]
    ring

theorem jacDbl_tangent (a x y z : F) (h2 : (2 : F) ≠ 0) (hz : z ≠ 0) (hy : y ≠ 0) :
    let r := jacDbl a x y z
    r.coord = .jacob ∧ r.z ≠ 0 ∧
    r.x / r.z ^ 2 = tangX a (x / z ^ 2) (y / z ^ 3) ∧ r.y / r.z ^ 3 = tangY a (x / z ^ 2) (y / z ^ 3) := by
  refine ⟨rfl, mul_ne_zero h2 (mul_ne_zero hy hz), ?_, ?_⟩
  · simp only [jacDbl, tangX]
    field_simp
    ring
  · simp only [jacDbl, tangY, tangX]
    field_simp
    ring

theorem add_jacob_imp_mix (cv : CurveC F) (p q : Pt F) (hq : q.coord = .basic) :
    ep_add_jacob_imp fieldOps cv p q = ep_add_jacob_mix fieldOps cv p q := by
  unfold ep_add_jacob_imp
  rw [if_pos hq]

theorem add_jacob_imp_closed (cv : CurveC R) (p q : Pt R) (hq : q.coord ≠ .basic)
    (hx : q.x * p.z ^ 2 - p.x * q.z ^ 2 ≠ 0) :
    ep_add_jacob_imp (ringOps inv hlv fun a => decide (a = 0)) cv p q =
      jacScale 2 (jacAdd p.x p.y p.z q.x q.y q.z) := by
  have hx' : q.x * (p.z * p.z) - p.x * (q.z * q.z) ≠ 0 := by rwa [← sq, ← sq]
  simp only [ep_add_jacob_imp, ringOps, jacScale, jacAdd, decide_eq_true_eq, hq, hx', if_false, Pt.mk.injEq,
    and_true]
  refine ⟨?_, ?_, ?_⟩ <;> ring

theorem add_jacob_mix_closed (cv : CurveC R) (p q : Pt R)
    (hx : q.x * (if p.coord = .basic then 1 else p.z) ^ 2 - p.x ≠ 0) :
    ep_add_jacob_mix (ringOps inv hlv fun a => decide (a = 0)) cv p q =
      jacScale 2 (jacAdd p.x p.y (if p.coord = .basic then 1 else p.z) q.x q.y 1) := by
  by_cases hb : p.coord = .basic
  · rw [if_pos hb, one_pow, mul_one] at hx
    simp only [ep_add_jacob_mix, ringOps, jacScale, jacAdd, decide_eq_true_eq, hb, hx, not_true_eq_false, if_true,
      if_false, Pt.mk.injEq, and_true]
    refine ⟨?_, ?_, ?_⟩ <;> ring
  · rw [if_neg hb, sq] at hx
    simp only [ep_add_jacob_mix, ringOps, jacScale, jacAdd, decide_eq_true_eq, hb, hx, not_false_eq_true, if_true,
      if_false, Pt.mk.injEq, and_true]
    refine ⟨?_, ?_, ?_⟩ <;> ring

-- `h2`: the computed z is 2·z1·z2·(x2·z1² − x1·z2²), zero in characteristic 2.
theorem add_jacob_imp_chord (cv : CurveC F) (p q : Pt F) (hq : q.coord ≠ .basic) (h2 : (2 : F) ≠ 0)
    (hzp : p.z ≠ 0) (hzq : q.z ≠ 0) (hx : q.x * p.z ^ 2 - p.x * q.z ^ 2 ≠ 0) :
    let r := ep_add_jacob_imp fieldOps cv p q
    r.coord = .jacob ∧ r.z ≠ 0 ∧
    r.x / r.z ^ 2 = chordX (p.x / p.z ^ 2) (p.y / p.z ^ 3) (q.x / q.z ^ 2) (q.y / q.z ^ 3) ∧
    r.y / r.z ^ 3 = chordY (p.x / p.z ^ 2) (p.y / p.z ^ 3) (q.x / q.z ^ 2) (q.y / q.z ^ 3) := by
  rw [fieldOps_eq, add_jacob_imp_closed _ _ cv p q hq hx]
  exact jacScale_spec h2 (jacAdd_chord _ _ _ _ _ _ hzp hzq hx)

theorem add_jacob_mix_chord (cv : CurveC F) (p q : Pt F) (hp : p.coord = .jacob) (h2 : (2 : F) ≠ 0) (hz : p.z ≠ 0)
    (hx : q.x * p.z ^ 2 - p.x ≠ 0) :
    let r := ep_add_jacob_mix fieldOps cv p q
    r.coord = .jacob ∧ r.z ≠ 0 ∧
    r.x / r.z ^ 2 = chordX (p.x / p.z ^ 2) (p.y / p.z ^ 3) q.x q.y ∧
    r.y / r.z ^ 3 = chordY (p.x / p.z ^ 2) (p.y / p.z ^ 3) q.x q.y := by
  have hb : p.coord ≠ .basic := by rw [hp]; exact fun h => nomatch h
  rw [fieldOps_eq, add_jacob_mix_closed _ _ cv p q (by rwa [if_neg hb]), if_neg hb]
  have h := jacScale_spec h2 (jacAdd_chord p.x p.y p.z q.x q.y 1 hz one_ne_zero (by rwa [one_pow, mul_one]))
  rwa [one_pow, one_pow, div_one, div_one] at h

theorem add_jacob_mix_chord_basic (cv : CurveC F) (p q : Pt F) (hp : p.coord = .basic) (h2 : (2 : F) ≠ 0)
    (hx : q.x - p.x ≠ 0) :
    let r := ep_add_jacob_mix fieldOps cv p q
    r.coord = .jacob ∧ r.z ≠ 0 ∧
    r.x / r.z ^ 2 = chordX p.x p.y q.x q.y ∧ r.y / r.z ^ 3 = chordY p.x p.y q.x q.y := by
  rw [fieldOps_eq, add_jacob_mix_closed _ _ cv p q (by rwa [if_pos hp, one_pow, mul_one]), if_pos hp]
  have h := jacScale_spec h2 (jacAdd_chord p.x p.y 1 q.x q.y 1 one_ne_zero one_ne_zero
    (by rwa [one_pow, mul_one, mul_one]))
  rwa [one_pow, one_pow, div_one, div_one, div_one, div_one] at h

/-- Only the `opt_a = RLC_MIN3` branch asks for an operand not flagged affine; the `RLC_ZERO` branch reads `p.z`
whatever the flag, so an operand flagged affine must have `z = 1`. -/
theorem dbl_jacob_imp_closed (cv : CurveC R) (p : Pt R)
    (hz : p.coord = .basic → p.z = 1)
    (h3 : p.coord ≠ .basic → cv.optA = .min3 → cv.a = -3) (h0 : cv.optA = .zero → cv.a = 0) :
    ep_dbl_jacob_imp (ringOps inv hlv isZ) cv p = jacDbl cv.a p.x p.y p.z := by
  by_cases hb : p.coord = .basic
  · have ha : cv.a = if cv.optA = .zero then 0 else cv.a := by
      split_ifs with h
      exacts [h0 h, rfl]
    simp only [ep_dbl_jacob_imp, ringOps, jacDbl, hb, hz hb, not_true_eq_false, false_and, if_false]
    rw [ha]
    split_ifs
    all_goals
      simp only [Pt.mk.injEq, and_true]
      refine ⟨?_, ?_, ?_⟩ <;> ring
  · have ha : cv.a = if cv.optA = .min3 then -3 else if cv.optA = .zero then 0 else cv.a := by
      split_ifs with h h'
      exacts [h3 hb h, h0 h', rfl]
    simp only [ep_dbl_jacob_imp, ringOps, jacDbl, hb, not_false_eq_true, true_and, if_true]
    rw [ha]
    split_ifs
    all_goals
      simp only [Pt.mk.injEq, and_true]
      refine ⟨?_, ?_, ?_⟩ <;> ring

theorem dbl_jacob_imp_tangent (cv : CurveC F) (p : Pt F) (hp : p.coord = .jacob) (h2 : (2 : F) ≠ 0) (hz : p.z ≠ 0)
    (hy : p.y ≠ 0)
    (hopt : (cv.optA = .min3 → cv.a = -3) ∧ (cv.optA = .zero → cv.a = 0)) :
    let r := ep_dbl_jacob_imp fieldOps cv p
    r.coord = .jacob ∧ r.z ≠ 0 ∧
    r.x / r.z ^ 2 = tangX cv.a (p.x / p.z ^ 2) (p.y / p.z ^ 3) ∧
    r.y / r.z ^ 3 = tangY cv.a (p.x / p.z ^ 2) (p.y / p.z ^ 3) := by
  rw [fieldOps_eq,
    dbl_jacob_imp_closed _ _ _ cv p (by rw [hp]; exact fun h => nomatch h) (fun _ => hopt.1) hopt.2]
  exact jacDbl_tangent _ _ _ _ h2 hz hy

theorem dbl_jacob_imp_tangent_basic (cv : CurveC F) (p : Pt F) (hp : p.coord = .basic) (hz1 : p.z = 1)
    (h2 : (2 : F) ≠ 0) (hy : p.y ≠ 0) (hopt : cv.optA = .zero → cv.a = 0) :
    let r := ep_dbl_jacob_imp fieldOps cv p
    r.coord = .jacob ∧ r.z ≠ 0 ∧ r.x / r.z ^ 2 = tangX cv.a p.x p.y ∧ r.y / r.z ^ 3 = tangY cv.a p.x p.y := by
  rw [fieldOps_eq, dbl_jacob_imp_closed _ _ _ cv p (fun _ => hz1) (fun h => absurd hp h) hopt, hz1]
  have h := jacDbl_tangent cv.a p.x p.y 1 h2 one_ne_zero hy
  rwa [one_pow, one_pow, div_one, div_one] at h

/-! ### homogeneous projective (Renes–Costello–Batina) -/

/-- the complete addition law of Renes–Costello–Batina for general a, in closed form -/
def rcbAdd (a b x1 y1 z1 x2 y2 z2 : R) : Pt R :=
  let s := a * (x1 * z2 + x2 * z1) + 3 * b * z1 * z2
  let t := a * x1 * x2 + 3 * b * (x1 * z2 + x2 * z1) - a ^ 2 * z1 * z2
  let u := 3 * x1 * x2 + a * z1 * z2
  ⟨(x1 * y2 + x2 * y1) * (y1 * y2 - s) - (y1 * z2 + y2 * z1) * t,
   u * t + (y1 * y2 + s) * (y1 * y2 - s),
   (y1 * z2 + y2 * z1) * (y1 * y2 + s) + (x1 * y2 + x2 * y1) * u, .projc⟩

/-- `rcbAdd` of a point with itself, z simplified by the curve equation -/
def rcbDbl (a b x y z : R) : Pt R :=
  let s := 2 * a * x * z + 3 * b * z ^ 2
  let t := a * x ^ 2 + 6 * b * x * z - a ^ 2 * z ^ 2
  ⟨2 * x * y * (y ^ 2 - s) - 2 * y * z * t, (3 * x ^ 2 + a * z ^ 2) * t + (y ^ 2 + s) * (y ^ 2 - s),
   8 * y ^ 3 * z, .projc⟩

theorem rcbAdd_chord (a b x1 y1 z1 x2 y2 z2 : F) (hz1 : z1 ≠ 0) (hz2 : z2 ≠ 0)
    (hcp : y1 ^ 2 * z1 = x1 ^ 3 + a * x1 * z1 ^ 2 + b * z1 ^ 3)
    (hcq : y2 ^ 2 * z2 = x2 ^ 3 + a * x2 * z2 ^ 2 + b * z2 ^ 3) (hx : x2 * z1 - x1 * z2 ≠ 0) :
    let r := rcbAdd a b x1 y1 z1 x2 y2 z2
    r.coord = .projc ∧ (r.z ≠ 0 →
      r.x / r.z = chordX (x1 / z1) (y1 / z1) (x2 / z2) (y2 / z2) ∧
      r.y / r.z = chordY (x1 / z1) (y1 / z1) (x2 / z2) (y2 / z2)) := by
  intro r
  refine ⟨rfl, fun hz => ?_⟩
  have hX : r.x / r.z = chordX (x1 / z1) (y1 / z1) (x2 / z2) (y2 / z2) := by
    rw [chordX_projc x1 y1 z1 x2 y2 z2 hz1 hz2 hx,
      div_eq_div_iff hz (mul_ne_zero (mul_ne_zero hz1 hz2) (pow_ne_zero 2 hx))]
    simp only [r, rcbAdd]
    linear_combination (-a*x1*y1*z2^5 - a*x1*y2*z1*z2^4 - 2*a*x2*y1*z1*z2^4 + 3*a*x2*y2*z1^2*z2^3 - 3*b*y1*z1*z2^5 +
          2*b*y2*z1^2*z2^4 - 3*x1^2*x2*y2*z2^3 - 3*x1*x2^2*y1*z2^3 + 3*x1*x2^2*y2*z1*z2^2 + 2*x2^3*y2*z1^2*z2 -
          y1^2*y2*z2^4 + y1*y2^2*z1*z2^3 + y2^3*z1^2*z2^2) * hcp + (4*a*x1*y1*z1^3*z2^2 - a*x1*y2*z1^4*z2 -
          a*x2*y1*z1^4*z2 - a*x2*y2*z1^5 + 3*b*y1*z1^4*z2^2 - 2*b*y2*z1^5*z2 + 3*x1^3*y1*z1*z2^2 + x1^3*y2*z1^2*z2 +
          3*x1^2*x2*y1*z1^2*z2 - 3*x1^2*x2*y2*z1^3 - 3*x1*x2^2*y1*z1^3 - y1*y2^2*z1^4) * hcq
  -- the point lies on the line through the two operands; with `hX` this gives its y
  have hline : r.y * ((x2 * z1 - x1 * z2) * z1) =
      (y2 * z1 - y1 * z2) * (x1 * r.z - z1 * r.x) - y1 * ((x2 * z1 - x1 * z2) * r.z) := by
    simp only [r, rcbAdd]
    linear_combination (-a^2*z1*z2^3 + 3*a*x1*x2*z2^2 + 3*a*x2^2*z1*z2 + 3*b*x1*z2^3 + 9*b*x2*z1*z2^2 + 3*x1*x2^3 -
      3*x1*y2^2*z2 + 3*x2*y2^2*z1) * hcp + (a^2*z1^4 - 6*a*x1^2*z1^2 - 12*b*x1*z1^3 - 3*x1^4) * hcq
  refine ⟨hX, ?_⟩
  rw [chordY, ← hX, slope_projc x1 y1 z1 x2 y2 z2 hz1 hz2]
  clear_value r
  generalize x2 * z1 - x1 * z2 = v at hx hline ⊢
  field_simp
  linear_combination hline

theorem rcbDbl_tangent (a b x y z : F) (h2 : (2 : F) ≠ 0) (hz : z ≠ 0) (hy : y ≠ 0)
    (hc : y ^ 2 * z = x ^ 3 + a * x * z ^ 2 + b * z ^ 3) :
    let r := rcbDbl a b x y z
    r.coord = .projc ∧ (r.z ≠ 0 → r.x / r.z = tangX a (x / z) (y / z) ∧ r.y / r.z = tangY a (x / z) (y / z)) := by
  have hD : 2 * y * z ≠ 0 := mul_ne_zero (mul_ne_zero h2 hy) hz
  refine ⟨rfl, fun hr => ⟨?_, ?_⟩⟩
  · rw [tangX_projc a x y z h2 hz hy, div_eq_div_iff hr (pow_ne_zero 2 hD)]
    simp only [rcbDbl]
    linear_combination (72*x*y^3*z) * hc
  · rw [tangY_projc a x y z h2 hz hy, div_eq_div_iff hr (pow_ne_zero 3 hD)]
    simp only [rcbDbl]
    linear_combination (-24*a*x*y^3*z^3 + 72*b*y^3*z^4 - 216*x^3*y^3*z + 72*y^5*z^2) * hc

theorem add_projc_imp_mix (cv : CurveC F) (p q : Pt F) (hq : q.coord = .basic) :
    ep_add_projc_imp fieldOps cv p q = ep_add_projc_mix fieldOps cv p q := by
  unfold ep_add_projc_imp
  rw [if_pos hq]

/-- the coefficient the branch taken for `opt_a` works with (`RLC_ZERO` is tested first) -/
theorem optA_eq {cv : CurveC R} (hopt : (cv.optA = .min3 → cv.a = -3) ∧ (cv.optA = .zero → cv.a = 0)) :
    cv.a = if cv.optA = .zero then 0 else if cv.optA = .min3 then -3 else cv.a := by
  split_ifs with h0 h3
  exacts [hopt.2 h0, hopt.1 h3, rfl]

theorem add_projc_imp_closed (cv : CurveC R) (p q : Pt R)
    (hq : q.coord ≠ .basic)
    (hopt : (cv.optA = .min3 → cv.a = -3) ∧ (cv.optA = .zero → cv.a = 0)) :
    ep_add_projc_imp (ringOps inv hlv isZ) cv p q = rcbAdd cv.a cv.b p.x p.y p.z q.x q.y q.z := by
  simp only [ep_add_projc_imp, ringOps, rcbAdd, hq, if_false, Nat.cast_ofNat]
  rw [optA_eq hopt]
  split_ifs
  all_goals
    simp only [Pt.mk.injEq, and_true]
    refine ⟨?_, ?_, ?_⟩ <;> ring

theorem add_projc_mix_closed (cv : CurveC R) (p q : Pt R)
    (hopt : (cv.optA = .min3 → cv.a = -3) ∧ (cv.optA = .zero → cv.a = 0)) :
    ep_add_projc_mix (ringOps inv hlv isZ) cv p q =
      rcbAdd cv.a cv.b p.x p.y (if p.coord = .basic then 1 else p.z) q.x q.y 1 := by
  simp only [ep_add_projc_mix, ringOps, rcbAdd, Nat.cast_ofNat]
  rw [optA_eq hopt]
  split_ifs
  all_goals
    simp only [Pt.mk.injEq, and_true]
    refine ⟨?_, ?_, ?_⟩ <;> ring

theorem add_projc_imp_chord (cv : CurveC F) (p q : Pt F) (hp : p.coord = .projc) (hq : q.coord = .projc)
    (hzp : p.z ≠ 0) (hzq : q.z ≠ 0) (hcp : OnCurve cv p) (hcq : OnCurve cv q)
    (hx : q.x * p.z - p.x * q.z ≠ 0)
    (hopt : (cv.optA = .min3 → cv.a = -3) ∧ (cv.optA = .zero → cv.a = 0)) :
    let r := ep_add_projc_imp fieldOps cv p q
    r.coord = .projc ∧ (r.z ≠ 0 →
      r.x / r.z = chordX (p.x / p.z) (p.y / p.z) (q.x / q.z) (q.y / q.z) ∧
      r.y / r.z = chordY (p.x / p.z) (p.y / p.z) (q.x / q.z) (q.y / q.z)) := by
  simp only [OnCurve, hp, hq] at hcp hcq
  rw [fieldOps_eq, add_projc_imp_closed _ _ _ cv p q (by rw [hq]; exact fun h => nomatch h) hopt]
  exact rcbAdd_chord _ _ _ _ _ _ _ _ hzp hzq hcp hcq hx

theorem add_projc_mix_chord (cv : CurveC F) (p q : Pt F) (hp : p.coord = .projc)
    (hzp : p.z ≠ 0) (hcp : OnCurve cv p) (hcq : q.y ^ 2 = q.x ^ 3 + cv.a * q.x + cv.b)
    (hx : q.x * p.z - p.x ≠ 0)
    (hopt : (cv.optA = .min3 → cv.a = -3) ∧ (cv.optA = .zero → cv.a = 0)) :
    let r := ep_add_projc_mix fieldOps cv p q
    r.coord = .projc ∧ (r.z ≠ 0 →
      r.x / r.z = chordX (p.x / p.z) (p.y / p.z) q.x q.y ∧
      r.y / r.z = chordY (p.x / p.z) (p.y / p.z) q.x q.y) := by
  simp only [OnCurve, hp] at hcp
  rw [fieldOps_eq, add_projc_mix_closed _ _ _ cv p q hopt, if_neg (by rw [hp]; exact fun h => nomatch h)]
  have h := rcbAdd_chord cv.a cv.b p.x p.y p.z q.x q.y 1 hzp one_ne_zero hcp (by linear_combination hcq)
    (by rwa [mul_one])
  rwa [div_one, div_one] at h

theorem add_projc_mix_chord_basic (cv : CurveC F) (p q : Pt F) (hp : p.coord = .basic)
    (hcp : p.y ^ 2 = p.x ^ 3 + cv.a * p.x + cv.b) (hcq : q.y ^ 2 = q.x ^ 3 + cv.a * q.x + cv.b)
    (hx : q.x - p.x ≠ 0)
    (hopt : (cv.optA = .min3 → cv.a = -3) ∧ (cv.optA = .zero → cv.a = 0)) :
    let r := ep_add_projc_mix fieldOps cv p q
    r.coord = .projc ∧ (r.z ≠ 0 →
      r.x / r.z = chordX p.x p.y q.x q.y ∧ r.y / r.z = chordY p.x p.y q.x q.y) := by
  rw [fieldOps_eq, add_projc_mix_closed _ _ _ cv p q hopt, if_pos hp]
  have h := rcbAdd_chord cv.a cv.b p.x p.y 1 q.x q.y 1 one_ne_zero one_ne_zero (by linear_combination hcp)
    (by linear_combination hcq) (by rwa [mul_one, mul_one])
  rwa [div_one, div_one, div_one, div_one] at h

/-- An operand flagged affine must have `z = 1`: some branches read `p.z` whatever the flag.  The `RLC_ZERO` branch
computes a y that agrees with `rcbDbl` only on the curve. -/
theorem dbl_projc_imp_closed (cv : CurveC R) (p : Pt R)
    (hz : p.coord = .basic → p.z = 1)
    (hc : p.y ^ 2 * p.z = p.x ^ 3 + cv.a * p.x * p.z ^ 2 + cv.b * p.z ^ 3)
    (hopt : (cv.optA = .min3 → cv.a = -3) ∧ (cv.optA = .zero → cv.a = 0)) :
    ep_dbl_projc_imp (ringOps inv hlv isZ) cv p = rcbDbl cv.a cv.b p.x p.y p.z := by
  have hz' : p.z = if p.coord = .basic then 1 else p.z := by
    split_ifs with h
    exacts [hz h, rfl]
  by_cases h0 : cv.optA = .zero
  · rw [hopt.2 h0] at hc ⊢
    rw [hz'] at hc ⊢
    simp only [ep_dbl_projc_imp, ringOps, rcbDbl, h0, if_true]
    split_ifs at hc ⊢
    all_goals
      simp only [Pt.mk.injEq, and_true]
      refine ⟨by ring, ?_, by ring⟩
    · linear_combination (18 * cv.b) * hc
    · linear_combination (18 * cv.b * p.z) * hc
  · simp only [ep_dbl_projc_imp, ringOps, rcbDbl, h0, if_false, Nat.cast_ofNat]
    rw [optA_eq hopt, hz']
    split_ifs
    all_goals
      simp only [Pt.mk.injEq, and_true]
      refine ⟨?_, ?_, ?_⟩ <;> ring

theorem dbl_projc_imp_tangent (cv : CurveC F) (p : Pt F) (hp : p.coord = .projc) (h2 : (2 : F) ≠ 0)
    (hzp : p.z ≠ 0) (hcp : OnCurve cv p) (hy : p.y ≠ 0)
    (hopt : (cv.optA = .min3 → cv.a = -3) ∧ (cv.optA = .zero → cv.a = 0)) :
    let r := ep_dbl_projc_imp fieldOps cv p
    r.coord = .projc ∧ (r.z ≠ 0 →
      r.x / r.z = tangX cv.a (p.x / p.z) (p.y / p.z) ∧ r.y / r.z = tangY cv.a (p.x / p.z) (p.y / p.z)) := by
  simp only [OnCurve, hp] at hcp
  rw [fieldOps_eq, dbl_projc_imp_closed _ _ _ cv p (by rw [hp]; exact fun h => nomatch h) hcp hopt]
  exact rcbDbl_tangent _ _ _ _ _ h2 hzp hy hcp

theorem dbl_projc_imp_tangent_basic (cv : CurveC F) (p : Pt F) (hp : p.coord = .basic) (hz1 : p.z = 1)
    (h2 : (2 : F) ≠ 0) (hcp : OnCurve cv p) (hy : p.y ≠ 0)
    (hopt : (cv.optA = .min3 → cv.a = -3) ∧ (cv.optA = .zero → cv.a = 0)) :
    let r := ep_dbl_projc_imp fieldOps cv p
    r.coord = .projc ∧ (r.z ≠ 0 → r.x / r.z = tangX cv.a p.x p.y ∧ r.y / r.z = tangY cv.a p.x p.y) := by
  have hc : p.y ^ 2 * p.z = p.x ^ 3 + cv.a * p.x * p.z ^ 2 + cv.b * p.z ^ 3 := by
    simp only [OnCurve, hp] at hcp
    rw [hz1]
    linear_combination hcp
  rw [fieldOps_eq, dbl_projc_imp_closed _ _ _ cv p (fun _ => hz1) hc hopt]
  rw [hz1] at hc ⊢
  have h := rcbDbl_tangent cv.a cv.b p.x p.y 1 h2 one_ne_zero hy hc
  rwa [div_one, div_one] at h

/-! ### public entry points -/
theorem add_jacob_identity (cv : CurveC F) (p q : Pt F) :
    (p.z = 0 → ep_add_jacob fieldOps cv p q = q) ∧ (p.z ≠ 0 → q.z = 0 → ep_add_jacob fieldOps cv p q = p) := by
  constructor
  · intro h; simp only [ep_add_jacob, fieldOps, decide_eq_true_eq, h, if_true]
  · intro h h'; simp only [ep_add_jacob, fieldOps, decide_eq_true_eq, h, h', if_true, if_false]

theorem add_projc_identity (cv : CurveC F) (p q : Pt F) :
    (p.z = 0 → ep_add_projc fieldOps cv p q = q) ∧ (p.z ≠ 0 → q.z = 0 → ep_add_projc fieldOps cv p q = p) := by
  constructor
  · intro h; simp only [ep_add_projc, fieldOps, decide_eq_true_eq, h, if_true]
  · intro h h'; simp only [ep_add_projc, fieldOps, decide_eq_true_eq, h, h', if_true, if_false]

end Relic.Lemmas.EpFormulas
