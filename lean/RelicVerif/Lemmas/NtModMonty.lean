/- Proofs about the Montgomery models of Model/NtMod.lean: the Newton iteration of bn_mod_pre_monty, REDC. -/
import RelicVerif.Model.NtMod
import Mathlib.Tactic.Linarith
import Mathlib.Tactic.Ring
import Mathlib.Tactic.Positivity
import Mathlib.Tactic.NormNum
import Mathlib.Tactic.LinearCombination
import Mathlib.Algebra.Order.Ring.Int

namespace Relic.Lemmas.NtMod
open Relic.Model.NtMod

theorem newtonStep_inv (B b x : Int) (e e' : Nat) (he : e' ≤ 2 * e) (hB : (2 : Int) ^ e' ∣ B) (h : (2 : Int) ^ e ∣ x * b - 1) :
    (2 : Int) ^ e' ∣ newtonStep B b x * b - 1 := by
  unfold newtonStep
  have h2 : (2 : Int) ^ e' ∣ (x * b - 1) * (x * b - 1) :=
    (pow_dvd_pow 2 he).trans (by rw [two_mul, pow_add]; exact mul_dvd_mul h h)
  rw [Int.emod_def, show (x * (2 - b * x) - B * (x * (2 - b * x) / B)) * b - 1 =
    -((x * b - 1) * (x * b - 1)) - B * ((x * (2 - b * x) / B) * b) by ring]
  exact dvd_sub (Dvd.dvd.neg_right h2) (Dvd.dvd.mul_right hB _)

theorem newtonIter_inv (B b : Int) (w : Nat) (hB : B = (2 : Int) ^ w) : ∀ (n e : Nat) (x : Int),
    (2 : Int) ^ (min e w) ∣ x * b - 1 → (2 : Int) ^ (min (e * 2 ^ n) w) ∣ newtonIter B b n x * b - 1 := by
  intro n
  induction n with
  | zero =>
    intro e x h
    rwa [pow_zero, mul_one]
  | succ n ih =>
    intro e x h
    rw [newtonIter]
    have h1 : (2 : Int) ^ (min (2 * e) w) ∣ newtonStep B b x * b - 1 :=
      newtonStep_inv B b x (min e w) (min (2 * e) w) (by omega) (by rw [hB]; exact pow_dvd_pow 2 (Nat.min_le_right _ _)) h
    have := ih (2 * e) (newtonStep B b x) h1
    have he : 2 * e * 2 ^ n = e * 2 ^ (n + 1) := by rw [pow_succ]; ring
    rwa [he] at this

/-- modulo 16 the start value is a function of r = b mod 16 (bit 2 of b + 2 moved to bit 3, plus b), and each of the eight odd
residues r gives a product ≡ 1 -/
theorem newtonStart_inv (B b : Int) (h16 : (16 : Int) ∣ B) (hb : b % 2 = 1) : (16 : Int) ∣ newtonStart B b * b - 1 := by
  have hcases : b % 16 = 1 ∨ b % 16 = 3 ∨ b % 16 = 5 ∨ b % 16 = 7 ∨ b % 16 = 9 ∨ b % 16 = 11 ∨ b % 16 = 13 ∨ b % 16 = 15 := by
    omega
  have h8 : (8 : Int) ∣ B := dvd_trans (by norm_num) h16
  have hc : ((b + 2) % B) % 8 = (b + 2) % 8 := Int.emod_emod_of_dvd _ h8
  have hx : newtonStart B b % 16 = ((((b + 2) % B) / 4 % 2) * 8 + b) % 16 := by
    unfold newtonStart; exact Int.emod_emod_of_dvd _ h16
  generalize (b + 2) % B = c at hc hx
  have hx' : newtonStart B b % 16 = ((b % 16 + 2) / 4 % 2 * 8 + b % 16) % 16 := by omega
  apply Int.dvd_of_emod_eq_zero
  rw [Int.sub_emod, Int.mul_emod, hx']
  rcases hcases with h | h | h | h | h | h | h | h <;> rw [h] <;> rfl

theorem montySteps_enough (w : Nat) (hw : w ≤ 64) : w ≤ 4 * 2 ^ montySteps w := by
  unfold montySteps
  by_cases h1 : w > 8 <;> by_cases h2 : w > 16 <;> by_cases h3 : w > 32 <;> simp [h1, h2, h3] <;> omega

theorem redcRounds_inv (B m u : Int) (hB : 0 < B) (hu : (u * m + 1) % B = 0) : ∀ (n i : Nat) (t : Int), B ^ i ∣ t →
    ∃ Q, 0 ≤ Q ∧ Q < B ^ n ∧ redcRounds B m u n i t = t + Q * B ^ i * m ∧ B ^ (i + n) ∣ redcRounds B m u n i t := by
  intro n
  induction n with
  | zero => intro i t h; exact ⟨0, le_refl _, by simp, by simp [redcRounds], by simpa [redcRounds] using h⟩
  | succ n ih =>
    intro i t h
    obtain ⟨s, rfl⟩ := h
    have hBi : B ^ i ≠ 0 := (pow_pos hB i).ne'
    rw [redcRounds]
    simp only [Int.mul_ediv_cancel_left _ hBi]
    generalize hr : (s % B * u) % B = r
    have hr0 : 0 ≤ r := by rw [← hr]; exact Int.emod_nonneg _ hB.ne'
    have hr1 : r < B := by rw [← hr]; exact Int.emod_lt_of_pos _ hB
    have hdu : B ∣ u * m + 1 := Int.dvd_of_emod_eq_zero hu
    have hrs : B ∣ r - s * u := by
      have := Int.dvd_sub (Int.dvd_sub_self_of_emod_eq hr) ((Int.dvd_self_sub_emod (x := s) (m := B)).mul_right u)
      rwa [show r - s % B * u - (s - s % B) * u = r - s * u by ring] at this
    have hdiv : B ^ (i + 1) ∣ B ^ i * s + r * m * B ^ i := by
      have : B ^ i * s + r * m * B ^ i = B ^ i * (s * (u * m + 1) + (r - s * u) * m) := by ring
      rw [this, pow_succ]
      exact mul_dvd_mul_left _ (dvd_add (Dvd.dvd.mul_left hdu _) (Dvd.dvd.mul_right hrs _))
    obtain ⟨Q', hQ0, hQ1, hval, hd⟩ := ih (i + 1) _ hdiv
    refine ⟨r + Q' * B, by positivity, ?_, ?_, ?_⟩
    · have : Q' + 1 ≤ B ^ n := hQ1
      have : (Q' + 1) * B ≤ B ^ n * B := mul_le_mul_of_nonneg_right this hB.le
      rw [pow_succ]; linarith
    · rw [hval, pow_succ]; ring
    · have : i + (n + 1) = i + 1 + n := by omega
      rw [this]; exact hd

end Relic.Lemmas.NtMod
