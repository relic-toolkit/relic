/-
The Edwards scalar multiplications of Model/EdMul.lean over an arbitrary additive commutative group G.  For a base point killed by
the group order r < 2^RLC_FP_BITS every routine is TOTAL (the recoding of the reduced scalar always fits the fixed-size array: no
ERR_NO_BUFFER) and returns k • P (resp. k • P + m • Q) for EVERY integer k: the routines reduce the scalar modulo r first, like the
ep_* originals; ed_mul_basic and ed_mul_monty do not reduce and are right on every point.  ed_mul_fix_combd is the ep_* text on
shared models (Model/EpMul.lean): EpComb.mulCombd_correct applies once the constants of the C code are seen to satisfy its hypotheses.
-/
import RelicVerif.Lemmas.EbMul
import RelicVerif.Lemmas.EpComb
import RelicVerif.Lemmas.Loops
import RelicVerif.Model.EdMul

namespace Relic.Model.EdMul
open Relic.Model Relic.Model.MulAlg

variable {G : Type} [AddCommGroup G]

def IsOSound (isO : G → Bool) : Prop := ∀ x, isO x = true → x = 0

structure Par.Ok (par : Par) : Prop where
  ord_pos : 0 < par.ord
  ord_fits : par.ord < 2 ^ par.fpBits

theorem signed_natAbs (k : ℤ) (p : G) : signed gops k ((k.natAbs : ℤ) • p) = k • p :=
  neg_natAbs_zsmul k p

theorem red_zsmul (par : Par) (h0 : 0 < par.ord) (p : G) (hp : (par.ord : ℤ) • p = 0) (k : ℤ) :
    ((par.red k : ℕ) : ℤ) • p = k • p :=
  toNat_emod_zsmul p par.ord h0 hp k

theorem red_lt (par : Par) (h0 : 0 < par.ord) (k : ℤ) : par.red k < par.ord := toNat_emod_lt par.ord h0 k

theorem red_bitLen (par : Par) (hok : par.Ok) (k : ℤ) : Rec.bitLen (par.red k) ≤ par.fpBits := by
  apply Rec.bitLen_le_of_lt
  have := red_lt par hok.ord_pos k
  have := hok.ord_fits
  omega

theorem bitsVal_bitsMsb (n : Nat) : bitsVal (bitsMsb n) = n := by
  unfold bitsMsb
  rw [bitsVal_low_bits, Nat.mod_eq_of_lt (Rec.lt_two_pow_bitLen n)]

theorem ladder_spec (p : G) (bits : List Bool) : ladder gops p bits = (bitsVal bits) • p := by
  have := ladder_fold p bits 0
  rwa [zero_zsmul, zero_add, one_zsmul, mul_zero, zero_add] at this

theorem exit_zero (isO : G → Bool) (hO : IsOSound isO) (p : G) (k : ℤ) (h : k = 0 ∨ isO p = true) :
    k • p = 0 := by
  rcases h with rfl | h
  · simp
  · rw [hO p h, zsmul_zero]

/-- the early exit of the routines: the neutral element, returned when the result is known to be neutral -/
theorem exit_some {c : Prop} [Decidable c] {x : G} {body : Option G} (hc : c → x = 0) (h : body = some x) :
    (if c then some (gops : Ops G).zero else body) = some x := by
  split
  · rename_i hex
    rw [hc hex]; rfl
  · exact h

theorem mulBasic_correct (isO : G → Bool) (hO : IsOSound isO) (p : G) (k : ℤ) :
    mulBasic gops isO p k = some (k • p) := by
  unfold mulBasic
  refine exit_some (exit_zero isO hO p k) ?_
  obtain ⟨ds, hds⟩ : ∃ ds, Rec.recNaf (Rec.bitLen k.natAbs + 1) k.natAbs 2 = some ds := by
    simp [Rec.recNaf]
  rw [hds, Option.map_some]
  rw [gops_zero, show [p] = tabOdd gops p (2 ^ (2 - 2)) from rfl, mulSigned_naf p _ _ 2 (le_refl _) ds hds, signed_natAbs]

theorem mulMonty_correct (isO : G → Bool) (hO : IsOSound isO) (p : G) (k : ℤ) :
    mulMonty gops isO p k = some (k • p) := by
  unfold mulMonty
  refine exit_some (exit_zero isO hO p k) ?_
  rw [ladder_spec, bitsVal_bitsMsb, signed_natAbs]

/-- the capacity of naf[RLC_FP_BITS + 1] -/
theorem recNaf_red_some (par : Par) (hok : par.Ok) (k : ℤ) (w : Nat) :
    ∃ ds, Rec.recNaf (par.fpBits + 1) (par.red k) w = some ds :=
  ⟨_, Rec.recNaf_eq_some.2 ⟨by have := red_bitLen par hok k; omega, rfl⟩⟩

theorem redNaf_correct (par : Par) (h0 : 0 < par.ord) (p : G) (hp : (par.ord : ℤ) • p = 0) (k : ℤ) (w cap : Nat)
    (hw : 2 ≤ w) (ds : List Int) (h : Rec.recNaf cap (par.red k) w = some ds) :
    mulSigned gops (tabOdd gops p (2 ^ (w - 2))) gops.zero ds = k • p := by
  rw [gops_zero, mulSigned_naf p cap _ w hw ds h, red_zsmul par h0 p hp]

theorem mulLwnaf_correct (isO : G → Bool) (hO : IsOSound isO) (par : Par) (hok : par.Ok) (hw : 2 ≤ par.width)
    (p : G) (hp : (par.ord : ℤ) • p = 0) (k : ℤ) : mulLwnaf gops isO par p k = some (k • p) := by
  unfold mulLwnaf
  refine exit_some (exit_zero isO hO p k) ?_
  obtain ⟨ds, hds⟩ := recNaf_red_some par hok k par.width
  rw [hds, Option.map_some]
  congr 1
  exact redNaf_correct par hok.ord_pos p hp k par.width _ hw ds hds

theorem mulSlide_correct (isO : G → Bool) (hO : IsOSound isO) (par : Par) (hok : par.Ok) (hw : 1 ≤ par.width)
    (p : G) (hp : (par.ord : ℤ) • p = 0) (k : ℤ) : mulSlide gops isO par p k = some (k • p) := by
  unfold mulSlide
  refine exit_some (exit_zero isO hO p k) ?_
  have hwin := (Rec.recSlw_eq_some (cap := par.fpBits + 1) (k := par.red k) (w := par.width)).2
    ⟨by have := red_bitLen par hok k; omega, rfl⟩
  rw [hwin, Option.map_some]
  congr 1
  rw [gops_zero, mulSlide_slw p _ _ par.width hw _ hwin, red_zsmul par hok.ord_pos p hp]

theorem mulLwreg_correct (isO : G → Bool) (hO : IsOSound isO) (par : Par) (hok : par.Ok) (hw : 3 ≤ par.width)
    (p : G) (hp : (par.ord : ℤ) • p = 0) (k : ℤ) : mulLwreg gops isO par p k = some (k • p) := by
  unfold mulLwreg
  refine exit_some (exit_zero isO hO p k) ?_
  simp only
  have hlt : k.natAbs % par.ord < par.ord := Nat.mod_lt _ hok.ord_pos
  have hfits := hok.ord_fits
  obtain ⟨reg, hreg⟩ : ∃ reg, Rec.recReg ((par.fpBits + 1 + (par.width - 1) - 1) / (par.width - 1) + 1)
      (k.natAbs % par.ord ||| 1) par.fpBits par.width = some reg := by
    unfold Rec.recReg
    simp only
    rw [if_neg (by
      have := Nat.div_le_div_right (c := par.width - 1)
        (show par.fpBits + (par.width - 1) - 1 ≤ par.fpBits + 1 + (par.width - 1) - 1 by omega)
      omega)]
    exact ⟨_, rfl⟩
  rw [hreg, Option.map_some, gops_zero, mulReg_reg p _ _ par.fpBits par.width (by omega) (by omega) reg hreg]
  exact congrArg some (natAbs_mod_zsmul p _ hp k)

theorem mulFixBasic_correct (par : Par) (hok : par.Ok) (p : G) (hp : (par.ord : ℤ) • p = 0) (k : ℤ) :
    mulFixBasic gops par p k = some (k • p) := by
  unfold mulFixBasic
  split
  · rename_i hk
    rw [hk, zero_zsmul]; rfl
  · congr 1
    rw [gops_zero, mulFixBasic_spec p _ _ ?_, red_zsmul par hok.ord_pos p hp]
    have := red_lt par hok.ord_pos k
    have := Rec.lt_two_pow_bitLen par.ord
    unfold Par.ordBits
    omega

theorem mulFixLwnaf_correct (par : Par) (hok : par.Ok) (hw : 2 ≤ par.depth) (p : G) (hp : (par.ord : ℤ) • p = 0) (k : ℤ) :
    mulFixLwnaf gops par p k = some (k • p) := by
  unfold mulFixLwnaf
  obtain ⟨ds, hds⟩ := recNaf_red_some par hok k par.depth
  rw [hds, Option.map_some]
  congr 1
  exact redNaf_correct par hok.ord_pos p hp k par.depth _ hw ds hds

/-! ### comb method -/

theorem combCol_eq : @combCol = @EbMul.combCol := rfl

open Relic.Lemmas.EbMul in
theorem tabCombs_getD (p : G) (l : Nat) : ∀ depth,
    (tabCombs gops p l depth).length = 2 ^ depth ∧
    ∀ w, w < 2 ^ depth → (tabCombs gops p l depth).getD w 0 = combVal l depth w • p := by
  intro depth
  induction depth with
  | zero =>
    refine ⟨rfl, fun w hw => ?_⟩
    obtain rfl : w = 0 := by simpa using hw
    simp [tabCombs, combVal]
  | succ d ih =>
    exact comb_double p l d _ _ ih.1 ih.2 (by rw [dblN_spec, Nat.mul_comm])

theorem tabCombs_spec (p : G) (l depth : Nat) :
    (tabCombs gops p l depth).length = 2 ^ depth ∧
    ∀ w, w < 2 ^ depth → (tabCombs gops p l depth).getD w 0 =
      ((List.range depth).foldl (fun (acc : ℤ) j => acc + ((w >>> j) % 2 : ℕ) * 2 ^ (j * l)) 0) • p := by
  obtain ⟨hlen, hget⟩ := tabCombs_getD p l depth
  refine ⟨hlen, fun w hw => ?_⟩
  rw [hget w hw, Relic.Lemmas.EbMul.combVal, List.sum_eq_foldl, List.foldl_map]

open Relic.Lemmas.EbMul in
theorem mulFixCombs_correct (par : Par) (hok : par.Ok) (hd : 0 < par.depth) (p : G) (hp : (par.ord : ℤ) • p = 0) (k : ℤ) :
    mulFixCombs gops par p k = some (k • p) := by
  have hk : par.red k < 2 ^ (((par.ordBits + par.depth - 1) / par.depth) * par.depth) :=
    Nat.lt_trans (red_lt par hok.ord_pos k) (Rec.lt_two_pow_ceil par.ord par.depth hd)
  unfold mulFixCombs
  simp only
  congr 1
  generalize (par.ordBits + par.depth - 1) / par.depth = l at hk
  have hstep : (fun (r : G) (i : ℕ) =>
      gops.add (gops.dbl r) ((tabCombs gops p l par.depth).getD (combCol (par.red k) l par.depth i) gops.zero))
      = fun r i => (2 : ℤ) • r + combVal l par.depth (EbMul.combCol (par.red k) l par.depth i) • p := by
    funext r i
    rw [gops_add, gops_dbl, gops_zero, combCol_eq, (tabCombs_getD p l par.depth).2 _ (combCol_lt _ l par.depth i)]
  rw [hstep, gops_zero, loop_eval, comb_total, Nat.mod_eq_of_lt hk, red_zsmul par hok.ord_pos p hp]

theorem simBasic_correct (mul : G → ℤ → Option G) (p : G) (k : ℤ) (q : G) (m : ℤ)
    (hp : mul p k = some (k • p)) (hq : mul q m = some (m • q)) :
    simBasic gops mul p k q m = some (k • p + m • q) := by
  unfold simBasic
  rw [hp, hq]
  simp only [gops_add]
  rw [add_comm]

theorem simExits_correct (isO : G → Bool) (hO : IsOSound isO) (mul : G → ℤ → Option G)
    (p : G) (k : ℤ) (q : G) (m : ℤ) (body : Option G)
    (hmp : mul p k = some (k • p)) (hmq : mul q m = some (m • q))
    (hbody : body = some (k • p + m • q)) :
    simExits gops isO mul p k q m body = some (k • p + m • q) := by
  unfold simExits
  split
  · rename_i hex
    rw [hmq, exit_zero isO hO p k hex, zero_add]
  · split
    · rename_i hex
      rw [hmp, exit_zero isO hO q m hex, add_zero]
    · exact hbody

theorem recWin_red_some (par : Par) (hok : par.Ok) (k : ℤ) (w : Nat) (hw : 0 < w) :
    ∃ ds, Rec.recWin ((par.fpBits + w - 1) / w) (par.red k) w = some ds := by
  refine ⟨_, (Rec.recWin_eq_some hw).2 ⟨?_, rfl⟩⟩
  · have h1 := red_bitLen par hok k
    have h2 : 1 ≤ par.fpBits := by
      have := hok.ord_pos
      have := hok.ord_fits
      rcases Nat.eq_zero_or_pos par.fpBits with h | h
      · rw [h] at this; omega
      · exact h
    have h3 := Nat.div_le_div_right (c := w) (show Rec.bitLen (par.red k) + w - 1 ≤ par.fpBits + w - 1 by omega)
    have h4 : 1 ≤ (par.fpBits + w - 1) / w := by
      rw [Nat.le_div_iff_mul_le hw]; omega
    omega

theorem simTrick_correct (isO : G → Bool) (hO : IsOSound isO) (par : Par) (hok : par.Ok) (hw : 2 ≤ par.width)
    (mul : G → ℤ → Option G) (p : G) (k : ℤ) (q : G) (m : ℤ)
    (hp : (par.ord : ℤ) • p = 0) (hq : (par.ord : ℤ) • q = 0)
    (hmp : mul p k = some (k • p)) (hmq : mul q m = some (m • q)) :
    simTrick gops isO par mul p k q m = some (k • p + m • q) := by
  unfold simTrick
  refine simExits_correct isO hO mul p k q m _ hmp hmq ?_
  have hw' : 0 < par.width / 2 := by omega
  obtain ⟨w0, h0⟩ := recWin_red_some par hok k _ hw'
  obtain ⟨w1, h1⟩ := recWin_red_some par hok m _ hw'
  simp only [h0, h1]
  congr 1
  rw [gops_zero, simTrick_win p q _ _ _ _ hw' w0 w1 h0 h1, red_zsmul par hok.ord_pos p hp,
    red_zsmul par hok.ord_pos q hq]

theorem redInter_correct (par : Par) (h0 : 0 < par.ord) (p q : G) (hp : (par.ord : ℤ) • p = 0)
    (hq : (par.ord : ℤ) • q = 0) (k m : ℤ) (wp wq : Nat) (hwp : 2 ≤ wp) (hwq : 2 ≤ wq) (cap : Nat) (n0 n1 : List Int)
    (hn0 : Rec.recNaf cap (par.red k) wp = some n0) (hn1 : Rec.recNaf cap (par.red m) wq = some n1) :
    MulAlg.simInter gops (tabOdd gops p (2 ^ (wp - 2))) (tabOdd gops q (2 ^ (wq - 2))) gops.zero n0 n1
      = k • p + m • q := by
  rw [gops_zero, simInter_naf p q cap _ _ wp wq hwp hwq n0 n1 hn0 hn1, red_zsmul par h0 p hp, red_zsmul par h0 q hq]

theorem simInter_correct (isO : G → Bool) (hO : IsOSound isO) (par : Par) (hok : par.Ok) (hw : 2 ≤ par.width)
    (mul : G → ℤ → Option G) (p : G) (k : ℤ) (q : G) (m : ℤ)
    (hp : (par.ord : ℤ) • p = 0) (hq : (par.ord : ℤ) • q = 0)
    (hmp : mul p k = some (k • p)) (hmq : mul q m = some (m • q)) :
    simInter gops isO par mul p k q m = some (k • p + m • q) := by
  unfold simInter
  refine simExits_correct isO hO mul p k q m _ hmp hmq ?_
  obtain ⟨n0, h0⟩ := recNaf_red_some par hok k par.width
  obtain ⟨n1, h1⟩ := recNaf_red_some par hok m par.width
  simp only [h0, h1]
  congr 1
  exact redInter_correct par hok.ord_pos p q hp hq k m _ _ hw hw _ n0 n1 h0 h1

theorem simJoint_correct (isO : G → Bool) (hO : IsOSound isO) (par : Par) (hok : par.Ok)
    (mul : G → ℤ → Option G) (p : G) (k : ℤ) (q : G) (m : ℤ)
    (hp : (par.ord : ℤ) • p = 0) (hq : (par.ord : ℤ) • q = 0)
    (hmp : mul p k = some (k • p)) (hmq : mul q m = some (m • q)) :
    simJoint gops isO par mul p k q m = some (k • p + m • q) := by
  unfold simJoint
  refine simExits_correct isO hO mul p k q m _ hmp hmq ?_
  obtain ⟨⟨j0, j1⟩, hj⟩ : ∃ js, Rec.recJsf (2 * (par.fpBits + 1)) (par.red k) (par.red m) = some js := by
    unfold Rec.recJsf
    rw [if_neg (by have := red_bitLen par hok k; have := red_bitLen par hok m; omega)]
    exact ⟨_, rfl⟩
  rw [hj, Option.map_some]
  congr 1
  simp only
  rw [simJoint_jsf p q _ _ _ j0 j1 hj, red_zsmul par hok.ord_pos p hp, red_zsmul par hok.ord_pos q hq]

/-- ed_mul_sim_gen's generator-table branch -/
theorem simPlainGen_correct (par : Par) (hok : par.Ok) (hw : 2 ≤ par.width) (hd : 2 ≤ par.depth)
    (g : G) (k : ℤ) (q : G) (m : ℤ) (hg : (par.ord : ℤ) • g = 0) (hq : (par.ord : ℤ) • q = 0) :
    simPlainGen gops par g k q m = some (k • g + m • q) := by
  unfold simPlainGen
  obtain ⟨n0, h0⟩ := recNaf_red_some par hok k par.depth
  obtain ⟨n1, h1⟩ := recNaf_red_some par hok m par.width
  simp only [h0, h1]
  congr 1
  exact redInter_correct par hok.ord_pos g q hg hq k m _ _ hd hw _ n0 n1 h0 h1

theorem mulGen_correct (fix : G → ℤ → Option G) (g : G) (k : ℤ) (hfix : fix g k = some (k • g)) :
    mulGen gops fix g k = some (k • g) := by
  unfold mulGen
  split
  · rename_i h; subst h; simp
  · exact hfix

/-- the early exits of ed_mul_sim_gen: k = 0 ⇒ ed_mul(Q, m); m = 0 ∨ Q = O ⇒ ed_mul_gen(k) -/
theorem simGen_correct (isO : G → Bool) (hO : IsOSound isO) (mul fix : G → ℤ → Option G) (sim : G → ℤ → G → ℤ → Option G)
    (plain : Option (G → ℤ → G → ℤ → Option G)) (g : G) (k : ℤ) (q : G) (m : ℤ)
    (hmul : mul q m = some (m • q)) (hfix : fix g k = some (k • g)) (hsim : sim g k q m = some (k • g + m • q))
    (hplain : ∀ f, plain = some f → f g k q m = some (k • g + m • q)) :
    simGen gops isO mul fix sim plain g k q m = some (k • g + m • q) := by
  unfold simGen
  split
  · rename_i h; subst h; rw [hmul]; simp
  · split
    · rename_i hex
      rw [mulGen_correct fix g k hfix, exit_zero isO hO q m hex, add_zero]
    · split
      · rename_i f; exact hplain f rfl
      · exact hsim

/-! ### ed_mul_fix_combd and ed_mul_sim_lot -/

theorem mulFixCombd_correct (par : Par) (hok : par.Ok) (hd : 0 < par.depth) (p : G) (hp : (par.ord : ℤ) • p = 0) (k : ℤ) :
    mulFixCombd gops par p k = some (k • p) := by
  unfold mulFixCombd
  simp only
  congr 1
  have hc : par.ord < 2 ^ (((par.ordBits + par.depth - 1) / par.depth) * par.depth) := Rec.lt_two_pow_ceil par.ord par.depth hd
  generalize (par.ordBits + par.depth - 1) / par.depth = dd at hc
  have hdd : 0 < dd := Nat.pos_of_ne_zero fun h0 => by
    have := hok.ord_pos
    rw [h0, Nat.zero_mul] at hc
    omega
  exact Relic.Lemmas.EpComb.mulCombd_correct p par.ord hok.ord_pos hp k dd ((dd + 1) / 2) par.depth (by omega) (by omega)
    (by omega) (by omega)

theorem le_foldl_max : ∀ (xs : List Nat) (a : Nat), a ≤ xs.foldl max a ∧ ∀ x ∈ xs, x ≤ xs.foldl max a := by
  intro xs
  induction xs with
  | nil => intro a; simp
  | cons y ys ih =>
    intro a
    obtain ⟨h1, h2⟩ := ih (max a y)
    refine ⟨by simp only [List.foldl_cons]; omega, ?_⟩
    intro x hx
    simp only [List.foldl_cons]
    rcases List.mem_cons.1 hx with rfl | hx
    · omega
    · exact h2 x hx

/-- the binary NAF ed_mul_sim_lot computes for the scalar k -/
def nafOf (k : ℤ) : List ℤ := Rec.nafOut 2 (Rec.bitLen k.natAbs + 2) k.natAbs

/-- non-vacuity: the routines run on the integers (a computation, not an instance of the theorems: no r > 0 kills 1 ∈ ℤ) —
    the constants of the 255-bit build with a toy order 7 and a scalar longer than the order: −153 mod 7 = 1 -/
example : mulLwnaf (gops : Ops ℤ) (fun x => x == 0) ⟨255, 4, 5, 7⟩ 1 (-153) = some 1 := by decide

end Relic.Model.EdMul
