/-
Exponentiation loops over any carrier.  `R x n` reads "x stands for the n-th power (multiple) of the base": canonical residues
(x = a^n % p), Montgomery residues (`NtMxp.Rep M x (a^n)`), points (x = n • P).  The bit and ladder loops need that the carrier's
multiplication adds and its squaring doubles what the operands stand for (`Carries`); the window scan after bn_rec_slw is stated
for any step function (`slw_loop`).
-/
import RelicVerif.Lemmas.Rec

namespace Relic.Lemmas.PowLoop
open Relic.Model.Rec

structure Carries {α : Type} (mul : α → α → α) (sqr : α → α) (R : α → Nat → Prop) : Prop where
  mul : ∀ {x y n k}, R x n → R y k → R (mul x y) (n + k)
  sqr : ∀ {x n}, R x n → R (sqr x) (2 * n)

theorem shr_step (b i : Nat) : b >>> i = 2 * (b >>> (i + 1)) + (b >>> i) % 2 := by
  rw [Nat.shiftRight_succ]; omega

namespace Carries
variable {α : Type} {mul : α → α → α} {sqr : α → α} {R : α → Nat → Prop} (h : Carries mul sqr R) {x y : α} {n k m : Nat}
include h

theorem mul_eq (hx : R x n) (hy : R y k) (e : n + k = m) : R (mul x y) m := e ▸ h.mul hx hy

theorem sqr_eq (hx : R x n) (e : 2 * n = m) : R (sqr x) m := e ▸ h.sqr hx

theorem bit_step {t c : α} (ht : R t 1) (b i : Nat) (hc : R c (b >>> (i + 1))) :
    R (if (b >>> i) % 2 = 1 then mul (sqr c) t else sqr c) (b >>> i) := by
  have hs := shr_step b i
  split
  · exact h.mul_eq (h.sqr hc) ht (by omega)
  · exact h.sqr_eq hc (by omega)

theorem ladder_step {s0 s1 : α} (b i : Nat) (h0 : R s0 (b >>> (i + 1))) (h1 : R s1 (b >>> (i + 1) + 1)) :
    if (b >>> i) % 2 = 1 then R (mul s0 s1) (b >>> i) ∧ R (sqr s1) (b >>> i + 1)
    else R (sqr s0) (b >>> i) ∧ R (mul s0 s1) (b >>> i + 1) ∧ R (mul s1 s0) (b >>> i + 1) := by
  have hs := shr_step b i
  split
  · exact ⟨h.mul_eq h0 h1 (by omega), h.sqr_eq h1 (by omega)⟩
  · exact ⟨h.sqr_eq h0 (by omega), h.mul_eq h0 h1 (by omega), h.mul_eq h1 h0 (by omega)⟩

end Carries

theorem slw_loop {α : Type} (R : α → Nat → Prop) (step : α → Int → α) (cap k w : Nat) (hw : 0 < w)
    (h0 : ∀ r e, R r e → R (step r 0) (2 * e))
    (h1 : ∀ r e (d : Nat), d % 2 = 1 → d < 2 ^ w → R r e → R (step r d) (e * 2 ^ bitLen d + d))
    (ds : List Int) (h : recSlw cap k w = some ds) (r0 : α) (hr0 : R r0 0) : R (ds.foldl step r0) k := by
  obtain ⟨hv, hd, _⟩ := recSlw_spec cap k w hw ds h
  have := List.foldl_rel (r := fun r (e : Int) => ∃ n : Nat, e = n ∧ R r n) (f := step)
    (g := fun acc d => if d = 0 then 2 * acc else acc * 2 ^ (bitLen d.toNat) + d) (l := ds) (a := r0) (b := 0) ⟨0, rfl, hr0⟩
    (fun d hdm r e ⟨n, hn, hr⟩ => by
      subst hn
      rcases hd d hdm with rfl | ⟨hodd, hpos, hlt⟩
      · exact ⟨2 * n, by simp, h0 r n hr⟩
      · obtain ⟨dn, rfl⟩ := Int.eq_ofNat_of_zero_le (Int.le_of_lt hpos)
        refine ⟨n * 2 ^ bitLen dn + dn, ?_, h1 r n dn (by omega) (by exact_mod_cast hlt) hr⟩
        rw [if_neg (by omega), Int.toNat_natCast]
        simp)
  obtain ⟨n, hn, hr⟩ := this
  have : n = k := by
    have e : ((n : Nat) : Int) = k := by rw [← hn, ← hv]; rfl
    exact_mod_cast e
  exact this ▸ hr

/-- a window d < 2^w reads entry d / 2 of a table of 2^(w−1) entries -/
theorem window_half_lt {w : Nat} (hw : 0 < w) {d : Nat} (h : d < 2 ^ w) : d / 2 < 2 ^ (w - 1) := by
  have := two_pow_eq w hw
  omega

end Relic.Lemmas.PowLoop
