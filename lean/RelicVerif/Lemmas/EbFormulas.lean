/-
The point formulas of Model/Eb.lean (eb_add_basic, eb_add_projc (mixed and general López-Dahab), eb_dbl_basic, eb_dbl_projc,
eb_neg_*, eb_hlv, eb_norm, eb_frb) compute the affine group law of y² + xy = x³ + a x² + b over an arbitrary field of
characteristic two, including the dispatch of the exceptional cases (P = Q → doubling, P = -Q → identity, doubling of the
point of order two → identity).
An operand is (xZ, yZ², Z) for the affine point (x, y) it denotes (`Wf.rep`), a result denotes (x3, y3) when X3 = x3·Z3 and
Y3 = y3·Z3² (`projc_affine`); the `opt_a` class and the coordinate system of the operand are normalised once per routine
(`_optA`, `_coord`).  With the slope λ as a variable (λ·(x1 + x2) = y1 + y2) what is left are polynomial identities in a few
variables: `ring` where they hold in every commutative ring, `linear_combination` with an explicit multiple of 2 = 0 where
characteristic two is used.
-/
import Mathlib.Algebra.Field.Defs
import Mathlib.Algebra.Field.Basic
import Mathlib.Algebra.CharP.Two
import Mathlib.Tactic.FieldSimp
import Mathlib.Tactic.Ring
import Mathlib.Tactic.LinearCombination
import Mathlib.Tactic.SplitIfs
import RelicVerif.Model.Eb

namespace Relic.Lemmas.EbFormulas
open Relic.Model.Eb

set_option linter.unusedSectionVars false
set_option linter.unusedVariables false

variable {F : Type} [Field F] [CharP F 2] [DecidableEq F]

/-- the operations of the field; slv / srt / trc are parameters (only eb_hlv uses them) -/
def fieldOps (slv srt : F → F) (trc : F → Bool) : BOps F :=
  { zero := 0, one := 1, add := (· + ·), mul := (· * ·), sqr := fun a => a * a, inv := fun a => a⁻¹,
    isZero := fun a => decide (a = 0), slv := slv, srt := srt, trc := trc }

/-! the affine law: the formulas of Spec/BinCurve.lean written over the abstract field (no theorem relates the two carriers) -/
def chordL (x1 y1 x2 y2 : F) : F := (y1 + y2) / (x1 + x2)
def chordX (a x1 y1 x2 y2 : F) : F := chordL x1 y1 x2 y2 ^ 2 + chordL x1 y1 x2 y2 + x1 + x2 + a
def chordY (a x1 y1 x2 y2 : F) : F := chordL x1 y1 x2 y2 * (x1 + chordX a x1 y1 x2 y2) + chordX a x1 y1 x2 y2 + y1
def tangL (x1 y1 : F) : F := x1 + y1 / x1
def tangX (a x1 y1 : F) : F := tangL x1 y1 ^ 2 + tangL x1 y1 + a
def tangY (a x1 y1 : F) : F := x1 ^ 2 + (tangL x1 y1 + 1) * tangX a x1 y1

theorem tangL_mul {x : F} (hx : x ≠ 0) (y : F) : tangL x y * x = x ^ 2 + y := by
  rw [tangL, add_mul, div_mul_cancel₀ _ hx, sq]

theorem chordL_mul {x1 x2 : F} (hs : x1 + x2 ≠ 0) (y1 y2 : F) : chordL x1 y1 x2 y2 * (x1 + x2) = y1 + y2 :=
  div_mul_cancel₀ _ hs

/-- the affine point a representation denotes (z ≠ 0): López-Dahab x = X/Z, y = Y/Z²; λ-representation y = (x + λ) x -/
def affX (r : Pt F) : F := match r.coord with
  | .basic => r.x
  | .projc => r.x / r.z
  | .halve => r.x
def affY (r : Pt F) : F := match r.coord with
  | .basic => r.y
  | .projc => r.y / r.z ^ 2
  | .halve => (r.x + r.y) * r.x

/-- the `opt_a` class describes the coefficient -/
def OptOk (cv : CurveB F) : Prop := (cv.optA = .zero → cv.a = 0) ∧ (cv.optA = .one → cv.a = 1)

/-- a well-formed operand: not the identity, affine points carry z = 1, and not in λ-representation (the routines below read
    (x, y, z) as López-Dahab coordinates whenever the flag is not BASIC) -/
def Wf (p : Pt F) : Prop := p.z ≠ 0 ∧ (p.coord = .basic → p.z = 1) ∧ p.coord ≠ .halve

theorem add_ne_zero2 {a b : F} (h : a ≠ b) : a + b ≠ 0 := fun h0 => h (CharTwo.add_eq_zero.mp h0)

variable (slv srt : F → F) (trc : F → Bool)

theorem addA_eq (cv : CurveB F) (hcv : OptOk cv) (t : F) : addA (fieldOps slv srt trc) cv t = t + cv.a := by
  obtain ⟨a, b, o⟩ := cv
  obtain ⟨h0, h1⟩ := hcv
  cases o <;> simp only [addA, fieldOps]
  · simp only [forall_const] at h0; rw [h0, add_zero]
  · simp only [forall_const] at h1; rw [h1]

theorem dblBasicImp_spec (cv : CurveB F) (hcv : OptOk cv) (p : Pt F) (hx : p.x ≠ 0) :
    let r := dblBasicImp (fieldOps slv srt trc) cv p
    r.coord = .basic ∧ r.z = p.z ∧ r.x = tangX cv.a p.x p.y ∧ r.y = tangY cv.a p.x p.y := by
  have hl := tangL_mul hx p.y
  have e : (p.x)⁻¹ * p.y + p.x = tangL p.x p.y := by rw [tangL, div_eq_inv_mul, add_comm]
  simp only [dblBasicImp, addA_eq slv srt trc cv hcv]
  simp only [fieldOps, tangX, tangY, e]
  generalize tangL p.x p.y = l at hl
  exact ⟨trivial, trivial, by ring, by linear_combination hl + p.y * (CharTwo.two_eq_zero : (2 : F) = 0)⟩

theorem addBasicImp_chord (cv : CurveB F) (hcv : OptOk cv) (p q : Pt F) (hx : p.x ≠ q.x) :
    let r := addBasicImp (fieldOps slv srt trc) cv p q
    r.coord = .basic ∧ r.z = p.z ∧ r.x = chordX cv.a p.x p.y q.x q.y ∧ r.y = chordY cv.a p.x p.y q.x q.y := by
  have hs : p.x + q.x ≠ 0 := add_ne_zero2 hx
  simp only [addBasicImp, addA_eq slv srt trc cv hcv]
  simp only [fieldOps, decide_eq_true_eq, if_neg hs, chordX, chordY, chordL, div_eq_mul_inv]
  exact ⟨trivial, trivial, by ring, by ring⟩

theorem addBasicImp_same (cv : CurveB F) (p q : Pt F) (hx : p.x = q.x) (hy : p.y = q.y) :
    addBasicImp (fieldOps slv srt trc) cv p q = dblBasic (fieldOps slv srt trc) cv p := by
  have h1 : p.x + q.x = 0 := CharTwo.add_eq_zero.mpr hx
  have h0 : p.y + q.y = 0 := CharTwo.add_eq_zero.mpr hy
  simp only [addBasicImp]
  simp only [fieldOps, h1, h0, decide_true, if_true]

/-- on the curve: Q = -P -/
theorem addBasicImp_opp (cv : CurveB F) (p q : Pt F) (hx : p.x = q.x) (hy : p.y ≠ q.y) :
    isInfty (fieldOps slv srt trc) (addBasicImp (fieldOps slv srt trc) cv p q) = true := by
  have h1 : p.x + q.x = 0 := CharTwo.add_eq_zero.mpr hx
  have h0 : p.y + q.y ≠ 0 := add_ne_zero2 hy
  simp only [addBasicImp]
  simp only [fieldOps, h1, decide_true, if_true, decide_eq_true_eq, if_neg h0, isInfty, infty]

theorem negBasic_spec (p : Pt F) (hz : p.z ≠ 0) :
    let r := negBasic (fieldOps slv srt trc) p
    r.coord = .basic ∧ r.z = p.z ∧ r.x = p.x ∧ r.y = p.x + p.y := by
  simp only [negBasic, isInfty, fieldOps, decide_eq_true_eq, if_neg hz]
  exact ⟨trivial, trivial, trivial, trivial⟩

theorem dblBasic_order_two (cv : CurveB F) (p : Pt F) (hx : p.x = 0) :
    isInfty (fieldOps slv srt trc) (dblBasic (fieldOps slv srt trc) cv p) = true := by
  simp [dblBasic, isInfty, fieldOps, infty, hx]

theorem dblBasic_spec (cv : CurveB F) (hcv : OptOk cv) (p : Pt F) (hz : p.z ≠ 0) (hx : p.x ≠ 0) :
    let r := dblBasic (fieldOps slv srt trc) cv p
    r.coord = .basic ∧ r.z = p.z ∧ r.x = tangX cv.a p.x p.y ∧ r.y = tangY cv.a p.x p.y := by
  have h : dblBasic (fieldOps slv srt trc) cv p = dblBasicImp (fieldOps slv srt trc) cv p := by
    simp [dblBasic, isInfty, fieldOps, hz, hx]
  rw [h]
  exact dblBasicImp_spec slv srt trc cv hcv p hx

theorem Wf.rep {p : Pt F} (hp : Wf p) : ∃ x y Z c, p = ⟨x * Z, y * Z ^ 2, Z, c⟩ ∧ affX p = x ∧ affY p = y ∧ Z ≠ 0 ∧
    (c = .basic ∧ Z = 1 ∨ c = .projc) := by
  obtain ⟨X, Y, Z, c⟩ := p
  obtain ⟨hz, hb, hh⟩ := hp
  cases c
  · obtain rfl : Z = 1 := hb rfl
    exact ⟨X, Y, 1, _, by rw [mul_one, one_pow, mul_one], rfl, rfl, hz, .inl ⟨rfl, rfl⟩⟩
  · exact ⟨X / Z, Y / Z ^ 2, Z, _, by rw [div_mul_cancel₀ X hz, div_mul_cancel₀ Y (pow_ne_zero 2 hz)], rfl, rfl, hz, .inr rfl⟩
  · exact absurd rfl hh

/-- the second identity may use the first: Y3 is computed from X3 -/
theorem projc_affine {X Y Z x y : F} (hZ : Z ≠ 0) (hX : X = x * Z) (hY : X = x * Z → Y = y * Z ^ 2) :
    let r : Pt F := ⟨X, Y, Z, .projc⟩
    r.z ≠ 0 ∧ affX r = x ∧ affY r = y :=
  ⟨hZ, by rw [affX, hX, mul_div_cancel_right₀ _ hZ], by rw [affY, hY hX, mul_div_cancel_right₀ _ (pow_ne_zero 2 hZ)]⟩

/-- the `opt_a` class only selects a cheaper way of multiplying by a: every class computes what RLC_TINY computes -/
theorem dblProjcImp_optA (cv : CurveB F) (hcv : OptOk cv) (p : Pt F) :
    dblProjcImp (fieldOps slv srt trc) cv p = dblProjcImp (fieldOps slv srt trc) ⟨cv.a, cv.b, .tiny⟩ p := by
  obtain ⟨a, b, o⟩ := cv
  cases o
  · obtain rfl : a = 0 := hcv.1 rfl
    simp only [dblProjcImp, fieldOps, mul_zero, zero_add]
  · obtain rfl : a = 1 := hcv.2 rfl
    simp only [dblProjcImp, fieldOps, mul_one]
  · rfl
  · rfl

theorem dblProjc_optA (cv : CurveB F) (hcv : OptOk cv) (p : Pt F) :
    dblProjc (fieldOps slv srt trc) cv p = dblProjc (fieldOps slv srt trc) ⟨cv.a, cv.b, .tiny⟩ p := by
  rw [dblProjc, dblProjcImp_optA slv srt trc cv hcv, dblProjc]

theorem addProjcMix_optA (cv : CurveB F) (hcv : OptOk cv) (p q : Pt F) :
    addProjcMix (fieldOps slv srt trc) cv p q = addProjcMix (fieldOps slv srt trc) ⟨cv.a, cv.b, .tiny⟩ p q := by
  obtain ⟨a, b, o⟩ := cv
  have hd := dblProjc_optA slv srt trc _ hcv
  -- after the rewriting the two sides differ in the `Decidable` instances of the tests only
  cases o
  · obtain rfl : a = 0 := hcv.1 rfl
    simp only [addProjcMix, hd]
    simp only [fieldOps, mul_zero, add_zero]
    congr 1
  · obtain rfl : a = 1 := hcv.2 rfl
    simp only [addProjcMix, hd]
    simp only [fieldOps, mul_one]
    congr 1
  · rfl
  · simp only [addProjcMix, hd]
    simp only [fieldOps, mul_comm _ a]
    congr 1

theorem dblProjcImp_coord (cv : CurveB F) (p : Pt F) (hp : Wf p) :
    dblProjcImp (fieldOps slv srt trc) cv p = dblProjcImp (fieldOps slv srt trc) cv { p with coord := .projc } := by
  obtain ⟨x, y, Z, c, rfl, -, -, -, ⟨rfl, rfl⟩ | rfl⟩ := hp.rep
  · simp only [dblProjcImp, fieldOps, if_neg (not_not.mpr rfl), if_pos (by decide : Coord.projc ≠ .basic), mul_one]
  · rfl

theorem dblProjc_coord (cv : CurveB F) (p : Pt F) (hp : Wf p) :
    dblProjc (fieldOps slv srt trc) cv p = dblProjc (fieldOps slv srt trc) cv { p with coord := .projc } := by
  rw [dblProjc, dblProjc, dblProjcImp_coord slv srt trc cv p hp]
  rfl

theorem addProjcMix_coord (cv : CurveB F) (p q : Pt F) (hp : Wf p) :
    addProjcMix (fieldOps slv srt trc) cv p q = addProjcMix (fieldOps slv srt trc) cv { p with coord := .projc } q := by
  have hd := dblProjc_coord slv srt trc cv p hp
  obtain ⟨x, y, Z, c, rfl, -, -, -, ⟨rfl, rfl⟩ | rfl⟩ := hp.rep
  · simp only [addProjcMix, hd]
    simp only [fieldOps, if_neg (not_not.mpr rfl), if_pos (by decide : Coord.projc ≠ .basic), mul_one, one_mul, one_pow,
      add_comm x, add_comm y]
  · rfl

/-- doubling, x ≠ 0. With λ = x + y/x the operand is (xZ, (λx − x²)Z², Z); the two identities then hold in any commutative ring -/
theorem dblProjcImp_spec (cv : CurveB F) (hcv : OptOk cv) (p : Pt F) (hp : Wf p) (hx : affX p ≠ 0) :
    let r := dblProjcImp (fieldOps slv srt trc) cv p
    r.coord = .projc ∧ r.z ≠ 0 ∧ affX r = tangX cv.a (affX p) (affY p) ∧ affY r = tangY cv.a (affX p) (affY p) := by
  obtain ⟨x, y, Z, c, rfl, hax, hay, hz, -⟩ := hp.rep
  rw [hax] at hx
  have hl := tangL_mul hx y
  simp only [hax, hay, tangX, tangY]
  generalize tangL x y = l at hl ⊢
  obtain rfl : y = l * x - x ^ 2 := by linear_combination -hl
  have hxz : x * Z ≠ 0 := mul_ne_zero hx hz
  rw [dblProjcImp_coord slv srt trc cv _ hp, dblProjcImp_optA slv srt trc cv hcv]
  simp only [dblProjcImp, fieldOps, if_pos (by decide : Coord.projc ≠ .basic)]
  exact ⟨trivial, projc_affine (mul_ne_zero (mul_ne_zero hxz hz) (mul_ne_zero hxz hz)) (by ring) (fun _ => by ring)⟩

theorem dblProjcImp_order_two (cv : CurveB F) (p : Pt F) (hp : Wf p) (hx : affX p = 0) :
    (dblProjcImp (fieldOps slv srt trc) cv p).z = 0 := by
  obtain ⟨x, y, Z, c, rfl, hax, -, -, -⟩ := hp.rep
  obtain rfl : x = 0 := hax.symm.trans hx
  rw [dblProjcImp_coord slv srt trc cv _ hp]
  simp only [dblProjcImp, fieldOps, if_pos (by decide : Coord.projc ≠ .basic), zero_mul]

/-- mixed addition (q affine), P ≠ ±Q. With the chord slope λ, q = (x2, λ(x + x2) − y) -/
theorem addProjcMix_chord (cv : CurveB F) (hcv : OptOk cv) (p q : Pt F) (hp : Wf p) (hq : q.coord = .basic)
    (hx : affX p ≠ q.x) :
    let r := addProjcMix (fieldOps slv srt trc) cv p q
    r.coord = .projc ∧ r.z ≠ 0 ∧ affX r = chordX cv.a (affX p) (affY p) q.x q.y ∧
      affY r = chordY cv.a (affX p) (affY p) q.x q.y := by
  obtain ⟨x, y, Z, c, rfl, hax, hay, hz, -⟩ := hp.rep
  obtain ⟨x2, y2, qz, qc⟩ := q
  rw [hax] at hx
  have h2 : (2 : F) = 0 := CharTwo.two_eq_zero
  have hs : x + x2 ≠ 0 := add_ne_zero2 hx
  have hl := chordL_mul hs y y2
  simp only [hax, hay, chordX, chordY]
  generalize chordL x y x2 y2 = l at hl ⊢
  obtain rfl : y2 = l * (x + x2) - y := by linear_combination -hl
  rw [addProjcMix_coord slv srt trc cv _ _ hp, addProjcMix_optA slv srt trc cv hcv]
  have ht : Z * x2 + x * Z ≠ 0 := by
    rw [show Z * x2 + x * Z = (x + x2) * Z by ring]
    exact mul_ne_zero hs hz
  simp only [addProjcMix, fieldOps, if_pos (by decide : Coord.projc ≠ .basic), decide_eq_true_eq, if_neg ht]
  exact ⟨trivial, projc_affine (mul_ne_zero (mul_ne_zero hz ht) (mul_ne_zero hz ht)) (by ring)
    (fun _ => by linear_combination (Z ^ 2 * (x + x2)) ^ 4 * (l * x2 + x2 - y) * h2)⟩

theorem addProjcMix_same (cv : CurveB F) (p q : Pt F) (hp : Wf p) (hq : q.coord = .basic)
    (hx : affX p = q.x) (hy : affY p = q.y) :
    addProjcMix (fieldOps slv srt trc) cv p q = { dblProjc (fieldOps slv srt trc) cv p with coord := .projc } := by
  obtain ⟨x, y, Z, c, rfl, hax, hay, -, -⟩ := hp.rep
  obtain ⟨x2, y2, qz, qc⟩ := q
  obtain rfl : x = x2 := hax.symm.trans hx
  obtain rfl : y = y2 := hay.symm.trans hy
  have h1 : Z * x + x * Z = 0 := by rw [mul_comm, CharTwo.add_self_eq_zero]
  have h0 : Z * Z * y + y * Z ^ 2 = 0 := by rw [sq, mul_comm, CharTwo.add_self_eq_zero]
  rw [addProjcMix_coord slv srt trc cv _ _ hp, dblProjc_coord slv srt trc cv _ hp]
  simp only [addProjcMix, fieldOps, if_pos (by decide : Coord.projc ≠ .basic), h1, h0, decide_true, if_true]

theorem addProjcMix_opp (cv : CurveB F) (p q : Pt F) (hp : Wf p) (hq : q.coord = .basic)
    (hx : affX p = q.x) (hy : affY p ≠ q.y) :
    isInfty (fieldOps slv srt trc) (addProjcMix (fieldOps slv srt trc) cv p q) = true := by
  obtain ⟨x, y, Z, c, rfl, hax, hay, hz, -⟩ := hp.rep
  obtain ⟨x2, y2, qz, qc⟩ := q
  obtain rfl : x = x2 := hax.symm.trans hx
  rw [hay] at hy
  have hs : y + y2 ≠ 0 := add_ne_zero2 hy
  have h1 : Z * x + x * Z = 0 := by rw [mul_comm, CharTwo.add_self_eq_zero]
  have h0 : Z * Z * y2 + y * Z ^ 2 ≠ 0 := by
    rw [show Z * Z * y2 + y * Z ^ 2 = (y + y2) * Z ^ 2 by ring]
    exact mul_ne_zero hs (pow_ne_zero 2 hz)
  rw [addProjcMix_coord slv srt trc cv _ _ hp]
  simp only [addProjcMix, fieldOps, if_pos (by decide : Coord.projc ≠ .basic), h1, decide_true, if_true,
    decide_eq_true_eq, if_neg h0, isInfty, infty]

/-- two points with different x on the same curve: the chord slope l parametrises y1, y2 -/
theorem chord_param (a b x1 y1 x2 y2 : F) (hx : x1 ≠ x2)
    (h1 : y1 ^ 2 + x1 * y1 = x1 ^ 3 + a * x1 ^ 2 + b) (h2 : y2 ^ 2 + x2 * y2 = x2 ^ 3 + a * x2 ^ 2 + b) :
    ∃ l, chordL x1 y1 x2 y2 = l ∧ y2 = l * (x1 + x2) + y1 ∧
      y1 = l ^ 2 * (x1 + x2) + l * x2 + x1 ^ 2 + x1 * x2 + x2 ^ 2 + a * (x1 + x2) := by
  have hs : x1 + x2 ≠ 0 := add_ne_zero2 hx
  have h2' : (2 : F) = 0 := CharTwo.two_eq_zero
  have hl := chordL_mul hs y1 y2
  generalize chordL x1 y1 x2 y2 = l at hl
  obtain rfl : y2 = l * (x1 + x2) + y1 := by linear_combination -hl - y1 * h2'
  refine ⟨l, rfl, rfl, ?_⟩
  -- the difference of the two curve equations, divided by x1 + x2
  have hm : (x1 + x2) * (y1 - (l ^ 2 * (x1 + x2) + l * x2 + x1 ^ 2 + x1 * x2 + x2 ^ 2 + a * (x1 + x2))) = 0 := by
    linear_combination h1 - h2 + (l * (x1 + x2) * y1 + x2 * y1 - x2 * ((a + x1) * (x1 + x2) + x2 ^ 2)) * h2'
  exact sub_eq_zero.mp ((mul_eq_zero.mp hm).resolve_left hs)

/-- general addition (q projective), P ≠ ±Q.
    The two on-curve hypotheses `hpon`, `hqon` are needed: eb_add_projc_imp (general case) computes
    x3 = A * (D + H) + B * (C + G) (comment in relic_eb_add.c; A = X1 Z2, B = X2 Z1, C = A², D = B², G = Y1 Z2², H = Y2 Z1²),
    which does not mention the coefficient a and agrees with the chord law only for two points of the same curve. Without them: F = GF(2), a = 0, p = (0, 0, 1) and q = (1, 0, 1) (both PROJC): the routine
    returns X3/Z3 = 0 while chordX 0 0 0 1 0 = 1. -/
theorem addProjcImp_chord (cv : CurveB F) (hcv : OptOk cv) (p q : Pt F) (hp : Wf p) (hq : Wf q) (hqc : q.coord = .projc)
    (hx : affX p ≠ affX q)
    (hpon : affY p ^ 2 + affX p * affY p = affX p ^ 3 + cv.a * affX p ^ 2 + cv.b)
    (hqon : affY q ^ 2 + affX q * affY q = affX q ^ 3 + cv.a * affX q ^ 2 + cv.b) :
    let r := addProjcImp (fieldOps slv srt trc) cv p q
    r.coord = .projc ∧ r.z ≠ 0 ∧ affX r = chordX cv.a (affX p) (affY p) (affX q) (affY q) ∧
      affY r = chordY cv.a (affX p) (affY p) (affX q) (affY q) := by
  obtain ⟨l, hl, hy2, hy1⟩ := chord_param _ _ _ _ _ _ hx hpon hqon
  simp only [chordX, chordY, hl]
  clear hl hpon hqon
  obtain ⟨x1, y1, Z1, c, rfl, hax1, hay1, hz1, -⟩ := hp.rep
  obtain ⟨x2, y2, Z2, c2, rfl, hax2, hay2, hz2, -⟩ := hq.rep
  simp only [hax1, hay1, hax2, hay2] at hx hy1 hy2 ⊢
  obtain rfl : c2 = .projc := hqc
  have h2 : (2 : F) = 0 := CharTwo.two_eq_zero
  have hz : Z1 * Z2 ≠ 0 := mul_ne_zero hz1 hz2
  have hs : x1 + x2 ≠ 0 := add_ne_zero2 hx
  have ht : x1 * Z1 * Z2 + x2 * Z2 * Z1 ≠ 0 := by
    rw [show x1 * Z1 * Z2 + x2 * Z2 * Z1 = (x1 + x2) * (Z1 * Z2) by ring]
    exact mul_ne_zero hs hz
  have key : ∀ rz : F, rz = (Z1 * Z2) ^ 3 * (x1 + x2) ^ 2 → rz ≠ 0 := fun rz h =>
    h ▸ mul_ne_zero (pow_ne_zero 3 hz) (pow_ne_zero 2 hs)
  simp only [addProjcImp, fieldOps, reduceCtorEq, if_false, decide_eq_true_eq, if_neg ht]
  -- X3 uses the curve equation (through `hy1`)
  exact ⟨trivial, projc_affine (key _ (by linear_combination -(x1 * x2 * (Z1 * Z2) ^ 3) * h2))
    (by linear_combination x1 * (Z1 * Z2) ^ 3 * hy2 + (x1 + x2) * (Z1 * Z2) ^ 3 * hy1 +
      x1 * x2 * (l ^ 2 + l + x1 + x2 + cv.a) * (Z1 * Z2) ^ 3 * h2)
    (fun hX => by
      -- Y3 depends on the curve only through X3: the abscissa x3 of the sum is a variable here
      generalize l ^ 2 + l + x1 + x2 + cv.a = x3 at hX ⊢
      linear_combination ((y1 + y2) * (x1 + x2) + (x1 ^ 2 + x2 ^ 2)) * (Z1 * Z2) ^ 3 * hX +
        (Z1 * Z2) ^ 6 * (x1 ^ 2 + x2 ^ 2) * (x1 + x2) * (x1 + x3) * hy2 +
        (Z1 * Z2) ^ 6 * (x1 ^ 2 + x2 ^ 2) * (x1 + x3) * (l * x1 * x2 + y1 * (x1 + x2)) * h2)⟩

theorem addProjcImp_same (cv : CurveB F) (p q : Pt F) (hp : Wf p) (hq : Wf q) (hqc : q.coord = .projc)
    (hx : affX p = affX q) (hy : affY p = affY q) :
    addProjcImp (fieldOps slv srt trc) cv p q = { dblProjc (fieldOps slv srt trc) cv p with coord := .projc } := by
  obtain ⟨x1, y1, Z1, c, rfl, hax1, hay1, -, -⟩ := hp.rep
  obtain ⟨x, y, Z2, c2, rfl, hax2, hay2, -, -⟩ := hq.rep
  obtain rfl : x1 = x := by rw [← hax1, hx, hax2]
  obtain rfl : y1 = y := by rw [← hay1, hy, hay2]
  obtain rfl : c2 = .projc := hqc
  have h2 : x1 * Z1 * Z2 + x1 * Z2 * Z1 = 0 := by rw [mul_right_comm, CharTwo.add_self_eq_zero]
  have h6 : Z2 * Z2 * (y1 * Z1 ^ 2) + Z1 * Z1 * (y1 * Z2 ^ 2) = 0 := by
    linear_combination y1 * Z1 ^ 2 * Z2 ^ 2 * (CharTwo.two_eq_zero : (2 : F) = 0)
  simp only [addProjcImp, fieldOps, reduceCtorEq, if_false, h2, h6, decide_true, if_true]

theorem addProjcImp_opp (cv : CurveB F) (p q : Pt F) (hp : Wf p) (hq : Wf q) (hqc : q.coord = .projc)
    (hx : affX p = affX q) (hy : affY p ≠ affY q) :
    isInfty (fieldOps slv srt trc) (addProjcImp (fieldOps slv srt trc) cv p q) = true := by
  obtain ⟨x1, y1, Z1, c, rfl, hax1, hay1, hz1, -⟩ := hp.rep
  obtain ⟨x, y2, Z2, c2, rfl, hax2, hay2, hz2, -⟩ := hq.rep
  obtain rfl : x1 = x := by rw [← hax1, hx, hax2]
  rw [hay1, hay2] at hy
  obtain rfl : c2 = .projc := hqc
  have h2 : x1 * Z1 * Z2 + x1 * Z2 * Z1 = 0 := by rw [mul_right_comm, CharTwo.add_self_eq_zero]
  have h6 : Z2 * Z2 * (y1 * Z1 ^ 2) + Z1 * Z1 * (y2 * Z2 ^ 2) ≠ 0 := by
    rw [show Z2 * Z2 * (y1 * Z1 ^ 2) + Z1 * Z1 * (y2 * Z2 ^ 2) = (y1 + y2) * (Z1 * Z2) ^ 2 by ring]
    exact mul_ne_zero (add_ne_zero2 hy) (pow_ne_zero 2 (mul_ne_zero hz1 hz2))
  simp only [addProjcImp, fieldOps, reduceCtorEq, if_false, h2, decide_true, if_true, decide_eq_true_eq, if_neg h6,
    isInfty, infty]

theorem negProjc_spec (p : Pt F) (hp : Wf p) :
    let r := negProjc (fieldOps slv srt trc) p
    Wf r ∧ affX r = affX p ∧ affY r = affX p + affY p := by
  obtain ⟨x, y, z, c⟩ := p
  obtain ⟨hz, hb, hh⟩ := hp
  simp only at hz hb hh
  cases c
  · simp only [negProjc, isInfty, fieldOps, decide_eq_true_eq, if_neg hz, if_true, affX, affY, Wf]
    exact ⟨⟨hz, fun _ => hb rfl, hh⟩, trivial, trivial⟩
  · simp only [negProjc, isInfty, fieldOps, decide_eq_true_eq, if_neg hz, reduceCtorEq, if_false, affX, affY, Wf]
    refine ⟨⟨hz, fun h => absurd h (by decide), by decide⟩, trivial, ?_⟩
    rw [add_div, sq, mul_div_mul_right _ _ hz, add_comm]
  · exact absurd rfl hh

theorem addProjc_infty_left (cv : CurveB F) (p q : Pt F) (hp : p.z = 0) :
    addProjc (fieldOps slv srt trc) cv p q = q := by
  simp only [addProjc, isInfty, fieldOps, hp, decide_true, if_true]

theorem addProjc_infty_right (cv : CurveB F) (p q : Pt F) (hp : p.z ≠ 0) (hq : q.z = 0) :
    addProjc (fieldOps slv srt trc) cv p q = p := by
  simp only [addProjc, isInfty, fieldOps, decide_eq_true_eq, if_neg hp, hq, if_true]

theorem norm_spec (p : Pt F) (hz : p.z ≠ 0) (hb : p.coord = .basic → p.z = 1) :
    let r := norm (fieldOps slv srt trc) p
    r.coord = .basic ∧ r.x = affX p ∧ r.y = affY p ∧ r.z = 1 := by
  obtain ⟨x, y, z, c⟩ := p
  simp only at hz hb
  cases c
  · simp only [forall_const] at hb
    simp only [norm, isInfty, fieldOps, decide_eq_true_eq, if_neg hz, affX, affY]
    exact ⟨trivial, trivial, trivial, hb⟩
  · simp only [norm, isInfty, fieldOps, decide_eq_true_eq, if_neg hz, affX, affY]
    refine ⟨trivial, ?_, ?_, trivial⟩
    · field_simp
    · field_simp
  · simp only [norm, isInfty, fieldOps, decide_eq_true_eq, if_neg hz, affX, affY]
    exact ⟨trivial, trivial, trivial, trivial⟩

theorem norm_infty (p : Pt F) (hz : p.z = 0) :
    isInfty (fieldOps slv srt trc) (norm (fieldOps slv srt trc) p) = true := by
  simp [norm, isInfty, fieldOps, infty, hz]

theorem frb_spec (p : Pt F) (hp : Wf p) :
    let r := frb (fieldOps slv srt trc) p
    Wf r ∧ affX r = affX p ^ 2 ∧ affY r = affY p ^ 2 := by
  obtain ⟨x, y, z, c⟩ := p
  obtain ⟨hz, hb, hh⟩ := hp
  simp only at hz hb hh
  cases c
  · simp only [frb, isInfty, fieldOps, decide_eq_true_eq, if_neg hz, ne_eq, not_true_eq_false, if_false, affX, affY, Wf]
    exact ⟨⟨one_ne_zero, fun _ => trivial, hh⟩, by ring, by ring⟩
  · simp only [frb, isInfty, fieldOps, decide_eq_true_eq, if_neg hz, ne_eq, reduceCtorEq, not_false_eq_true, if_true,
      affX, affY, Wf]
    refine ⟨⟨mul_ne_zero hz hz, fun h => absurd h (by decide), by decide⟩, ?_, ?_⟩
    · field_simp
    · field_simp
  · exact absurd rfl hh

/-- Koblitz curve: a, b ∈ GF(2), i.e. a² = a, b² = b -/
theorem frb_on_curve (a b x y : F) (ha : a ^ 2 = a) (hb : b ^ 2 = b) (h : y ^ 2 + x * y = x ^ 3 + a * x ^ 2 + b) :
    (y ^ 2) ^ 2 + x ^ 2 * y ^ 2 = (x ^ 2) ^ 3 + a * (x ^ 2) ^ 2 + b := by
  -- the square of the curve equation; the last summand collects the cross terms
  linear_combination (y ^ 2 + x * y + x ^ 3 + a * x ^ 2 + b) * h + x ^ 4 * ha + hb +
    (a * b * x ^ 2 + a * x ^ 5 + b * x ^ 3 - x * y ^ 3) * (CharTwo.two_eq_zero : (2 : F) = 0)

/-! ### point halving -/

theorem tangL_lambda (u l : F) (hu : u ≠ 0) : tangL u ((u + l) * u) = l := by
  rw [tangL, mul_div_cancel_right₀ _ hu]
  linear_combination u * (CharTwo.two_eq_zero : (2 : F) = 0)

theorem tang_lambda (a x y u l : F) (hu : u ≠ 0) (hl : l ^ 2 + l = x + a) (hy : u ^ 2 = y + (l + 1) * x) :
    tangX a u ((u + l) * u) = x ∧ tangY a u ((u + l) * u) = y := by
  have h2 : (2 : F) = 0 := CharTwo.two_eq_zero
  have hx : tangX a u ((u + l) * u) = x := by
    rw [tangX, tangL_lambda u l hu]
    linear_combination hl + a * h2
  refine ⟨hx, ?_⟩
  rw [tangY, hx, tangL_lambda u l hu]
  linear_combination hy + (l + 1) * x * h2

/-- P = (x, y) presented affine or in λ-representation; λ̂ = slv(x + a) solves λ̂² + λ̂ = x + a and srt is a square root:
    the result Q = (u, λ_Q) (λ-representation) satisfies 2Q = P, whichever branch of the trace test is taken
    (λ_Q = λ̂ with u² = λ̂x + y + x, or λ_Q = λ̂ + 1 with u² = λ̂x + y) -/
theorem hlv_spec (cv : CurveB F) (hcv : OptOk cv) (p : Pt F) (hz : p.z ≠ 0) (hc : p.coord ≠ .projc)
    (hslv : slv (affX p + cv.a) ^ 2 + slv (affX p + cv.a) = affX p + cv.a)
    (hsrt : ∀ t, srt t ^ 2 = t) :
    let r := hlv (fieldOps slv srt trc) cv p
    r.coord = .halve ∧ r.z = 1 ∧
      (affX r ≠ 0 → tangX cv.a (affX r) (affY r) = affX p ∧ tangY cv.a (affX r) (affY r) = affY p) := by
  have h2 : (2 : F) = 0 := CharTwo.two_eq_zero
  have hh : hlv (fieldOps slv srt trc) cv p = hlvImp (fieldOps slv srt trc) cv p := by
    simp [hlv, isInfty, fieldOps, hz]
  rw [hh]
  obtain ⟨x, y, z, c⟩ := p
  have hax : affX (⟨x, y, z, c⟩ : Pt F) = x := by
    cases c
    · rfl
    · exact absurd rfl hc
    · rfl
  rw [hax] at hslv
  generalize hl : slv (x + cv.a) = l at hslv
  have hl1 : (l + 1) ^ 2 + (l + 1) = x + cv.a := by linear_combination hslv + (l + 1) * h2
  cases c
  · simp only [hlvImp, addA_eq slv srt trc cv hcv]
    simp only [fieldOps, if_true, affY, hl]
    cases trc (l * x + y)
    · simp only [Bool.not_false, if_true, affX]
      exact ⟨trivial, trivial, fun hu => tang_lambda _ _ _ _ _ hu hslv (by rw [hsrt]; ring)⟩
    · simp only [Bool.not_true, Bool.false_eq_true, if_false, affX]
      exact ⟨trivial, trivial, fun hu => tang_lambda _ _ _ _ _ hu hl1 (by rw [hsrt]; linear_combination -x * h2)⟩
  · exact absurd rfl hc
  · simp only [hlvImp, addA_eq slv srt trc cv hcv]
    simp only [fieldOps, reduceCtorEq, if_false, affY, hl]
    cases trc ((l + y + x) * x)
    · simp only [Bool.not_false, if_true, affX]
      exact ⟨trivial, trivial, fun hu => tang_lambda _ _ _ _ _ hu hslv (by rw [hsrt]; ring)⟩
    · simp only [Bool.not_true, Bool.false_eq_true, if_false, affX]
      exact ⟨trivial, trivial, fun hu => tang_lambda _ _ _ _ _ hu hl1 (by rw [hsrt]; linear_combination -x * h2)⟩

theorem hlv_infty (cv : CurveB F) (p : Pt F) (hz : p.z = 0) :
    isInfty (fieldOps slv srt trc) (hlv (fieldOps slv srt trc) cv p) = true := by
  simp [hlv, isInfty, fieldOps, infty, hz]

/-! ### the affine law is closed on the curve -/

theorem tang_on_curve (a b x y : F) (hx : x ≠ 0) (h : y ^ 2 + x * y = x ^ 3 + a * x ^ 2 + b) :
    tangY a x y ^ 2 + tangX a x y * tangY a x y = tangX a x y ^ 3 + a * tangX a x y ^ 2 + b := by
  have hl := tangL_mul hx y
  simp only [tangX, tangY]
  generalize tangL x y = l at hl ⊢
  obtain rfl : y = l * x - x ^ 2 := by linear_combination -hl
  obtain rfl : b = (l * x - x ^ 2) ^ 2 + x * (l * x - x ^ 2) - x ^ 3 - a * x ^ 2 := by linear_combination -h
  -- in terms of m = λ² + λ + a (the abscissa of the double); the cofactor of 2 = 0 is found by expanding
  obtain ⟨m, rfl⟩ : ∃ m, a = m - l ^ 2 - l := ⟨a + l ^ 2 + l, by ring⟩
  linear_combination (l * m * x ^ 2 + 2 * l * m ^ 2 - l * x ^ 2 + l * x ^ 3 + l ^ 2 * m ^ 2 - l ^ 2 * x ^ 2 + 2 * m * x ^ 2 +
    m ^ 2 - m ^ 3 + x ^ 3) * (CharTwo.two_eq_zero : (2 : F) = 0)

theorem chord_on_curve (a b x1 y1 x2 y2 : F) (hx : x1 ≠ x2)
    (h1 : y1 ^ 2 + x1 * y1 = x1 ^ 3 + a * x1 ^ 2 + b) (h2 : y2 ^ 2 + x2 * y2 = x2 ^ 3 + a * x2 ^ 2 + b) :
    chordY a x1 y1 x2 y2 ^ 2 + chordX a x1 y1 x2 y2 * chordY a x1 y1 x2 y2 =
      chordX a x1 y1 x2 y2 ^ 3 + a * chordX a x1 y1 x2 y2 ^ 2 + b := by
  obtain ⟨l, hl, rfl, hy1⟩ := chord_param a b x1 y1 x2 y2 hx h1 h2
  simp only [chordX, chordY, hl]
  /- With m = λ² + λ + a, x3 = m + x1 + x2 and the intercept c = y1 + λ x1 of the chord, y3 = (λ + 1) x3 + c, and
     y3² + x3 y3 − x3³ − a x3² − b is the curve equation at (x1, y1), plus (x3 − x1) times `hy1`, plus twice the rest. -/
  obtain ⟨m, rfl⟩ : ∃ m, a = m - l ^ 2 - l := ⟨a + l ^ 2 + l, by ring⟩
  linear_combination h1 + (m + x2) * hy1 +
    ((l + 1) ^ 2 * (m + x1 + x2) ^ 2 + (l + 1) * (m + x1 + x2) * (y1 + l * x1) - l ^ 2 * x1 ^ 2 + l * x1 * (y1 + l * x1) -
      (m + x2) * (m ^ 2 + 2 * m * x1 + m * x2 + x1 ^ 2 + x1 * x2)) * (CharTwo.two_eq_zero : (2 : F) = 0)

end Relic.Lemmas.EbFormulas
