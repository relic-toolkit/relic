/-
Normal forms of bn values: stripZeros / bnTrim / WF / toInt and the comparison of normal forms; the digit-vector cores of
bn_add_imp, bn_sub_imp, bn_rsh (`addCore`, `subCore`, `rshCore`) and what the model functions built on them return
(`*_eq`); the bit and byte sizes of a normal form. Generic list-level helpers live under `Relic.Model.High.*` so that
they cannot clash with helpers of the digit-level files.
-/
import RelicVerif.Lemmas.BnLowShift
import RelicVerif.Lemmas.KnuthDList
import RelicVerif.Lemmas.NatBits
import RelicVerif.Model.Bn
import Mathlib.Tactic.Linarith
import Mathlib.Tactic.Ring

namespace Relic.Model

variable (cfg : Cfg)

theorem High.snoc_induction {P : List Nat → Prop} (h0 : P []) (h1 : ∀ l x, P l → P (l ++ [x])) :
    ∀ l, P l := by
  intro l
  have : ∀ r : List Nat, P r.reverse := by
    intro r
    induction r with
    | nil => exact h0
    | cons x xs ih => simpa using h1 _ x ih
  simpa using this l.reverse

theorem stripZeros_nil : stripZeros [] = [] := rfl

theorem stripZeros_snoc (l : List Nat) (x : Nat) :
    stripZeros (l ++ [x]) = if x = 0 then stripZeros l else l ++ [x] := by
  unfold stripZeros
  by_cases hx : x = 0 <;> simp [hx]

theorem val_stripZeros (B : Nat) : ∀ l, val B (stripZeros l) = val B l := by
  apply High.snoc_induction
  · rfl
  · intro l x ih
    rw [stripZeros_snoc]
    split
    · subst x; rw [ih, High.val_snoc]; simp
    · rfl

theorem stripZeros_mem : ∀ l, ∀ d ∈ stripZeros l, d ∈ l := by
  apply High.snoc_induction
  · simp [stripZeros_nil]
  · intro l x ih d hd
    rw [stripZeros_snoc] at hd
    split at hd
    · simp [ih d hd]
    · exact hd

theorem stripZeros_getLast : ∀ l, (stripZeros l).getLast? ≠ some 0 := by
  apply High.snoc_induction
  · simp [stripZeros_nil]
  · intro l x ih
    rw [stripZeros_snoc]
    split
    · exact ih
    · simp; omega

theorem stripZeros_length_le : ∀ l, (stripZeros l).length ≤ l.length := by
  apply High.snoc_induction
  · simp [stripZeros_nil]
  · intro l x ih
    rw [stripZeros_snoc]
    split
    · simp; omega
    · simp

theorem stripZeros_eq_self : ∀ l : List Nat, l.getLast? ≠ some 0 → stripZeros l = l := by
  apply High.snoc_induction
  · intro _; rfl
  · intro l x _ h
    rw [stripZeros_snoc]
    have : x ≠ 0 := by simpa using h
    simp [this]

theorem High.val_lt_of_top_zero (B : Nat) : ∀ l : List Nat, (∀ d ∈ l, d < B) → l.getLast? = some 0 →
    val B l < B ^ (l.length - 1) := by
  apply High.snoc_induction
  · intro _ h; simp at h
  · intro l x _ hd h
    have hx : x = 0 := by simpa using h
    subst hx
    rw [High.val_snoc]
    simp only [List.length_append, List.length_cons, List.length_nil, Nat.add_sub_cancel, Nat.mul_zero, Nat.add_zero]
    exact val_lt B l (fun d hd' => hd d (by simp [hd']))

theorem High.snoc_lt_iff {B : Nat} (hB : 0 < B) (init : List Nat) (top M : Nat) (hi : ∀ d ∈ init, d < B) :
    val B (init ++ [top]) < B ^ init.length * M ↔ top < M := by
  rw [High.val_snoc, Nat.mul_comm _ M, ← Nat.div_lt_iff_lt_mul (Nat.pow_pos hB), Nat.add_mul_div_left _ _ (Nat.pow_pos hB),
    Nat.div_eq_of_lt (val_lt B init hi), Nat.zero_add]

/-- The size, counted in digits of base r, of a digit vector of base r^k: k for every lower digit and the size `sz` of the
    top one. The value is below r^n when the size is at most n, and conversely when the top digit is zero only in a
    one-digit vector: the size is the least n with value < r^n (bytes: r = 256, bits: r = 2). -/
theorem High.size_le_iff {r : Nat} (hr : 1 < r) (k : Nat) {sz : Nat → Nat}
    (hsz : ∀ d n, d < r ^ k → (sz d ≤ n ↔ d < r ^ n)) (init : List Nat) (top n : Nat)
    (hd : ∀ d ∈ init ++ [top], d < r ^ k) :
    (init.length * k + sz top ≤ n → val (r ^ k) (init ++ [top]) < r ^ n) ∧
    ((top = 0 → init = []) → val (r ^ k) (init ++ [top]) < r ^ n → init.length * k + sz top ≤ n) := by
  have hB : 0 < r ^ k := Nat.pow_pos (by omega)
  by_cases hn : init.length * k ≤ n
  · obtain ⟨m, rfl⟩ := Nat.exists_eq_add_of_le hn
    rw [Nat.add_le_add_iff_left, hsz top m (hd top (by simp)), Nat.pow_add, Nat.mul_comm _ k, Nat.pow_mul,
      High.snoc_lt_iff hB init top _ (fun d hi => hd d (by simp [hi]))]
    exact ⟨id, fun _ => id⟩
  · -- fewer than the lower digits take: the top digit is not zero, so the value is at least (r^k)^|init|
    refine ⟨fun h => absurd h (by omega), fun h0 hv => ?_⟩
    have hl : init ≠ [] := fun h => hn (by simp [h])
    have h1 : (r ^ k) ^ init.length * 1 ≤ (r ^ k) ^ init.length * top :=
      Nat.mul_le_mul_left _ (Nat.pos_of_ne_zero fun h => hl (h0 h))
    have h2 : r ^ n < r ^ (k * init.length) := Nat.pow_lt_pow_right hr (by rw [Nat.mul_comm]; omega)
    rw [Nat.pow_mul] at h2
    rw [High.val_snoc] at hv
    omega

theorem Cfg.one_lt_B (cfg : Cfg) (hw : 0 < cfg.w) : 1 < cfg.B := by
  unfold Cfg.B; exact Nat.one_lt_two_pow (by omega)

theorem toInt_natAbs (B : Nat) (a : Bn) : (a.toInt B).natAbs = val B a.dp := by
  unfold Bn.toInt; split <;> simp

theorem Bn.WF.ne_nil {B : Nat} {a : Bn} (h : a.WF B) : a.dp ≠ [] := h.1
theorem Bn.WF.used_pos {B : Nat} {a : Bn} (h : a.WF B) : 1 ≤ a.used := by
  have := h.1; unfold Bn.used; exact List.length_pos_iff.mpr this
theorem Bn.WF.dig {B : Nat} {a : Bn} (h : a.WF B) : ∀ d ∈ a.dp, d < B := h.2.1
theorem Bn.WF.val_lt {B : Nat} {a : Bn} (h : a.WF B) : val B a.dp < B ^ a.used :=
  Relic.Model.val_lt B a.dp h.dig

theorem Bn.WF.snoc {B : Nat} {a : Bn} (ha : a.WF B) :
    ∃ init top, a.dp = init ++ [top] ∧ (∀ d ∈ init ++ [top], d < B) ∧ (top = 0 → init = []) := by
  rcases List.eq_nil_or_concat a.dp with h | ⟨init, top, h⟩
  · exact absurd h ha.1
  · rw [List.concat_eq_append] at h
    refine ⟨init, top, h, h ▸ ha.dig, ?_⟩
    rintro rfl
    rcases ha.2.2.1 with h1 | h1
    · exact List.eq_nil_of_length_eq_zero (by simpa [h] using h1)
    · simp [h] at h1

theorem Bn.WF.val_ge {B : Nat} {a : Bn} (h : a.WF B) (h2 : 2 ≤ a.used) : B ^ (a.used - 1) ≤ val B a.dp := by
  refine pow_le_val B a.dp (top_pos_of_getLast a.dp h.1 ?_)
  rcases h.2.2.1 with h1 | h1
  · unfold Bn.used at h2; omega
  · exact h1

theorem Bn.WF.singleton {B : Nat} {a : Bn} (h : a.WF B) (h1 : a.used ≤ 1) :
    ∃ x, a.dp = [x] ∧ x < B ∧ val B a.dp = x := by
  unfold Bn.used at h1
  match hdp : a.dp with
  | [] => exact absurd hdp h.1
  | [x] => exact ⟨x, rfl, h.dig x (by rw [hdp]; simp), by simp [val]⟩
  | _ :: _ :: _ => rw [hdp] at h1; simp at h1

theorem Bn.WF.dp_of_val_zero {B : Nat} (hB : 0 < B) {a : Bn} (h : a.WF B) (hv : val B a.dp = 0) :
    a.dp = [0] := by
  by_cases h2 : 2 ≤ a.used
  · have := h.val_ge h2
    have : 0 < B ^ (a.used - 1) := Nat.pow_pos hB
    omega
  · obtain ⟨x, hdp, _, hx⟩ := h.singleton (by omega)
    rw [hdp, ← hx, hv]

theorem Bn.WF.val_eq_zero_iff {B : Nat} (hB : 1 < B) {a : Bn} (h : a.WF B) : val B a.dp = 0 ↔ a.dp = [0] :=
  ⟨h.dp_of_val_zero (Nat.zero_lt_of_lt hB), fun hv => by rw [hv]; simp [val]⟩

theorem Bn.WF.isZero_iff {B : Nat} (hB : 1 < B) {a : Bn} (h : a.WF B) : bnIsZero a = true ↔ val B a.dp = 0 := by
  rw [h.val_eq_zero_iff hB]
  unfold bnIsZero
  have := h.1
  match hdp : a.dp with
  | [] => exact absurd hdp h.1
  | [x] => simp
  | _ :: _ :: _ => simp

theorem Bn.WF.neg_pos {B : Nat} (hB : 1 < B) {a : Bn} (h : a.WF B) (hn : a.neg = true) : 0 < val B a.dp := by
  apply Nat.pos_of_ne_zero
  intro hv
  have := h.2.2.2 ((h.val_eq_zero_iff hB).1 hv)
  simp [hn] at this

theorem Bn.WF.val_lt_of_used_lt {B : Nat} (hB : 1 < B) {a b : Bn} (ha : a.WF B) (hb : b.WF B)
    (h : a.used < b.used) : val B a.dp < val B b.dp := by
  have h1 := ha.val_lt
  have h2 := hb.val_ge (by have := ha.used_pos; omega)
  have : B ^ a.used ≤ B ^ (b.used - 1) := Nat.pow_le_pow_right (by omega) (by omega)
  omega

theorem Bn.WF.used_le_of_val_le {B : Nat} (hB : 1 < B) {a b : Bn} (ha : a.WF B) (hb : b.WF B)
    (h : val B a.dp ≤ val B b.dp) : a.used ≤ b.used := by
  by_contra hc
  have := Bn.WF.val_lt_of_used_lt hB hb ha (by omega)
  omega

theorem Bn.WF.base_le_val {B : Nat} (hB : 1 < B) {a : Bn} (h : a.WF B) (h2 : 2 ≤ a.used) : B ≤ val B a.dp := by
  have h1 := h.val_ge h2
  have : B ^ 1 ≤ B ^ (a.used - 1) := Nat.pow_le_pow_right (by omega) (by omega)
  rw [Nat.pow_one] at this
  omega

theorem bnTrim_strip_nil {a : Bn} (h : stripZeros a.dp = []) : bnTrim a = { neg := false, dp := [0] } := by
  unfold bnTrim; simp [h]

theorem bnTrim_strip_ne_nil {a : Bn} (h : stripZeros a.dp ≠ []) : bnTrim a = { neg := a.neg, dp := stripZeros a.dp } := by
  unfold bnTrim; simp [h]

theorem Bn.zero_WF {B : Nat} (hB : 0 < B) : Bn.zero.WF B :=
  ⟨by simp [Bn.zero], by simpa [Bn.zero] using hB, by simp [Bn.zero], fun _ => rfl⟩

theorem bnTrim_WF {B : Nat} (hB : 0 < B) (a : Bn) (h : ∀ d ∈ a.dp, d < B) : (bnTrim a).WF B := by
  by_cases he : stripZeros a.dp = []
  · rw [bnTrim_strip_nil he]
    exact Bn.zero_WF hB
  · rw [bnTrim_strip_ne_nil he]
    refine ⟨he, fun d hd => h d (stripZeros_mem _ d hd), Or.inr (stripZeros_getLast _), ?_⟩
    intro h0
    have := stripZeros_getLast a.dp
    simp only at h0
    rw [h0] at this
    simp at this

theorem bnTrim_toInt (B : Nat) (a : Bn) : (bnTrim a).toInt B = a.toInt B := by
  by_cases he : stripZeros a.dp = []
  · rw [bnTrim_strip_nil he]
    have hv : val B a.dp = 0 := by rw [← val_stripZeros, he]; rfl
    unfold Bn.toInt
    simp [val, hv]
  · rw [bnTrim_strip_ne_nil he]
    unfold Bn.toInt
    simp only [val_stripZeros]

theorem bnTrim_of_WF {B : Nat} {a : Bn} (h : a.WF B) : bnTrim a = a := by
  by_cases h0 : a.dp = [0]
  · have hn := h.2.2.2 h0
    obtain ⟨n, dp⟩ := a
    simp only at h0 hn
    subst h0 hn
    rfl
  · have hs : stripZeros a.dp = a.dp := by
      rcases h.2.2.1 with h1 | h1
      · obtain ⟨x, hdp, _, _⟩ := h.singleton (Nat.le_of_eq h1)
        rw [hdp] at h0 ⊢
        apply stripZeros_eq_self
        simpa using h0
      · exact stripZeros_eq_self _ h1
    rw [bnTrim_strip_ne_nil (by rw [hs]; exact h.1), hs]

theorem bnTrim_eq_self {neg : Bool} {l : List Nat} (htop : l.getLast? ≠ some 0) (hne : l ≠ []) :
    bnTrim { neg := neg, dp := l } = { neg := neg, dp := l } := by
  rw [bnTrim_strip_ne_nil (by rwa [stripZeros_eq_self l htop]), stripZeros_eq_self l htop]

theorem bnTrim_used_le (a : Bn) : (bnTrim a).used ≤ max a.used 1 := by
  unfold bnTrim Bn.used
  have := stripZeros_length_le a.dp
  simp only
  split
  · simp only [List.length_cons, List.length_nil]; omega
  · simp only; omega

theorem bnTrim_exact {B : Nat} (hB : 0 < B) (neg : Bool) (l : List Nat) (h : ∀ d ∈ l, d < B) :
    (bnTrim { neg := neg, dp := l }).WF B ∧
    (bnTrim { neg := neg, dp := l }).toInt B = if neg then -(val B l : Int) else (val B l : Int) := by
  refine ⟨bnTrim_WF hB _ h, ?_⟩
  rw [bnTrim_toInt]; rfl

theorem bnTrim_snoc_exact {B : Nat} (hB : 0 < B) (neg : Bool) (q : List Nat) (cy n V : Nat)
    (hq : ∀ d ∈ q, d < B) (hcy : cy < B) (hl : q.length = n) (e : val B q + cy * B ^ n = V) :
    (bnTrim { neg := neg, dp := q ++ [cy] }).WF B ∧
    (bnTrim { neg := neg, dp := q ++ [cy] }).toInt B = if neg then -(V : Int) else (V : Int) := by
  have := bnTrim_exact hB neg (q ++ [cy]) (digs_append hq (by simpa using hcy))
  rwa [High.val_snoc, hl, Nat.mul_comm, e] at this

theorem bnTrim_nocarry_exact {B : Nat} (hB : 0 < B) (neg : Bool) (q : List Nat) (cy n V : Nat)
    (hq : ∀ d ∈ q, d < B) (h0 : ¬ cy ≠ 0) (e : val B q + cy * B ^ n = V) :
    (bnTrim { neg := neg, dp := q }).WF B ∧
    (bnTrim { neg := neg, dp := q }).toInt B = if neg then -(V : Int) else (V : Int) := by
  rw [Decidable.not_not.1 h0, Nat.zero_mul, Nat.add_zero] at e
  exact e ▸ bnTrim_exact hB neg q hq

theorem bnCmpAbs_val {B : Nat} (hB : 1 < B) (a b : Bn) (ha : a.WF B) (hb : b.WF B) :
    bnCmpAbs a b = (if val B a.dp < val B b.dp then -1 else if val B a.dp > val B b.dp then 1 else 0) := by
  unfold bnCmpAbs
  by_cases hz : (bnIsZero a && bnIsZero b) = true
  · rw [if_pos hz]
    simp only [Bool.and_eq_true] at hz
    have h1 := (ha.isZero_iff hB).1 hz.1
    have h2 := (hb.isZero_iff hB).1 hz.2
    simp [h1, h2]
  · rw [if_neg hz]
    by_cases hgt : a.used > b.used
    · rw [if_pos hgt]
      have := Bn.WF.val_lt_of_used_lt hB hb ha hgt
      rw [if_neg (by omega), if_pos this]
    · rw [if_neg hgt]
      by_cases hlt : a.used < b.used
      · rw [if_pos hlt]
        have := Bn.WF.val_lt_of_used_lt hB ha hb hlt
        rw [if_pos this]
      · rw [if_neg hlt]
        exact dvCmp_eq B a.dp b.dp (by unfold Bn.used at *; omega) ha.dig hb.dig

theorem toInt_of_neg {B : Nat} {a : Bn} (h : a.neg = true) : a.toInt B = -(val B a.dp : Int) := by
  unfold Bn.toInt; simp [h]

theorem toInt_of_pos {B : Nat} {a : Bn} (h : a.neg = false) : a.toInt B = (val B a.dp : Int) := by
  unfold Bn.toInt; simp [h]

theorem toInt_natMul (B : Nat) (a : Bn) (m : Nat) :
    (if a.neg then -((m * val B a.dp : Nat) : Int) else ((m * val B a.dp : Nat) : Int)) = (m : Int) * a.toInt B := by
  unfold Bn.toInt; split <;> (push_cast; ring)

def addCore (B : Nat) (a b : List Nat) : List Nat × Nat :=
  if a.length = b.length then addnLow B a b 0
  else
    let p := addnLow B (a.take b.length) b 0
    let q := add1Low B (a.drop b.length) p.2
    (p.1 ++ q.1, q.2)

def subCore (B : Nat) (a b : List Nat) : List Nat :=
  if a.length = b.length then (subnLow B a b 0).1
  else
    let p := subnLow B (a.take b.length) b 0
    let q := sub1Low B (a.drop b.length) p.2
    p.1 ++ q.1

theorem addCore_length (B : Nat) (a b : List Nat) : (addCore B a b).1.length = a.length := by
  unfold addCore
  split
  · rw [addnLow_length]; omega
  · simp only [List.length_append, addnLow_length, add1Low_length, List.length_take, List.length_drop]; omega

theorem subCore_length (B : Nat) (a b : List Nat) : (subCore B a b).length = a.length := by
  unfold subCore
  split
  · rw [subnLow_length]; omega
  · simp only [List.length_append, subnLow_length, sub1Low_length, List.length_take, List.length_drop]; omega

theorem grow_bind {α : Type} (n : Nat) (r : Option α) :
    (do grow cfg n; r) = if n > cfg.cap then none else r := by
  unfold grow
  split <;> rfl

theorem bnAddImp_eq (neg : Bool) (a b : Bn) : bnAddImp cfg neg a b =
    if b.used = 0 then some (bnTrim { neg := a.neg, dp := a.dp })
    else if a.used > cfg.cap then none
    else if (addCore cfg.B a.dp b.dp).2 ≠ 0 then
      if a.used + 1 > cfg.cap then none
      else some (bnTrim { neg := neg, dp := (addCore cfg.B a.dp b.dp).1 ++ [(addCore cfg.B a.dp b.dp).2] })
    else some (bnTrim { neg := neg, dp := (addCore cfg.B a.dp b.dp).1 }) := by
  unfold bnAddImp addCore Bn.used
  simp only [grow_bind]
  by_cases h0 : b.dp.length = 0
  · rw [if_pos h0, if_pos h0]; rfl
  · rw [if_neg h0, if_neg h0]
    by_cases h2 : a.dp.length = b.dp.length
    · simp only [if_pos h2]; rfl
    · simp only [if_neg h2]; rfl

theorem High.borrow_zero (B : Nat) (r : List Nat) (c n x y : Nat) (hr : ∀ d ∈ r, d < B) (hl : r.length = n)
    (hc : c ≤ 1) (he : val B r + y = x + c * B ^ n) (hyx : y ≤ x) : val B r + y = x := by
  have := val_lt B r hr
  rw [hl] at this
  rcases Nat.le_one_iff_eq_zero_or_eq_one.1 hc with rfl | rfl
  · simpa using he
  · omega

/-- the low `n` digits and the rest of a digit vector, as the two operands of a chained operation -/
theorem High.split_facts (B : Nat) (a : List Nat) (n : Nat) (hn : n < a.length) (hda : ∀ d ∈ a, d < B) :
    (a.take n).length = n ∧ (∀ d ∈ a.take n, d < B) ∧ (∀ d ∈ a.drop n, d < B)
    ∧ val B a = val B (a.take n) + B ^ n * val B (a.drop n)
    ∧ B ^ a.length = B ^ (a.drop n).length * B ^ n := by
  refine ⟨by rw [List.length_take]; omega, digs_take hda n, digs_drop hda n, val_take_drop B n a, ?_⟩
  rw [← Nat.pow_add, List.length_drop]
  congr 1
  omega

theorem addCore_spec (B : Nat) (hB : 1 < B) (a b : List Nat) (hle : b.length ≤ a.length)
    (hda : ∀ d ∈ a, d < B) (hdb : ∀ d ∈ b, d < B) :
    val B (addCore B a b).1 + (addCore B a b).2 * B ^ a.length = val B a + val B b
    ∧ (addCore B a b).2 ≤ 1 ∧ (∀ d ∈ (addCore B a b).1, d < B) ∧ (addCore B a b).1.length = a.length := by
  unfold addCore
  by_cases h : a.length = b.length
  · rw [if_pos h]
    simpa using addnLow_spec B hB a b 0 h (by omega) hda hdb
  · rw [if_neg h]
    obtain ⟨hlt, hdt, hdd, hva, hpw⟩ := High.split_facts B a b.length (by omega) hda
    obtain ⟨e1, c1, d1, l1⟩ := addnLow_spec B hB (a.take b.length) b 0 hlt (by omega) hdt hdb
    obtain ⟨e2, c2, d2, l2⟩ := add1Low_spec B hB (a.drop b.length) (addnLow B (a.take b.length) b 0).2
      (by omega) hdd
    rw [hlt] at e1 l1
    dsimp only
    refine ⟨?_, c2 (.inl c1), digs_append d1 d2, ?_⟩
    · rw [val_append, l1, hva, hpw]
      exact step_add e2 e1
    · rw [List.length_append, l1, l2, List.length_drop]; omega

theorem subCore_spec (B : Nat) (hB : 1 < B) (a b : List Nat) (hle : b.length ≤ a.length)
    (hv : val B b ≤ val B a) (hda : ∀ d ∈ a, d < B) (hdb : ∀ d ∈ b, d < B) :
    val B (subCore B a b) + val B b = val B a
    ∧ (∀ d ∈ subCore B a b, d < B) ∧ (subCore B a b).length = a.length := by
  unfold subCore
  by_cases h : a.length = b.length
  · rw [if_pos h]
    obtain ⟨e1, c1, d1, l1⟩ := subnLow_spec B hB a b 0 h (by omega) hda hdb
    exact ⟨High.borrow_zero B _ _ _ _ _ d1 l1 c1 e1 hv, d1, l1⟩
  · rw [if_neg h]
    obtain ⟨hlt, hdt, hdd, hva, hpw⟩ := High.split_facts B a b.length (by omega) hda
    obtain ⟨e1, c1, d1, l1⟩ := subnLow_spec B hB (a.take b.length) b 0 hlt (by omega) hdt hdb
    obtain ⟨e2, c2, d2, l2⟩ := sub1Low_spec B hB (a.drop b.length) (subnLow B (a.take b.length) b 0).2
      (by omega) hdd
    rw [hlt] at e1 l1
    dsimp only
    have hd := digs_append d1 d2
    have hl := subCore_length B a b
    simp only [subCore, if_neg h] at hl
    refine ⟨High.borrow_zero B _ _ _ _ _ hd hl (c2 (.inl c1)) ?_ hv, hd, hl⟩
    rw [val_append, l1, hva, hpw]
    have := step_sub (Y := 0) (c := 0) e2 e1
    omega

theorem bnSubImp_eq (neg : Bool) (a b : Bn) : bnSubImp cfg neg a b =
    if b.used = 0 then some (bnTrim { neg := a.neg, dp := a.dp })
    else if a.used > cfg.cap then none
    else some (bnTrim { neg := neg, dp := subCore cfg.B a.dp b.dp }) := by
  unfold bnSubImp subCore Bn.used
  simp only [grow_bind]
  by_cases h0 : b.dp.length = 0
  · rw [if_pos h0, if_pos h0]; rfl
  · rw [if_neg h0, if_neg h0]
    by_cases h2 : a.dp.length = b.dp.length
    · simp only [if_pos h2]; rfl
    · simp only [if_neg h2]; rfl

theorem bnCmpAbs_lt_iff {B : Nat} (hB : 1 < B) (a b : Bn) (ha : a.WF B) (hb : b.WF B) :
    bnCmpAbs a b = -1 ↔ val B a.dp < val B b.dp := by
  rw [bnCmpAbs_val hB a b ha hb]
  split
  · simp [*]
  · split <;> simp [*]

theorem Bn.WF.used_ne_zero {B : Nat} {a : Bn} (h : a.WF B) : a.used ≠ 0 := by
  have := h.used_pos; omega

theorem bnAddImp_total (neg : Bool) (a b : Bn) (h : a.used < cfg.cap) : (bnAddImp cfg neg a b).isSome := by
  rw [bnAddImp_eq]
  split
  · rfl
  · rw [if_neg (by omega)]
    split
    · rw [if_neg (by omega)]; rfl
    · rfl

theorem bnSubImp_total (neg : Bool) (a b : Bn) (h : a.used < cfg.cap) : (bnSubImp cfg neg a b).isSome := by
  rw [bnSubImp_eq]
  split
  · rfl
  · rw [if_neg (by omega)]; rfl

theorem bnAddSubDig_eq (a : Bn) (b : Nat) (s r : Bool) : bnAddSubDig cfg a b s r =
    if a.used > cfg.cap then none
    else if s then
      if (add1Low cfg.B a.dp b).2 ≠ 0 then
        if a.used + 1 > cfg.cap then none
        else some (bnTrim { neg := r, dp := (add1Low cfg.B a.dp b).1 ++ [(add1Low cfg.B a.dp b).2] })
      else some (bnTrim { neg := r, dp := (add1Low cfg.B a.dp b).1 })
    else if a.used > 1 ∨ a.dp.getD 0 0 ≥ b then
      some (bnTrim { neg := !r, dp := (sub1Low cfg.B a.dp b).1 })
    else some (bnTrim { neg := r,
                        dp := [if a.used = 1 then (b + cfg.B - a.dp.getD 0 0) % cfg.B else b] }) := by
  unfold bnAddSubDig
  rw [grow_bind]
  congr 1
  cases s
  · simp only [Bool.false_eq_true, if_false]
    split <;> rfl
  · simp only [if_true]
    split
    · rw [grow_bind]; rfl
    · rfl

theorem WF_of_val {B : Nat} (neg : Bool) (l : List Nat) (hne : l ≠ []) (hd : ∀ d ∈ l, d < B)
    (hv : l.length = 1 ∨ B ^ (l.length - 1) ≤ val B l) (hz : val B l = 0 → neg = false) :
    Bn.WF B { neg := neg, dp := l } := by
  refine ⟨hne, hd, ?_, ?_⟩
  · rcases hv with h | h
    · exact Or.inl h
    · right
      intro h0
      have := High.val_lt_of_top_zero B l hd h0
      omega
  · intro h0
    simp only at h0
    apply hz; rw [h0]; simp [val]

theorem bnDbl_eq (a : Bn) : bnDbl cfg a =
    if a.used + 1 > cfg.cap then none
    else if (lsh1Low cfg.w a.dp 0).2 ≠ 0 then
      some { neg := a.neg, dp := (lsh1Low cfg.w a.dp 0).1 ++ [(lsh1Low cfg.w a.dp 0).2] }
    else some { neg := a.neg, dp := (lsh1Low cfg.w a.dp 0).1 } := by
  unfold bnDbl
  rw [grow_bind]
  rfl

theorem Cfg.B_eq : cfg.B = 2 ^ cfg.w := rfl

theorem two_pow_div_mod (w k : Nat) : (2 ^ w) ^ (k / w) * 2 ^ (k % w) = 2 ^ k := by
  rw [← Nat.pow_mul, ← Nat.pow_add, Nat.div_add_mod]

theorem bnLsh_eq (a : Bn) (k : Nat) : bnLsh cfg a k =
    if a.used + k / cfg.w + (if k % cfg.w > 0 then 1 else 0) > cfg.cap then none
    else if k % cfg.w > 0 then
      if (lshbLow cfg.w (k % cfg.w) a.dp 0).2 ≠ 0 then
        some (bnTrim { neg := a.neg, dp := List.replicate (k / cfg.w) 0 ++
          (lshbLow cfg.w (k % cfg.w) a.dp 0).1 ++ [(lshbLow cfg.w (k % cfg.w) a.dp 0).2] })
      else some (bnTrim { neg := a.neg, dp := List.replicate (k / cfg.w) 0 ++
          (lshbLow cfg.w (k % cfg.w) a.dp 0).1 })
    else some (bnTrim { neg := a.neg, dp := List.replicate (k / cfg.w) 0 ++ a.dp }) := by
  unfold bnLsh
  rw [grow_bind]
  rfl

def rshCore (w : Nat) (a : List Nat) (k : Nat) : List Nat :=
  let c := if k / w > 0 then (if a.length > k / w then a.drop (k / w) else []) else a
  if c.length > 0 ∧ k % w > 0 then (rshbLow w (k % w) c).1 else c

theorem bnRsh_eq (a : Bn) (k : Nat) : bnRsh cfg a k =
    if a.used > cfg.cap then none
    else some (bnTrim { neg := a.neg, dp := rshCore cfg.w a.dp k }) := by
  unfold bnRsh rshCore
  rw [grow_bind]
  rfl

theorem High.val_drop (B : Nat) (a : List Nat) (n : Nat) (ha : ∀ d ∈ a, d < B) :
    val B (a.drop n) = val B a / B ^ n := by
  by_cases hB : B = 0
  · subst hB
    cases a with
    | nil => simp [val]
    | cons x xs => exact absurd (ha x (by simp)) (by omega)
  have hB0 : 0 < B := Nat.pos_of_ne_zero hB
  rw [val_take_drop B n a, Nat.add_mul_div_left _ _ (Nat.pow_pos hB0), Nat.div_eq_of_lt (val_take_lt B hB0 a ha n),
    Nat.zero_add]

theorem rshCore_spec (w : Nat) (hw : 0 < w) (a : List Nat) (k : Nat) (ha : ∀ d ∈ a, d < 2 ^ w) :
    val (2 ^ w) (rshCore w a k) = val (2 ^ w) a / 2 ^ k ∧ (∀ d ∈ rshCore w a k, d < 2 ^ w) := by
  unfold rshCore
  have hc : ∀ c : List Nat, c = (if k / w > 0 then (if a.length > k / w then a.drop (k / w) else []) else a) →
      val (2 ^ w) c = val (2 ^ w) a / (2 ^ w) ^ (k / w) ∧ (∀ d ∈ c, d < 2 ^ w) := by
    intro c hc
    have hcd : c = a.drop (k / w) := by
      rw [hc]
      split
      · split
        · rfl
        · rw [List.drop_eq_nil_of_le (by omega)]
      · rename_i h0
        have : k / w = 0 := Nat.eq_zero_of_not_pos h0
        rw [this]; rfl
    rw [hcd]
    exact ⟨High.val_drop _ a _ ha, digs_drop ha _⟩
  generalize (if k / w > 0 then (if a.length > k / w then a.drop (k / w) else []) else a) = c at hc ⊢
  obtain ⟨hv, hd⟩ := hc c rfl
  have hk := two_pow_div_mod w k
  simp only
  split
  · obtain ⟨e, _, d1, _⟩ := rshbLow_spec w (k % w) (Nat.le_of_lt (Nat.mod_lt _ hw)) c hd
    refine ⟨?_, d1⟩
    rw [e, hv, Nat.div_div_eq_div_mul, hk]
  · rename_i hcond
    refine ⟨?_, hd⟩
    by_cases hcl : c.length > 0
    · have : k % w = 0 := by omega
      rw [← hk, this, hv]; simp
    · have : c = [] := List.eq_nil_of_length_eq_zero (by omega)
      rw [← hk, ← Nat.div_div_eq_div_mul, ← hv, this]
      simp [val]

theorem toInt_eq_zero_iff (B : Nat) (a : Bn) : a.toInt B = 0 ↔ val B a.dp = 0 := by
  rw [← toInt_natAbs B a]; exact Int.natAbs_eq_zero.symm

theorem Bn.WF.top {B : Nat} {a : Bn} (ha : a.WF B) (hv : val B a.dp ≠ 0) :
    ∃ init x, a.dp = init ++ [x] ∧ x ≠ 0 := by
  obtain ⟨init, x, h, _, h0⟩ := ha.snoc
  exact ⟨init, x, h, fun hx => hv (by rw [h, hx, h0 hx]; rfl)⟩

theorem val_lt_two_pow_bits (a : Bn) (hd : ∀ d ∈ a.dp, d < cfg.B) (hz : bnIsZero a = false) :
    val cfg.B a.dp < 2 ^ bnBitsW cfg.w a := by
  rcases List.eq_nil_or_concat a.dp with h | ⟨init, top, hdp⟩
  · simp [h, val]
  rw [List.concat_eq_append] at hdp
  have := (High.size_le_iff (r := 2) (by omega) cfg.w (sz := bitsDig) (fun d m _ => Lemmas.NatBits.bl_le_iff d m)
    init top _ (hdp ▸ hd)).1 (Nat.le_refl _)
  unfold bnBitsW Bn.used
  rw [hz, hdp]
  simpa [Cfg.B] using this

theorem bnBitsW_le_iff (hw : 0 < cfg.w) (a : Bn) (ha : a.WF cfg.B) (n : Nat) :
    bnBitsW cfg.w a ≤ n ↔ val cfg.B a.dp < 2 ^ n := by
  have hB := cfg.one_lt_B hw
  obtain ⟨init, top, hdp, hd, h0⟩ := ha.snoc
  unfold bnBitsW
  by_cases hz : bnIsZero a = true
  · rw [if_pos hz, (ha.isZero_iff hB).1 hz]; simp
  · have := High.size_le_iff (r := 2) (by omega) cfg.w (sz := bitsDig) (fun d m _ => Lemmas.NatBits.bl_le_iff d m)
      init top n hd
    rw [if_neg hz, hdp]
    unfold Bn.used
    rw [hdp]
    simpa using ⟨this.1, this.2 h0⟩

theorem bnBitsW_val (hw : 0 < cfg.w) (a : Bn) (ha : a.WF cfg.B) :
    bnBitsW cfg.w a = (if val cfg.B a.dp = 0 then 0 else Nat.log2 (val cfg.B a.dp) + 1) :=
  Nat.le_antisymm ((bnBitsW_le_iff cfg hw a ha _).2 (Lemmas.NatBits.lt_two_pow_bl _))
    ((Lemmas.NatBits.bl_le_iff _ _).2 ((bnBitsW_le_iff cfg hw a ha _).1 (Nat.le_refl _)))

theorem High.digit_bit (w b x r : Nat) (hb : b < w) :
    (x + 2 ^ w * r) / 2 ^ b % 2 = x / 2 ^ b % 2 := by
  have hw : 2 ^ w = 2 ^ b * (2 * 2 ^ (w - b - 1)) := by
    rw [← Nat.pow_succ', ← Nat.pow_add]; congr 1; omega
  rw [hw, Nat.mul_assoc, Nat.add_mul_div_left _ _ (Nat.pow_pos (by omega)), Nat.mul_assoc,
    Nat.add_mul_mod_self_left]

end Relic.Model
