/-
The scalar-multiplication loops of Model/EbMul.lean compute the integer (resp. the element of Z[τ]) their digit string
denotes times the base point: right-to-left w-NAF with buckets, the halving loop, the single-table comb, and the Koblitz
(τ-adic) tables and loops in a module over a commutative ring containing τ (the Frobenius acts as x ↦ τ • x).
-/
import Mathlib.Tactic.IntervalCases
import Mathlib.Tactic.Module
import RelicVerif.Model.EbMul
import RelicVerif.Lemmas.MulAlg
import RelicVerif.Lemmas.Tnaf

namespace Relic.Lemmas.EbMul
open Relic.Model Relic.Model.MulAlg Relic.Model.EbMul Relic.Model.Tnaf Relic.Lemmas.Tnaf

variable {G : Type} [AddCommGroup G]

/-! ### buckets of the right-to-left loops -/

section buckets
variable {R : Type} [CommRing R] [Module R G]

def wsumR (wt : ℕ → R) : ℕ → List G → G
  | _, [] => 0
  | s, b :: bs => wt s • b + wsumR wt (s + 1) bs

theorem wsumR_set (wt : ℕ → R) : ∀ (bk : List G) (s i : ℕ) (x : G), i < bk.length →
    wsumR wt s (bk.set i x) = wsumR wt s bk + wt (s + i) • (x - bk.getD i 0) := by
  intro bk
  induction bk with
  | nil => intro s i x h; simp at h
  | cons b bs ih =>
    intro s i x h
    cases i with
    | zero => simp only [List.set_cons_zero, wsumR, List.getD_cons_zero, Nat.add_zero, smul_sub]; abel
    | succ i =>
      simp only [List.set_cons_succ, wsumR, List.getD_cons_succ]
      rw [ih (s + 1) i x (by simpa using h), show s + 1 + i = s + (i + 1) by omega]
      abel

theorem wsumR_replicate (wt : ℕ → R) (n s : ℕ) : wsumR wt s (List.replicate n (0 : G)) = 0 := by
  induction n generalizing s with
  | zero => rfl
  | succ n ih => simp [List.replicate_succ, wsumR, ih]

theorem bucketAdd_length (bk : List G) (d : ℤ) (q : G) : (bucketAdd gops bk d q).length = bk.length := by
  unfold bucketAdd; split_ifs <;> simp

theorem bucketAdd_wsum (wt : ℕ → R) (dv : ℤ → R) (bk : List G) (d : ℤ) (q : G) (hdv : DigitVal wt dv bk.length)
    (hd : d = 0 ∨ (d % 2 ≠ 0 ∧ d.natAbs < 2 * bk.length)) :
    wsumR wt 0 (bucketAdd gops bk d q) = wsumR wt 0 bk + dv d • q := by
  unfold bucketAdd
  rcases digit_cases d _ hd with rfl | ⟨j, hj, rfl⟩ | ⟨j, hj, rfl⟩
  · simp [hdv.1]
  · rw [if_pos (odd_pos j), odd_toNat_div, wsumR_set wt bk 0 _ _ hj, (hdv.2 j hj).1]; simp
  · rw [if_neg (lt_asymm (neg_odd_neg j)), if_pos (neg_odd_neg j), neg_neg, odd_toNat_div, wsumR_set wt bk 0 _ _ hj,
      (hdv.2 j hj).2]
    simp

theorem bucketFold (wt : ℕ → R) (dv : ℤ → R) (c : R) (step : G → G) (hstep : ∀ x, step x = c • x) :
    ∀ (ds : List ℤ) (bk : List G) (q : G), DigitVal wt dv bk.length →
      (∀ d ∈ ds, d = 0 ∨ (d % 2 ≠ 0 ∧ d.natAbs < 2 * bk.length)) →
      (ds.foldl (fun (st : List G × G) d => (bucketAdd gops st.1 d st.2, step st.2)) (bk, q)).1.length = bk.length ∧
      wsumR wt 0 (ds.foldl (fun (st : List G × G) d => (bucketAdd gops st.1 d st.2, step st.2)) (bk, q)).1
        = wsumR wt 0 bk + evalW dv c ds • q := by
  intro ds
  induction ds with
  | nil => intro bk q _ _; simp [evalW]
  | cons d t ih =>
    intro bk q hdv h
    simp only [List.foldl_cons]
    have hl := bucketAdd_length bk d q
    obtain ⟨h1, h2⟩ := ih (bucketAdd gops bk d q) (step q) (hl ▸ hdv)
      (fun x hx => by rw [hl]; exact h x (List.mem_cons_of_mem _ hx))
    refine ⟨by rw [h1, hl], ?_⟩
    rw [h2, bucketAdd_wsum wt dv bk d q hdv (h d List.mem_cons_self), hstep]
    show _ + evalW dv c t • c • q = _ + (dv d + c * evalW dv c t) • q
    rw [add_smul, mul_comm c, mul_smul, add_assoc]

theorem wsumR_eq_range (wt : ℕ → R) : ∀ (bk : List G) (s : ℕ),
    wsumR wt s bk = ((List.range bk.length).map fun (j : ℕ) => wt (s + j) • bk.getD j 0).sum := by
  intro bk
  induction bk with
  | nil => intro s; simp [wsumR]
  | cons b bs ih =>
    intro s
    rw [wsumR, ih, List.length_cons, List.range_succ_eq_map, List.map_cons, List.sum_cons, List.map_map]
    simp only [Nat.add_zero, List.getD_cons_zero]
    congr 2
    apply List.map_congr_left
    intro j _
    simp only [Function.comp, List.getD_cons_succ, Nat.succ_eq_add_one]
    rw [show s + 1 + j = s + (j + 1) by omega]

end buckets

/-! ### the ordinary case: weights 2j+1 over ℤ -/

theorem foldl_gops_add (l : List G) (a : G) : l.foldl gops.add a = a + l.sum := by
  induction l generalizing a with
  | nil => simp
  | cons x t ih => rw [List.foldl_cons, ih, gops_add, List.sum_cons, add_assoc]

/-- the suffix sums of combineOdd -/
def sufL (bk : List G) : List G := bk.foldr (fun b (acc : List G) => (gops.add b (acc.headD gops.zero)) :: acc) []

theorem sufL_cons (b : G) (t : List G) : sufL (b :: t) = (b + (sufL t).headD 0) :: sufL t := rfl

theorem sufL_head (bk : List G) : (sufL bk).headD 0 = bk.sum := by
  induction bk with
  | nil => rfl
  | cons b t ih => rw [sufL_cons, List.headD_cons, ih, List.sum_cons]

theorem sufL_sum (bs : List G) (s : ℕ) :
    (2 : ℤ) • (sufL bs).sum + (2 * (s : ℤ) - 1) • bs.sum = wsumR wtOdd s bs := by
  induction bs generalizing s with
  | nil => simp [sufL, wsumR]
  | cons b t ih =>
    rw [sufL_cons, sufL_head, wsumR, ← ih, List.sum_cons, List.sum_cons]
    simp only [wtOdd]
    push_cast
    module

theorem combineOdd_wsum (bk : List G) : combineOdd gops bk = wsumR wtOdd 0 bk := by
  cases bk with
  | nil => rfl
  | cons b t =>
    show gops.add (gops.dbl ((sufL t).foldl gops.add gops.zero)) (b + (sufL t).headD 0) = _
    rw [foldl_gops_add, sufL_head, wsumR, ← sufL_sum, gops_add, gops_dbl, gops_zero]
    simp only [wtOdd]
    push_cast
    module

/-- the summation trick of eb_mul_halve: Σ (2j+1)·t[j] -/
theorem combineOdd_spec (bk : List G) :
    combineOdd gops bk = ((List.range bk.length).map fun (j : Nat) => (2 * (j : ℤ) + 1) • bk.getD j 0).sum := by
  rw [combineOdd_wsum, wsumR_eq_range]
  simp only [wtOdd, Nat.zero_add]

theorem mulRnaf4_spec (p : G) (ds : List Int) (hd : ∀ d ∈ ds, d = 0 ∨ (d % 2 ≠ 0 ∧ d.natAbs < 8)) :
    mulRnaf4 gops p ds = (Rec.eval 1 ds) • p := by
  obtain ⟨hlen, hw⟩ := bucketFold wtOdd id (2 : ℤ) gops.dbl (fun x => gops_dbl x) ds (List.replicate 4 (0 : G)) p
    (digitVal_odd _) (by simpa using hd)
  rw [wsumR_replicate, zero_add] at hw
  rw [eval_eq_evalW, pow_one, ← hw]
  unfold mulRnaf4 buckets
  simp only [gops_zero]
  generalize (ds.foldl (fun (st : List G × G) d => (bucketAdd gops st.1 d st.2, gops.dbl st.2))
    (List.replicate 4 (0 : G), p)).1 = bk at hlen ⊢
  match bk, hlen with
  | [a, b, c, d], _ =>
    simp only [List.getD_cons_zero, List.getD_cons_succ, gops_add, gops_sub, gops_dbl, dblN_spec, wsumR, wtOdd]
    push_cast
    module

/-! ### halving -/

theorem eval_pad (l : ℕ) (naf : List ℤ) (h : naf.length ≤ l + 1) :
    Rec.eval 1 naf = Rec.eval 1 ((List.range l).map fun i => naf.getD i 0) + 2 ^ l * naf.getD l 0 := by
  rw [eval_eq_sum 1 2 rfl (l + 1) naf h, Finset.sum_range_succ, eval_eq_sum 1 2 rfl l _ (by simp)]
  congr 1
  apply Finset.sum_congr rfl
  intro i hi
  simp [List.getD_eq_getElem?_getD, Finset.mem_range.1 hi]

theorem two_c_pow (N c : ℤ) (hc : N ∣ 2 * c - 1) (j : ℕ) : N ∣ (2 * c) ^ j - 1 := by
  induction j with
  | zero => simp
  | succ j ih =>
    have : (2 * c) ^ (j + 1) - 1 = (2 * c) ^ j * (2 * c - 1) + ((2 * c) ^ j - 1) := by ring
    rw [this]
    exact dvd_add (dvd_mul_of_dvd_right hc _) ih

theorem rev_mod (N c : ℤ) (hc : N ∣ 2 * c - 1) (A : List ℤ) :
    N ∣ 2 ^ A.length * evalW id c A.reverse - 2 * Rec.eval 1 A := by
  induction A with
  | nil => simp [evalW]
  | cons x t ih =>
    rw [List.reverse_cons, evalW_append, List.length_reverse, List.length_cons, Rec.eval_cons]
    have : 2 ^ (t.length + 1) * (evalW id c t.reverse + c ^ t.length * evalW id c [x]) - 2 * (x + 2 ^ 1 * Rec.eval 1 t)
        = 2 * (2 ^ t.length * evalW id c t.reverse - 2 * Rec.eval 1 t) + 2 * x * ((2 * c) ^ t.length - 1) := by
      simp only [evalW, List.foldr_cons, List.foldr_nil, id]
      rw [mul_pow]; ring
    rw [this]
    exact dvd_add (dvd_mul_of_dvd_right ih _) (dvd_mul_of_dvd_right (two_c_pow N c hc _) _)

/-- digit i < l meets c^(l-1-i) • P (c • x is the halving map); a top digit 1 contributes 2P -/
theorem mulHalve_spec (p : G) (c : ℤ) (w l : Nat) (hw : 2 ≤ w) (naf : List Int)
    (hd : ∀ d ∈ naf, d = 0 ∨ (d % 2 ≠ 0 ∧ d.natAbs < 2 ^ (w - 1))) (htop : naf.getD l 0 = 0 ∨ naf.getD l 0 = 1) :
    mulHalve gops (fun x => c • x) w l p naf
      = (2 * naf.getD l 0 + evalW id c ((List.range l).map fun i => naf.getD i 0).reverse) • p := by
  set bk0 : List G := if naf.getD l 0 = 1 then (List.replicate (2 ^ (w - 2)) (0 : G)).set 0 (gops.dbl p)
    else List.replicate (2 ^ (w - 2)) (0 : G) with hbk0
  have hbk0len : bk0.length = 2 ^ (w - 2) := by
    rw [hbk0]; split_ifs <;> simp
  have hbk0sum : wsumR wtOdd 0 bk0 = (2 * naf.getD l 0) • p := by
    rw [hbk0]
    rcases htop with h | h
    · rw [h, if_neg (by decide), wsumR_replicate]; simp
    · rw [h, if_pos rfl, wsumR_set _ _ _ _ _ (by simp), wsumR_replicate]
      simp [wtOdd]
  obtain ⟨_, hw2⟩ := bucketFold wtOdd id c (fun x => c • x) (fun _ => rfl)
    ((List.range l).map fun i => naf.getD i 0).reverse bk0 p (digitVal_odd _) (by
      intro d hdm
      rw [List.mem_reverse, List.mem_map] at hdm
      obtain ⟨i, _, rfl⟩ := hdm
      rw [hbk0len, ← two_pow_pred w hw]
      exact getD_zero_prop (fun d => d = 0 ∨ (d % 2 ≠ 0 ∧ d.natAbs < 2 ^ (w - 1))) naf (Or.inl rfl) hd i)
  unfold mulHalve
  simp only [gops_zero]
  rw [combineOdd_wsum, ← List.foldl_map (g := fun (st : List G × G) d => (bucketAdd gops st.1 d st.2, c • st.2)),
    List.map_reverse, hw2, hbk0sum, ← add_zsmul]

/-- with c = 1/2 modulo n, the digits of k·2^(l-1) read against the halved points give k modulo n -/
theorem halve_arith (n c k t : ℤ) (hc : n ∣ 2 * c - 1) (l : ℕ) (hl : 1 ≤ l) (A : List ℤ) (hA : A.length = l)
    (hval : n ∣ Rec.eval 1 A + 2 ^ l * t - k * 2 ^ (l - 1)) : n ∣ 2 * t + evalW id c A.reverse - k := by
  have h1 := rev_mod n c hc A
  rw [hA] at h1
  have h3 := two_c_pow n c hc l
  obtain ⟨l', rfl⟩ : ∃ l', l = l' + 1 := ⟨l - 1, by omega⟩
  simp only [Nat.add_sub_cancel] at hval
  generalize evalW id c A.reverse = E at h1 ⊢
  have h4 : n ∣ 2 ^ (l' + 1) * (2 * t + E - k) := by
    have : 2 ^ (l' + 1) * (2 * t + E - k)
        = (2 ^ (l' + 1) * E - 2 * Rec.eval 1 A) + 2 * (Rec.eval 1 A + 2 ^ (l' + 1) * t - k * 2 ^ l') := by ring
    rw [this]
    exact dvd_add h1 (dvd_mul_of_dvd_right hval _)
  have : 2 * t + E - k = c ^ (l' + 1) * (2 ^ (l' + 1) * (2 * t + E - k))
      - ((2 * c) ^ (l' + 1) - 1) * (2 * t + E - k) := by
    rw [mul_pow]; ring
  rw [this]
  exact dvd_sub (dvd_mul_of_dvd_right h4 _) (dvd_mul_of_dvd_left h3 _)

theorem mulHalve_correct (p : G) (n : ℕ) (hn : (n : ℤ) • p = 0) (c : ℤ) (hc : (2 * c - 1) % (n : ℤ) = 0)
    (w l : Nat) (hw : 2 ≤ w) (hl : 1 ≤ l) (k : ℤ) (naf : List Int)
    (hd : ∀ d ∈ naf, d = 0 ∨ (d % 2 ≠ 0 ∧ d.natAbs < 2 ^ (w - 1)))
    (hlen : naf.length ≤ l + 1) (htop : naf.getD l 0 = 0 ∨ naf.getD l 0 = 1)
    (hval : (Rec.eval 1 naf - k * 2 ^ (l - 1)) % (n : ℤ) = 0) :
    mulHalve gops (fun x => c • x) w l p naf = k • p := by
  rw [mulHalve_spec p c w l hw naf hd htop]
  refine zsmul_of_dvd_sub p n hn _ k (halve_arith n c k _ (Int.dvd_of_emod_eq_zero hc) l hl _ (by simp) ?_)
  rw [← eval_pad l naf hlen]
  exact Int.dvd_of_emod_eq_zero hval

/-! ### fixed-base comb -/

/-- what the table entry c stands for: Σ_j bit_j(c)·2^(j·l) -/
def combVal (l d c : ℕ) : ℤ := ((List.range d).map fun (j : Nat) => (((c >>> j) % 2 : ℕ) : ℤ) * 2 ^ (j * l)).sum

theorem combVal_succ (l d c : ℕ) :
    combVal l (d + 1) c = combVal l d c + (((c >>> d) % 2 : ℕ) : ℤ) * 2 ^ (d * l) := by
  simp [combVal, List.range_succ]

theorem combVal_congr (l d c c' : ℕ) (h : ∀ j, j < d → (c >>> j) % 2 = (c' >>> j) % 2) :
    combVal l d c = combVal l d c' := by
  unfold combVal
  congr 1
  apply List.map_congr_left
  intro j hj
  rw [h j (List.mem_range.1 hj)]

theorem combVal_zero (l d : ℕ) : combVal l d 0 = 0 := by
  induction d with
  | zero => rfl
  | succ d ih => rw [combVal_succ, ih]; simp

theorem combVal_low (l d c : ℕ) (h : c < 2 ^ d) : combVal l (d + 1) c = combVal l d c := by
  rw [combVal_succ, Nat.shiftRight_eq_div_pow, Nat.div_eq_of_lt h]; simp

theorem combVal_high (l d i : ℕ) (h : i < 2 ^ d) : combVal l (d + 1) (2 ^ d + i) = combVal l d i + 2 ^ (d * l) := by
  rw [combVal_succ]
  congr 1
  · apply combVal_congr
    intro j hj
    rw [Nat.shiftRight_eq_div_pow, Nat.shiftRight_eq_div_pow,
      show 2 ^ d = 2 ^ j * (2 * 2 ^ (d - j - 1)) by
        rw [← pow_succ', ← pow_add]; congr 1; omega,
      Nat.mul_add_div (by positivity), Nat.mul_add_mod]
  · rw [Nat.shiftRight_eq_div_pow]
    have : (2 ^ d + i) / 2 ^ d = 1 := by
      rw [show 2 ^ d + i = 2 ^ d * 1 + i by ring, Nat.mul_add_div (by positivity), Nat.div_eq_of_lt h]
    rw [this]; simp

theorem combVal_pow (l d : ℕ) : combVal l (d + 1) (2 ^ d) = 2 ^ (d * l) := by
  rw [show 2 ^ d = 2 ^ d + 0 by rfl, combVal_high l d 0 (by positivity), combVal_zero, zero_add]

/-- the step of both ep/eb_mul_pre_combs and ed_mul_pre_combs -/
theorem comb_double (p : G) (l d : ℕ) (t : List G) (top : G) (hlen : t.length = 2 ^ d)
    (ht : ∀ c, c < 2 ^ d → t.getD c 0 = combVal l d c • p) (htop : top = (2 ^ (d * l) : ℤ) • p) :
    (t ++ t.map fun x => gops.add x top).length = 2 ^ (d + 1) ∧
    ∀ c, c < 2 ^ (d + 1) → (t ++ t.map fun x => gops.add x top).getD c 0 = combVal l (d + 1) c • p := by
  refine ⟨by simp [hlen, Nat.pow_succ, Nat.mul_two], fun c hc => ?_⟩
  by_cases hcd : c < 2 ^ d
  · rw [List.getD_append _ _ _ _ (by omega), ht c hcd, combVal_low l d c hcd]
  · obtain ⟨v, rfl⟩ : ∃ v, c = 2 ^ d + v := ⟨c - 2 ^ d, by omega⟩
    have hv : v < 2 ^ d := by rw [Nat.pow_succ] at hc; omega
    have hv' : v < t.length := by omega
    rw [List.getD_append_right _ _ _ _ (by omega), hlen, Nat.add_sub_cancel_left,
      List.getD_eq_getElem _ _ (by simpa using hv'), List.getElem_map, ← List.getD_eq_getElem _ 0 hv', ht v hv,
      gops_add, htop, ← add_zsmul, combVal_high l d v hv]

theorem tabCombs_spec (p : G) (l d : Nat) :
    (tabCombs gops p l d).length = 2 ^ d ∧
    ∀ c, c < 2 ^ d → (tabCombs gops p l d).getD c 0 = combVal l d c • p := by
  induction d with
  | zero =>
    refine ⟨rfl, fun c hc => ?_⟩
    obtain rfl : c = 0 := by omega
    rw [combVal_zero, zero_smul]; rfl
  | succ d ih =>
    cases d with
    | zero =>
      refine ⟨rfl, fun c hc => ?_⟩
      have : c = 0 ∨ c = 1 := by omega
      rcases this with rfl | rfl
      · rw [combVal_zero, zero_smul]; rfl
      · rw [show combVal l 1 1 = 1 by simp [combVal], one_smul]; rfl
    | succ d =>
      obtain ⟨hlen, ht⟩ := ih
      have hbase : dblN gops l ((tabCombs gops p l (d + 1)).getD (2 ^ d) gops.zero)
          = (2 ^ ((d + 1) * l) : ℤ) • p := by
        rw [dblN_spec, gops_zero, ht _ (Nat.pow_lt_pow_right (by decide) (Nat.lt_succ_self d)), combVal_pow,
          ← mul_zsmul, ← pow_add, Nat.succ_mul, Nat.add_comm]
      -- the first entry is O, so `base :: tail shifted` is the whole table shifted
      have h0 := ht 0 (by positivity)
      rw [combVal_zero, zero_smul] at h0
      rw [tabCombs]
      generalize tabCombs gops p l (d + 1) = t at hlen ht hbase h0
      cases t with
      | nil => exact absurd hlen (Nat.two_pow_pos _).ne
      | cons x tl =>
        obtain rfl : x = 0 := by simpa using h0
        have := comb_double p l (d + 1) (0 :: tl) _ hlen ht hbase
        simp only [List.map_cons, gops_add, zero_add, List.tail_cons] at this ⊢
        exact this

theorem combCol_succ (k l d i : ℕ) :
    combCol k l (d + 1) i = combCol k l d i + ((k >>> (i + d * l)) % 2) * 2 ^ d := by
  simp [combCol, List.range_succ]

theorem combCol_lt (k l d i : ℕ) : combCol k l d i < 2 ^ d := by
  induction d with
  | zero => simp [combCol]
  | succ d ih =>
    rw [combCol_succ, pow_succ]
    rcases Nat.mod_two_eq_zero_or_one (k >>> (i + d * l)) with h | h <;> rw [h] <;> omega

theorem combVal_combCol (k l d i : ℕ) :
    combVal l d (combCol k l d i)
      = ∑ j ∈ Finset.range d, (((k >>> (i + j * l)) % 2 : ℕ) : ℤ) * 2 ^ (j * l) := by
  induction d with
  | zero => simp [combVal, combCol]
  | succ d ih =>
    rw [combCol_succ, Finset.sum_range_succ, ← ih]
    have hlt := combCol_lt k l d i
    rcases Nat.mod_two_eq_zero_or_one (k >>> (i + d * l)) with h | h <;> rw [h]
    · simp [combVal_low l d _ hlt]
    · rw [Nat.one_mul, Nat.add_comm (combCol k l d i), combVal_high l d _ hlt]; simp

theorem comb_total (k l d : ℕ) :
    ∑ i ∈ Finset.range l, combVal l d (combCol k l d i) * 2 ^ i = ((k % 2 ^ (l * d) : ℕ) : ℤ) := by
  simp only [combVal_combCol]
  induction d with
  | zero => simp [Nat.mod_one]
  | succ d ih =>
    simp only [Finset.sum_range_succ, add_mul, Finset.sum_add_distrib]
    rw [ih, Nat.mul_succ, pow_add, Nat.mod_mul, Nat.cast_add, Nat.cast_mul, ← bits_sum (k / 2 ^ (l * d)) l, Finset.mul_sum]
    congr 1
    apply Finset.sum_congr rfl
    intro i _
    rw [Nat.add_comm i, Nat.shiftRight_add, Nat.shiftRight_eq_div_pow k, Nat.mul_comm d l]
    push_cast
    ring

theorem tab_get (p : G) (k l d i : ℕ) :
    (tabCombs gops p l d).getD (combCol k l d i) 0 = combVal l d (combCol k l d i) • p :=
  (tabCombs_spec p l d).2 _ (combCol_lt k l d i)

theorem combs_step (p : G) (k l d : ℕ) :
    (fun (r : G) (i : ℕ) =>
      let r := gops.dbl r
      let c := combCol k l d i
      if c > 0 then gops.add r ((tabCombs gops p l d).getD c gops.zero) else r)
      = fun r i => (2 : ℤ) • r + combVal l d (combCol k l d i) • p := by
  funext r i
  simp only [gops_dbl, gops_add, gops_zero, tab_get]
  split_ifs with hc
  · rfl
  · rw [show combCol k l d i = 0 by omega, combVal_zero, zero_smul, add_zero]

theorem mulCombs_spec (p : G) (k l d : Nat) (hk : k < 2 ^ (l * d)) :
    mulCombs gops (tabCombs gops p l d) k l d = (k : ℤ) • p := by
  unfold mulCombs
  rw [combs_step, gops_zero, loop_eval, comb_total, Nat.mod_eq_of_lt hk]

/-! ### Koblitz curves -/

variable {R : Type} [CommRing R] [Module R G] (τ : R) (u : ℤ)

theorem frb2 (hτ : τ ^ 2 = (u : R) * τ - 2) (x : G) : τ • τ • x = ((u : R) * τ - 2) • x := by
  rw [smul_smul, ← pow_two, hτ]

theorem frb3 (hτ : τ ^ 2 = (u : R) * τ - 2) (x : G) :
    τ • τ • τ • x = (((u : R) ^ 2 - 2) * τ - 2 * (u : R)) • x := by
  rw [smul_smul, smul_smul]
  congr 1
  linear_combination (τ + (u : R)) * hτ

theorem ite_mu (hu : u = 1 ∨ u = -1) (x : G) : (if u = -1 then -x else x) = (u : R) • x := by
  rcases hu with rfl | rfl <;> simp

/-- eb_tab builds its entries by additions from μτ; τ² = μτ - 2 brings them to the form β + γτ -/
theorem tabKbltz4_eq (hτ : τ ^ 2 = (u : R) * τ - 2) (hu : u = 1 ∨ u = -1) (p : G) :
    tabKbltz4 gops (fun x => τ • x) u p =
      [(1, 0), (-3, u), (-1, u), (1, u)].map fun a : ZT => (ev τ a : R) • p := by
  simp only [tabKbltz4, gops_sub, gops_add, gops_neg, ite_mu (R := R) u hu, frb2 τ _ hτ, ev, List.map_cons, List.map_nil,
    List.cons.injEq, and_true]
  push_cast
  refine ⟨?_, ?_, ?_, ?_⟩ <;> module

theorem tabKbltz4_spec (hτ : τ ^ 2 = (u : R) * τ - 2) (hu : u = 1 ∨ u = -1) (p : G) (j : Nat) (hj : j < 4) :
    (tabKbltz4 gops (fun x => τ • x) u p).getD j 0 = (ev τ (alpha u 4 (2 * (j : ℤ) + 1)) : R) • p := by
  rw [tabKbltz4_eq τ u hτ hu]
  interval_cases j <;> rfl

theorem tabKbltz5_eq (hτ : τ ^ 2 = (u : R) * τ - 2) (hu : u = 1 ∨ u = -1) (p : G) :
    tabKbltz5 gops (fun x => τ • x) u p =
      [(1, 0), (-3, u), (-1, u), (1, u), (-3, 2 * u), (-1, 2 * u), (1, 2 * u), (1, -3 * u)].map
        fun a : ZT => (ev τ a : R) • p := by
  simp only [tabKbltz5, gops_sub, gops_add, gops_neg, ite_mu (R := R) u hu, frb2 τ _ hτ, ev, List.map_cons, List.map_nil,
    List.cons.injEq, and_true]
  push_cast
  refine ⟨?_, ?_, ?_, ?_, ?_, ?_, ?_, ?_⟩ <;> module

theorem tabKbltz5_spec (hτ : τ ^ 2 = (u : R) * τ - 2) (hu : u = 1 ∨ u = -1) (p : G) (j : Nat) (hj : j < 8) :
    (tabKbltz5 gops (fun x => τ • x) u p).getD j 0 = (ev τ (alpha u 5 (2 * (j : ℤ) + 1)) : R) • p := by
  rw [tabKbltz5_eq τ u hτ hu]
  interval_cases j <;> rfl

theorem ev_alpha_neg (w : ℕ) (hw : 3 ≤ w) (d : ℤ) (hd : d < 0) :
    ev τ (alpha u w d) = - ev τ (alpha u w (-d)) := by
  have h1 : d ≠ 0 := by omega
  have h2 : -d ≠ 0 := by omega
  have h3 : w ≠ 2 := by omega
  have h4 : ¬ (-d < 0) := by omega
  simp only [alpha, h1, h2, h3, h4, hd, if_true, if_false, Int.natAbs_neg, ev, Int.cast_neg]
  ring

theorem evalTau_eq_evalW (w : ℕ) (ds : List ℤ) :
    evalTau τ u w ds = evalW (fun d => ev τ (alpha u w d)) τ ds := rfl

theorem digitVal_tau (w : ℕ) (hw : 3 ≤ w) (n : ℕ) :
    DigitVal (fun (j : ℕ) => ev τ (alpha u w (2 * (j : ℤ) + 1))) (fun d => ev τ (alpha u w d)) n :=
  ⟨by simp [alpha_zero, ev_zero], fun j _ => ⟨rfl, by
    show ev τ (alpha u w (-(2 * (j : ℤ) + 1))) = _
    rw [ev_alpha_neg τ u w hw _ (neg_odd_neg j), neg_neg]⟩⟩

/-- eb_mul_ltnaf_imp and eb_mul_fix_kbltz -/
theorem mulTnaf_spec (w : Nat) (hw : 3 ≤ w) (p : G) (tab : List G)
    (htab : ∀ j, j < tab.length → tab.getD j 0 = (ev τ (alpha u w (2 * (j : ℤ) + 1)) : R) • p)
    (ds : List Int) (hd : ∀ d ∈ ds, d = 0 ∨ (d % 2 ≠ 0 ∧ d.natAbs < 2 * tab.length)) :
    mulTnaf gops (fun x => τ • x) tab 0 ds = (evalTau τ u w ds : R) • p :=
  ltr_fold (fun d => ev τ (alpha u w d)) τ p _ ds fun d hdm r =>
    tableStep _ _ id (fun _ _ => rfl) p tab (digitVal_tau τ u w hw _) htab (τ • r) d (hd d hdm)

theorem mulTnafRtl4_spec (hτ : τ ^ 2 = (u : R) * τ - 2) (hu : u = 1 ∨ u = -1) (p : G) (ds : List Int)
    (hd : ∀ d ∈ ds, d = 0 ∨ (d % 2 ≠ 0 ∧ d.natAbs < 8)) :
    mulTnafRtl4 gops (fun x => τ • x) u p ds = (evalTau τ u 4 ds : R) • p := by
  obtain ⟨hlen, hw⟩ := bucketFold (fun (j : ℕ) => ev τ (alpha u 4 (2 * (j : ℤ) + 1))) (fun d => ev τ (alpha u 4 d)) τ
    (fun x => τ • x) (fun _ => rfl) ds (List.replicate 4 (0 : G)) p
    (digitVal_tau τ u 4 (by decide) _) (by simpa using hd)
  rw [wsumR_replicate, zero_add] at hw
  rw [evalTau_eq_evalW, ← hw]
  unfold mulTnafRtl4 buckets
  simp only [gops_zero]
  generalize (ds.foldl (fun (st : List G × G) d => (bucketAdd gops st.1 d st.2, (fun x => τ • x) st.2))
    (List.replicate 4 (0 : G), p)).1 = bk at hlen ⊢
  have a0 : ∀ u : ℤ, alpha u 4 (2 * ((0 : ℕ) : ℤ) + 1) = (1, 0) := by intro u; rfl
  have a1 : ∀ u : ℤ, alpha u 4 (2 * ((0 + 1 : ℕ) : ℤ) + 1) = (-3, u) := by intro u; rfl
  have a2 : ∀ u : ℤ, alpha u 4 (2 * ((0 + 1 + 1 : ℕ) : ℤ) + 1) = (-1, u) := by intro u; rfl
  have a3 : ∀ u : ℤ, alpha u 4 (2 * ((0 + 1 + 1 + 1 : ℕ) : ℤ) + 1) = (1, u) := by intro u; rfl
  match bk, hlen with
  | [a, b, c, d], _ =>
    simp only [List.getD_cons_zero, List.getD_cons_succ, gops_add, gops_sub, gops_neg, wsumR, a0, a1, a2, a3, ev]
    rw [frb3 τ u hτ, frb2 τ u hτ, frb2 τ u hτ]
    rcases hu with rfl | rfl
    · rw [if_pos rfl]; push_cast; module
    · rw [if_neg (by decide)]; push_cast; module

/-- τ^m fixes every point of E(GF(2^m)) -/
theorem kbltz_mul_correct (m w : Nat) (p : G) (hfix : (τ ^ m - 1 : R) • p = 0) (k : ℕ) (ds : List Int)
    (hk : ∃ ρ : R, (k : R) = evalTau τ u w ds + (τ ^ m - 1) * ρ) :
    (evalTau τ u w ds : R) • p = (k : ℤ) • p := by
  obtain ⟨ρ, hρ⟩ := hk
  rw [natCast_zsmul, ← Nat.cast_smul_eq_nsmul R k p, hρ, add_smul, mul_comm, mul_smul, hfix, smul_zero, add_zero]

end Relic.Lemmas.EbMul
