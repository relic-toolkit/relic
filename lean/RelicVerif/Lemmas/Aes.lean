/-
FIPS 197 (Spec/Aes.lean): InvCipher inverts Cipher, for every list of 16-byte round keys and so for every key of 16 / 24 / 32
bytes.  The S-boxes are *computed* in the spec (`ginv` by search); they are identified with the literal tables of FIPS 197
through uniqueness of inverses in GF(2^8), not by evaluating the search.  InvMixColumns ∘ MixColumns = id because circulant
matrices multiply as circulants and the two products are the unit.  No Mathlib, here and in the files about the table-driven code.
-/
import RelicVerif.Spec.Aes
import RelicVerif.Lemmas.NatBits
import RelicVerif.Lemmas.Loops
namespace Relic.Lemmas.Aes
open Relic.Spec.Aes

theorem addRoundKey_cancel (s k : Bytes) (h : s.length ≤ k.length) :
    addRoundKey (addRoundKey s k) k = s :=
  Loops.zipWith_xor_cancel s k h

theorem addRoundKey_length (a b : Bytes) : (addRoundKey a b).length = min a.length b.length := by
  simp [addRoundKey]

theorem addRoundKey_length16 (s k : Bytes) (hs : s.length = 16) (hk : k.length = 16) :
    (addRoundKey s k).length = 16 := by
  rw [addRoundKey_length]; omega

theorem subBytes_length (s : Bytes) : (subBytes s).length = s.length := by simp [subBytes]
theorem invSubBytes_length (s : Bytes) : (invSubBytes s).length = s.length := by simp [invSubBytes]
theorem shiftRows_length (s : Bytes) : (shiftRows s).length = 16 := by simp [shiftRows]
theorem invShiftRows_length (s : Bytes) : (invShiftRows s).length = 16 := by simp [invShiftRows]
theorem mixColumn_length (m : List UInt8) (c : Bytes) : (mixColumn m c).length = 4 := by simp [mixColumn]
theorem mixColumns_length (s : Bytes) : (mixColumns s).length = 16 := by
  simp [mixColumns, mixColumn_length, List.range_succ]
theorem invMixColumns_length (s : Bytes) : (invMixColumns s).length = 16 := by
  simp [invMixColumns, mixColumn_length, List.range_succ]

theorem exists_sixteen (s : Bytes) (h : s.length = 16) :
    ∃ a0 a1 a2 a3 a4 a5 a6 a7 a8 a9 a10 a11 a12 a13 a14 a15,
      s = [a0, a1, a2, a3, a4, a5, a6, a7, a8, a9, a10, a11, a12, a13, a14, a15] := by
  match s, h with
  | [a0, a1, a2, a3, a4, a5, a6, a7, a8, a9, a10, a11, a12, a13, a14, a15], _ =>
    exact ⟨a0, a1, a2, a3, a4, a5, a6, a7, a8, a9, a10, a11, a12, a13, a14, a15, rfl⟩

theorem range16 : List.range 16 = [0,1,2,3,4,5,6,7,8,9,10,11,12,13,14,15] := by decide
theorem range4 : List.range 4 = [0,1,2,3] := by decide
theorem range8 : List.range 8 = [0,1,2,3,4,5,6,7] := by decide

theorem shiftRows_sixteen (a0 a1 a2 a3 a4 a5 a6 a7 a8 a9 a10 a11 a12 a13 a14 a15 : UInt8) :
    shiftRows [a0, a1, a2, a3, a4, a5, a6, a7, a8, a9, a10, a11, a12, a13, a14, a15]
      = [a0, a5, a10, a15, a4, a9, a14, a3, a8, a13, a2, a7, a12, a1, a6, a11] := by
  simp [shiftRows, range16]

theorem invShiftRows_sixteen (a0 a1 a2 a3 a4 a5 a6 a7 a8 a9 a10 a11 a12 a13 a14 a15 : UInt8) :
    invShiftRows [a0, a1, a2, a3, a4, a5, a6, a7, a8, a9, a10, a11, a12, a13, a14, a15]
      = [a0, a13, a10, a7, a4, a1, a14, a11, a8, a5, a2, a15, a12, a9, a6, a3] := by
  simp [invShiftRows, range16]

theorem invShiftRows_shiftRows (s : Bytes) (h : s.length = 16) : invShiftRows (shiftRows s) = s := by
  obtain ⟨a0, a1, a2, a3, a4, a5, a6, a7, a8, a9, a10, a11, a12, a13, a14, a15, rfl⟩ := exists_sixteen s h
  rw [shiftRows_sixteen, invShiftRows_sixteen]

theorem shiftRows_invShiftRows (s : Bytes) (h : s.length = 16) : shiftRows (invShiftRows s) = s := by
  obtain ⟨a0, a1, a2, a3, a4, a5, a6, a7, a8, a9, a10, a11, a12, a13, a14, a15, rfl⟩ := exists_sixteen s h
  rw [invShiftRows_sixteen, shiftRows_sixteen]

theorem shiftRows_map (f : UInt8 → UInt8) (s : Bytes) (h : s.length = 16) :
    shiftRows (s.map f) = (shiftRows s).map f := by
  obtain ⟨a0, a1, a2, a3, a4, a5, a6, a7, a8, a9, a10, a11, a12, a13, a14, a15, rfl⟩ := exists_sixteen s h
  simp only [List.map_cons, List.map_nil, shiftRows_sixteen]

theorem invShiftRows_map (f : UInt8 → UInt8) (s : Bytes) (h : s.length = 16) :
    invShiftRows (s.map f) = (invShiftRows s).map f := by
  obtain ⟨a0, a1, a2, a3, a4, a5, a6, a7, a8, a9, a10, a11, a12, a13, a14, a15, rfl⟩ := exists_sixteen s h
  simp only [List.map_cons, List.map_nil, invShiftRows_sixteen]

/-! ## GF(2^8): `gmul a ·` is additive -/

/-- the fold of `gmul` as a structural recursion -/
def gfold (b : UInt8) : List Nat → UInt8 → UInt8 → UInt8
  | [], acc, _ => acc
  | i :: l, acc, aa =>
    gfold b l (if (b >>> (UInt8.ofNat i)) &&& 1 ≠ 0 then acc ^^^ aa else acc) (xtime aa)

theorem gmul_fold (b : UInt8) (l : List Nat) (acc aa : UInt8) :
    (l.foldl (fun (st : UInt8 × UInt8) i =>
      let (acc, aa) := st
      (if (b >>> (UInt8.ofNat i)) &&& 1 ≠ 0 then acc ^^^ aa else acc, xtime aa)) (acc, aa)).1
      = gfold b l acc aa := by
  induction l generalizing acc aa with
  | nil => rfl
  | cons i l ih => simp only [List.foldl_cons, gfold]; exact ih _ _

theorem gmul_eq_gfold (a b : UInt8) : gmul a b = gfold b (List.range 8) 0 a := gmul_fold b _ 0 a

@[elab_as_elim]
theorem forall_byte {P : UInt8 → Prop} (h : ∀ i, i < 256 → P (UInt8.ofNat i)) (a : UInt8) : P a := by
  have := h a.toNat a.toNat_lt
  rwa [UInt8.ofNat_toNat] at this

theorem and_one_cases (u : UInt8) : u &&& 1 = 0 ∨ u &&& 1 = 1 := forall_byte (by decide +kernel) u

theorem and80_cases (u : UInt8) : u &&& 0x80 = 0 ∨ u &&& 0x80 = 0x80 := forall_byte (by decide +kernel) u

theorem xor_xor_cancel (p q c : UInt8) : p ^^^ c ^^^ (q ^^^ c) = p ^^^ q := by
  have : p ^^^ c ^^^ (q ^^^ c) = p ^^^ q ^^^ (c ^^^ c) := by ac_rfl
  rw [this, UInt8.xor_self, UInt8.xor_zero]

theorem gfold_xor (x y : UInt8) (l : List Nat) (p q aa : UInt8) :
    gfold (x ^^^ y) l (p ^^^ q) aa = gfold x l p aa ^^^ gfold y l q aa := by
  induction l generalizing p q aa with
  | nil => rfl
  | cons i l ih =>
    simp only [gfold]
    rw [← ih]
    congr 1
    rw [UInt8.shiftRight_xor, NatBits.xor_and]
    have hc := xor_xor_cancel p q aa
    rcases and_one_cases (x >>> UInt8.ofNat i) with hx | hx <;>
      rcases and_one_cases (y >>> UInt8.ofNat i) with hy | hy <;>
      simp only [hx, hy] <;> simp [hc] <;> ac_rfl

theorem gmul_xor (a x y : UInt8) : gmul a (x ^^^ y) = gmul a x ^^^ gmul a y := by
  simp only [gmul_eq_gfold]
  rw [← gfold_xor, UInt8.xor_zero]

theorem gmul_zero (a : UInt8) : gmul a 0 = 0 := by
  have := gmul_xor a 0 0
  simpa using this

theorem additive_ext (f g : UInt8 → UInt8)
    (hf : ∀ x y, f (x ^^^ y) = f x ^^^ f y) (hg : ∀ x y, g (x ^^^ y) = g x ^^^ g y)
    (h : ∀ k ∈ [(1 : UInt8), 2, 4, 8, 16, 32, 64, 128], f k = g k) (z : UInt8) : f z = g z := by
  -- read on naturals, n ↦ (φ n).toNat is additive for xor, and the eight basis bytes are the powers of two below 2^8
  have lift : ∀ (φ : UInt8 → UInt8), (∀ x y, φ (x ^^^ y) = φ x ^^^ φ y) →
      (∀ x y : Nat, (φ (UInt8.ofNat (x ^^^ y))).toNat = (φ (UInt8.ofNat x)).toNat ^^^ (φ (UInt8.ofNat y)).toNat) ∧
      (φ (UInt8.ofNat 0)).toNat = 0 := fun φ hφ =>
    ⟨fun x y => by rw [← UInt8.toNat_xor, ← hφ, UInt8.ofNat_xor], by
      have := hφ 0 0; rw [UInt8.xor_self, UInt8.xor_self] at this; rw [show UInt8.ofNat 0 = 0 from rfl, this]; rfl⟩
  obtain ⟨fx, f0⟩ := lift f hf
  obtain ⟨gx, g0⟩ := lift g hg
  have := NatBits.additive_ext (fun n => (f (UInt8.ofNat n)).toNat) (fun n => (g (UInt8.ofNat n)).toNat) f0 g0 fx gx 8
    (fun i hi => congrArg UInt8.toNat (h _ (by
      have : i ∈ [0, 1, 2, 3, 4, 5, 6, 7] := by simp; omega
      revert i; decide))) z.toNat z.toNat_lt
  simpa using UInt8.toNat_inj.1 this

/-! ## GF(2^8) is a commutative ring under `^^^` and `gmul` -/

/- Everything follows from `xtime` being additive: two additive maps that agree on the basis bytes `x^i` are equal, and `x^i`
multiplies by `i` applications of `xtime` on either side. -/

theorem xtime_xor (a b : UInt8) : xtime (a ^^^ b) = xtime a ^^^ xtime b := by
  unfold xtime
  rw [NatBits.xor_and, UInt8.shiftLeft_xor]
  rcases and80_cases a with ha | ha <;> rcases and80_cases b with hb | hb <;> rw [ha, hb]
  · rfl
  · show a <<< 1 ^^^ b <<< 1 ^^^ (27 : UInt8) = a <<< 1 ^^^ (b <<< 1 ^^^ (27 : UInt8))
    exact UInt8.xor_assoc ..
  · show a <<< 1 ^^^ b <<< 1 ^^^ (27 : UInt8) = a <<< 1 ^^^ (27 : UInt8) ^^^ b <<< 1
    ac_rfl
  · show a <<< 1 ^^^ b <<< 1 = a <<< 1 ^^^ (27 : UInt8) ^^^ (b <<< 1 ^^^ (27 : UInt8))
    exact (xor_xor_cancel ..).symm

theorem xtime_zero : xtime 0 = 0 := by decide

theorem gfold_xor_left (b : UInt8) (l : List Nat) (p q u v : UInt8) :
    gfold b l (p ^^^ q) (u ^^^ v) = gfold b l p u ^^^ gfold b l q v := by
  induction l generalizing p q u v with
  | nil => rfl
  | cons i l ih =>
    simp only [gfold]
    rw [← ih, xtime_xor]
    split
    · congr 1; ac_rfl
    · rfl

theorem gmul_xor_left (a a' b : UInt8) : gmul (a ^^^ a') b = gmul a b ^^^ gmul a' b := by
  simp only [gmul_eq_gfold]
  rw [← gfold_xor_left, UInt8.xor_zero]

theorem gfold_xtime (b : UInt8) (l : List Nat) (p u : UInt8) :
    gfold b l (xtime p) (xtime u) = xtime (gfold b l p u) := by
  induction l generalizing p u with
  | nil => rfl
  | cons i l ih =>
    simp only [gfold]
    rw [← ih]
    split
    · rw [xtime_xor]
    · rfl

theorem gmul_xtime_left (a b : UInt8) : gmul (xtime a) b = xtime (gmul a b) := by
  simp only [gmul_eq_gfold]
  rw [← gfold_xtime, xtime_zero]

def xpow : Nat → UInt8 → UInt8
  | 0, a => a
  | i + 1, a => xtime (xpow i a)

theorem gmul_xpow_left (i : Nat) (a b : UInt8) : gmul (xpow i a) b = xpow i (gmul a b) := by
  induction i with
  | zero => rfl
  | succ i ih => rw [xpow, gmul_xtime_left, ih, xpow]

theorem gmul_one_left (a : UInt8) : gmul 1 a = a :=
  additive_ext (gmul 1) id (gmul_xor 1) (fun _ _ => rfl) (by decide) a

theorem basis_spec : ∀ k ∈ [(1 : UInt8), 2, 4, 8, 16, 32, 64, 128],
    ∃ i, (∀ b, gmul k b = xpow i b) ∧ ∀ a, gmul a k = xpow i a := by
  -- on the left `k = xpow i 1`; on the right the fold over the bits of the literal `k` unfolds to `0 ^^^ xpow i a`
  have left : ∀ i b, gmul (xpow i 1) b = xpow i b := fun i b => by rw [gmul_xpow_left, gmul_one_left]
  have right : ∀ a k, gmul a k = gfold k [0, 1, 2, 3, 4, 5, 6, 7] 0 a := fun a k => by rw [gmul_eq_gfold, range8]
  intro k hk
  simp only [List.mem_cons, List.not_mem_nil, or_false] at hk
  rcases hk with rfl | rfl | rfl | rfl | rfl | rfl | rfl | rfl
  · exact ⟨0, left 0, fun a => by rw [right]; exact UInt8.zero_xor⟩
  · exact ⟨1, left 1, fun a => by rw [right]; exact UInt8.zero_xor⟩
  · exact ⟨2, left 2, fun a => by rw [right]; exact UInt8.zero_xor⟩
  · exact ⟨3, left 3, fun a => by rw [right]; exact UInt8.zero_xor⟩
  · exact ⟨4, left 4, fun a => by rw [right]; exact UInt8.zero_xor⟩
  · exact ⟨5, left 5, fun a => by rw [right]; exact UInt8.zero_xor⟩
  · exact ⟨6, left 6, fun a => by rw [right]; exact UInt8.zero_xor⟩
  · exact ⟨7, left 7, fun a => by rw [right]; exact UInt8.zero_xor⟩

theorem gmul_comm (a b : UInt8) : gmul a b = gmul b a :=
  additive_ext (gmul a) (gmul · a) (gmul_xor a) (fun x y => gmul_xor_left x y a)
    (fun k hk => by obtain ⟨i, hl, hr⟩ := basis_spec k hk; rw [hl, hr]) b

theorem gmul_assoc (a b c : UInt8) : gmul (gmul a b) c = gmul a (gmul b c) :=
  additive_ext (fun a => gmul (gmul a b) c) (fun a => gmul a (gmul b c))
    (fun x y => by simp only [gmul_xor_left]) (fun x y => gmul_xor_left x y _)
    (fun k hk => by obtain ⟨i, hl, -⟩ := basis_spec k hk; simp only [hl, gmul_xpow_left]) a

theorem gmul_one (a : UInt8) : gmul a 1 = a := by rw [gmul_comm, gmul_one_left]

theorem gmul_zero_left (a : UInt8) : gmul 0 a = 0 := by rw [gmul_comm, gmul_zero]

theorem gmul_inv_unique {a b c : UInt8} (hb : gmul a b = 1) (hc : gmul a c = 1) : c = b := by
  rw [← gmul_one c, ← hb, ← gmul_assoc, gmul_comm c a, hc, gmul_one_left]

/-! ## GF(2^8) on `Nat` -/

/- The kernel computes `^^^`, `<<<`, `>>>`, `&&&`, `*`, `%` on `Nat` literals natively, where every `UInt8` operation is unfolded
through `BitVec` and `Fin`; the facts about whole tables below are therefore evaluated on this mirror of `gmul`. -/

def xtimeN (a : Nat) : Nat := ((a <<< 1) % 256) ^^^ (0x1b * (a >>> 7))

def gfoldN (b : Nat) : List Nat → Nat → Nat → Nat
  | [], acc, _ => acc
  | i :: l, acc, aa => gfoldN b l (acc ^^^ (aa * ((b >>> i) &&& 1))) (xtimeN aa)

def gmulN (a b : Nat) : Nat := gfoldN b [0, 1, 2, 3, 4, 5, 6, 7] 0 a

theorem xtime_toNat (a : UInt8) : (xtime a).toNat = xtimeN a.toNat := forall_byte (by decide +kernel) a

theorem gfold_toNat (b : UInt8) (l : List Nat) (hl : ∀ i ∈ l, i < 8) (acc aa : UInt8) :
    (gfold b l acc aa).toNat = gfoldN b.toNat l acc.toNat aa.toNat := by
  induction l generalizing acc aa with
  | nil => rfl
  | cons i l ih =>
    have hi : i < 8 := hl i (by simp)
    rw [gfold, gfoldN, ih (fun j hj => hl j (by simp [hj])), xtime_toNat]
    congr 1
    have hb : ((b >>> UInt8.ofNat i) &&& 1).toNat = (b.toNat >>> i) &&& 1 := by
      rw [UInt8.toNat_and, UInt8.toNat_shiftRight, UInt8.toNat_ofNat', Nat.mod_mod_of_dvd _ (by decide),
        Nat.mod_eq_of_lt hi]
      rfl
    rcases and_one_cases (b >>> UInt8.ofNat i) with h | h
    · rw [h] at hb
      rw [← hb, h]
      simp
    · rw [h] at hb
      rw [← hb, h]
      simp

theorem gmul_toNat (a b : UInt8) : (gmul a b).toNat = gmulN a.toNat b.toNat := by
  rw [gmul_eq_gfold, range8]
  exact gfold_toNat b _ (by decide) 0 a

/-- FIPS 197 figure 7 -/
def sboxL : Array UInt8 := #[99, 124, 119, 123, 242, 107, 111, 197, 48, 1, 103, 43, 254, 215, 171, 118, 202, 130, 201, 125, 250, 89, 71, 240, 173,
  212, 162, 175, 156, 164, 114, 192, 183, 253, 147, 38, 54, 63, 247, 204, 52, 165, 229, 241, 113, 216, 49, 21, 4, 199,
  35, 195, 24, 150, 5, 154, 7, 18, 128, 226, 235, 39, 178, 117, 9, 131, 44, 26, 27, 110, 90, 160, 82, 59, 214, 179, 41,
  227, 47, 132, 83, 209, 0, 237, 32, 252, 177, 91, 106, 203, 190, 57, 74, 76, 88, 207, 208, 239, 170, 251, 67, 77, 51,
  133, 69, 249, 2, 127, 80, 60, 159, 168, 81, 163, 64, 143, 146, 157, 56, 245, 188, 182, 218, 33, 16, 255, 243, 210,
  205, 12, 19, 236, 95, 151, 68, 23, 196, 167, 126, 61, 100, 93, 25, 115, 96, 129, 79, 220, 34, 42, 144, 136, 70, 238,
  184, 20, 222, 94, 11, 219, 224, 50, 58, 10, 73, 6, 36, 92, 194, 211, 172, 98, 145, 149, 228, 121, 231, 200, 55, 109,
  141, 213, 78, 169, 108, 86, 244, 234, 101, 122, 174, 8, 186, 120, 37, 46, 28, 166, 180, 198, 232, 221, 116, 31, 75,
  189, 139, 138, 112, 62, 181, 102, 72, 3, 246, 14, 97, 53, 87, 185, 134, 193, 29, 158, 225, 248, 152, 17, 105, 217,
  142, 148, 155, 30, 135, 233, 206, 85, 40, 223, 140, 161, 137, 13, 191, 230, 66, 104, 65, 153, 45, 15, 176, 84, 187,
  22]
/-- FIPS 197 figure 14 -/
def invSboxL : Array UInt8 := #[82, 9, 106, 213, 48, 54, 165, 56, 191, 64, 163, 158, 129, 243, 215, 251, 124, 227, 57, 130, 155, 47, 255, 135, 52,
  142, 67, 68, 196, 222, 233, 203, 84, 123, 148, 50, 166, 194, 35, 61, 238, 76, 149, 11, 66, 250, 195, 78, 8, 46, 161,
  102, 40, 217, 36, 178, 118, 91, 162, 73, 109, 139, 209, 37, 114, 248, 246, 100, 134, 104, 152, 22, 212, 164, 92, 204,
  93, 101, 182, 146, 108, 112, 72, 80, 253, 237, 185, 218, 94, 21, 70, 87, 167, 141, 157, 132, 144, 216, 171, 0, 140,
  188, 211, 10, 247, 228, 88, 5, 184, 179, 69, 6, 208, 44, 30, 143, 202, 63, 15, 2, 193, 175, 189, 3, 1, 19, 138, 107,
  58, 145, 17, 65, 79, 103, 220, 234, 151, 242, 207, 206, 240, 180, 230, 115, 150, 172, 116, 34, 231, 173, 53, 133, 226,
  249, 55, 232, 28, 117, 223, 110, 71, 241, 26, 113, 29, 41, 197, 137, 111, 183, 98, 14, 170, 24, 190, 27, 252, 86, 62,
  75, 198, 210, 121, 32, 154, 219, 192, 254, 120, 205, 90, 244, 31, 221, 168, 51, 136, 7, 199, 49, 177, 18, 16, 89, 39,
  128, 236, 95, 96, 81, 127, 169, 25, 181, 74, 13, 45, 229, 122, 159, 147, 201, 156, 239, 160, 224, 59, 77, 174, 42,
  245, 176, 200, 235, 187, 60, 131, 83, 153, 97, 23, 43, 4, 126, 186, 119, 214, 38, 225, 105, 20, 99, 85, 33, 12, 125]

def aff (b : UInt8) : UInt8 := b ^^^ rotl8 b 1 ^^^ rotl8 b 2 ^^^ rotl8 b 3 ^^^ rotl8 b 4 ^^^ 0x63

theorem sboxL_size : sboxL.size = 256 := by decide +kernel
theorem invSboxL_size : invSboxL.size = 256 := by decide +kernel

/-! The facts about whole tables are stated on the lists of entries: the kernel then walks each literal once, where
`∀ i < 256, … t.getD i …` walks it once per index. -/

theorem getD_mem_zipIdx {α : Type} (l : Array α) (i : Nat) (hi : i < l.size) (d : α) :
    (l.getD i d, i) ∈ l.toList.zipIdx := by
  rw [List.mem_zipIdx_iff_getElem?]
  simp [hi]

/-- a table of bytes as one number, entry `i` in bits 8i .. 8i+7: reading it costs the kernel one shift, where
`getD i` on the literal walks `i` cells -/
def packN (l : List UInt8) : Nat := l.foldr (fun b acc => acc * 256 + b.toNat) 0
def lookN (N i : Nat) : Nat := (N >>> (8 * i)) % 256

theorem lookN_packN (t : Array UInt8) (i : Nat) : lookN (packN t.toList) i = (t.getD i 0).toNat := by
  rw [Array.getD_eq_getD_getElem?, ← Array.getElem?_toList, ← List.getD_eq_getElem?_getD]
  generalize t.toList = l
  induction l generalizing i with
  | nil => simp [packN, lookN]
  | cons b t ih =>
    cases i with
    | zero => simp [packN, lookN]
    | succ i =>
      rw [List.getD_cons_succ, ← ih i]
      simp only [packN, List.foldr_cons, lookN]
      rw [show 8 * (i + 1) = 8 + 8 * i by omega, Nat.shiftRight_add, Nat.shiftRight_eq_div_pow _ 8]
      have := b.toNat_lt
      congr 2
      omega

def affInv (s : UInt8) : UInt8 := rotl8 s 1 ^^^ rotl8 s 3 ^^^ rotl8 s 6 ^^^ 5

theorem sboxL_facts : ∀ p ∈ sboxL.toList.zipIdx,
    (p.2 ≠ 0 → gmulN p.2 (affInv p.1).toNat = 1) ∧ aff (affInv p.1) = p.1 := by decide +kernel

theorem invSboxL_sboxL : sboxL.toList.map (fun s => lookN (packN invSboxL.toList) s.toNat) = List.range 256 := by
  decide +kernel

theorem sboxL_invSboxL : invSboxL.toList.map (fun s => lookN (packN sboxL.toList) s.toNat) = List.range 256 := by
  decide +kernel

theorem find?_byte (p : UInt8 → Bool) (b : UInt8) (hb : p b = true) (huniq : ∀ c, p c = true → c = b) :
    (List.range 256).find? (fun y => p (UInt8.ofNat y)) = some b.toNat := by
  rw [List.find?_range_eq_some]
  refine ⟨by simp [hb], by simp [b.toNat_lt], ?_⟩
  intro j hj
  rw [Bool.not_eq_true']
  cases hp : p (UInt8.ofNat j) with
  | false => rfl
  | true =>
    have := congrArg UInt8.toNat (huniq _ hp)
    rw [UInt8.toNat_ofNat'] at this
    have := b.toNat_lt
    omega

theorem ginv_of_gmul {a b : UInt8} (ha : a ≠ 0) (h : gmul a b = 1) : ginv a = b := by
  unfold ginv
  rw [if_neg ha, find?_byte (fun y => gmul a y = 1) b (by simp [h]) (fun c hc => gmul_inv_unique h (of_decide_eq_true hc))]
  simp

theorem getD_map_range (f : Nat → UInt8) (n i : Nat) (h : i < n) :
    ((Array.range n).map f).getD i 0 = f i := by
  simp [h]

theorem sbox_eq (a : UInt8) : sbox a = sboxL.getD a.toNat 0 := by
  unfold sbox sboxTable
  rw [getD_map_range _ _ _ a.toNat_lt, UInt8.ofNat_toNat]
  show aff (ginv a) = _
  by_cases h : a = 0
  · subst h; decide +kernel
  · obtain ⟨h1, h2⟩ := sboxL_facts _ (getD_mem_zipIdx sboxL a.toNat (by rw [sboxL_size]; exact a.toNat_lt) 0)
    simp only at h1 h2
    have hinv : gmul a (affInv (sboxL.getD a.toNat 0)) = 1 := by
      rw [← UInt8.toNat_inj, gmul_toNat]; exact h1 fun h0 => h (UInt8.toNat_inj.mp h0)
    rw [ginv_of_gmul h hinv, h2]

theorem getD_getD_of_lookN {t l : Array UInt8}
    (H : l.toList.map (fun s => lookN (packN t.toList) s.toNat) = List.range 256) (x : UInt8) :
    t.getD (l.getD x.toNat 0).toNat 0 = x := by
  have hx : x.toNat < l.size := by
    have : l.size = 256 := by simpa using congrArg List.length H
    rw [this]
    exact x.toNat_lt
  have := congrArg (fun L => L[x.toNat]?) H
  simp only [List.getElem?_map, Array.getElem?_toList, List.getElem?_range x.toNat_lt,
    Array.getElem?_eq_getElem hx, Option.map_some, Option.some.injEq, lookN_packN] at this
  rw [show l.getD x.toNat 0 = l[x.toNat] by simp [hx]]
  exact UInt8.toNat_inj.mp this

theorem invSboxL_sbox (x : UInt8) : invSboxL.getD (sbox x).toNat 0 = x := by
  rw [sbox_eq]; exact getD_getD_of_lookN invSboxL_sboxL x

theorem sbox_invSboxL (y : UInt8) : sbox (invSboxL.getD y.toNat 0) = y := by
  rw [sbox_eq]; exact getD_getD_of_lookN sboxL_invSboxL y

theorem sbox_injective (x y : UInt8) (h : sbox x = sbox y) : x = y := by
  rw [← invSboxL_sbox x, ← invSboxL_sbox y, h]

theorem invSbox_def (y : UInt8) : invSbox y =
    UInt8.ofNat (((List.range 256).find? fun x => sbox (UInt8.ofNat x) = y).getD 0) := by
  unfold invSbox invSboxTable
  rw [getD_map_range _ _ _ y.toNat_lt, UInt8.ofNat_toNat]

theorem invSbox_eq (y : UInt8) : invSbox y = invSboxL.getD y.toNat 0 := by
  rw [invSbox_def, find?_byte (fun x => sbox x = y) (invSboxL.getD y.toNat 0) (decide_eq_true (sbox_invSboxL y))
    (fun c hc => sbox_injective _ _ (by rw [of_decide_eq_true hc, sbox_invSboxL]))]
  simp

theorem invSbox_sbox (x : UInt8) : invSbox (sbox x) = x := by rw [invSbox_eq, invSboxL_sbox]

theorem sbox_invSbox (y : UInt8) : sbox (invSbox y) = y := by rw [invSbox_eq, sbox_invSboxL]

theorem invSubBytes_subBytes (s : Bytes) : invSubBytes (subBytes s) = s := by
  unfold invSubBytes subBytes
  induction s with
  | nil => rfl
  | cons x t ih => simp only [List.map_cons, invSbox_sbox, ih]

theorem subBytes_invSubBytes (s : Bytes) : subBytes (invSubBytes s) = s := by
  unfold invSubBytes subBytes
  induction s with
  | nil => rfl
  | cons x t ih => simp only [List.map_cons, sbox_invSbox, ih]

def row (m0 m1 m2 m3 a b c d : UInt8) : UInt8 :=
  gmul m0 a ^^^ gmul m1 b ^^^ gmul m2 c ^^^ gmul m3 d

theorem mixColumn_fold (m0 m1 m2 m3 a b c d : UInt8) :
    mixColumn [m0, m1, m2, m3] [a, b, c, d] =
      [(((0 ^^^ gmul m0 a) ^^^ gmul m1 b) ^^^ gmul m2 c) ^^^ gmul m3 d,
       (((0 ^^^ gmul m3 a) ^^^ gmul m0 b) ^^^ gmul m1 c) ^^^ gmul m2 d,
       (((0 ^^^ gmul m2 a) ^^^ gmul m3 b) ^^^ gmul m0 c) ^^^ gmul m1 d,
       (((0 ^^^ gmul m1 a) ^^^ gmul m2 b) ^^^ gmul m3 c) ^^^ gmul m0 d] := rfl

theorem mixColumn_four (m0 m1 m2 m3 a b c d : UInt8) :
    mixColumn [m0, m1, m2, m3] [a, b, c, d] =
      [row m0 m1 m2 m3 a b c d, row m3 m0 m1 m2 a b c d,
       row m2 m3 m0 m1 a b c d, row m1 m2 m3 m0 a b c d] := by
  simp only [mixColumn_fold, row, UInt8.zero_xor]

theorem row_xor (m0 m1 m2 m3 a b c d a' b' c' d' : UInt8) :
    row m0 m1 m2 m3 (a ^^^ a') (b ^^^ b') (c ^^^ c') (d ^^^ d') =
      row m0 m1 m2 m3 a b c d ^^^ row m0 m1 m2 m3 a' b' c' d' := by
  simp only [row, gmul_xor]
  ac_rfl

/-- `e · (M v) = (e M) · v` -/
theorem row_row (e0 e1 e2 e3 p0 p1 p2 p3 q0 q1 q2 q3 r0 r1 r2 r3 s0 s1 s2 s3 a b c d : UInt8) :
    row e0 e1 e2 e3 (row p0 p1 p2 p3 a b c d) (row q0 q1 q2 q3 a b c d) (row r0 r1 r2 r3 a b c d) (row s0 s1 s2 s3 a b c d) =
    row (row e0 e1 e2 e3 p0 q0 r0 s0) (row e0 e1 e2 e3 p1 q1 r1 s1) (row e0 e1 e2 e3 p2 q2 r2 s2)
      (row e0 e1 e2 e3 p3 q3 r3 s3) a b c d := by
  simp only [row, gmul_xor, gmul_xor_left, gmul_assoc]
  ac_rfl

theorem row_rot (d a b c s p q r : UInt8) : row d a b c s p q r = row a b c d p q r s := by
  unfold row
  ac_rfl

/-- circulant matrices multiply as circulant matrices -/
theorem mixColumn_mul (e0 e1 e2 e3 m0 m1 m2 m3 a b c d : UInt8) :
    mixColumn [e0, e1, e2, e3] (mixColumn [m0, m1, m2, m3] [a, b, c, d]) =
      mixColumn [row e0 e1 e2 e3 m0 m3 m2 m1, row e0 e1 e2 e3 m1 m0 m3 m2, row e0 e1 e2 e3 m2 m1 m0 m3,
        row e0 e1 e2 e3 m3 m2 m1 m0] [a, b, c, d] := by
  rw [mixColumn_four, mixColumn_four, mixColumn_four, row_row, row_row, row_row, row_row]
  simp only [row_rot e1 e2 e3 e0, row_rot e2 e3 e0 e1, row_rot e3 e0 e1 e2]

theorem mixColumn_unit (a b c d : UInt8) : mixColumn [1, 0, 0, 0] [a, b, c, d] = [a, b, c, d] := by
  simp only [mixColumn_four, row, gmul_one_left, gmul_zero_left, UInt8.xor_zero, UInt8.zero_xor]

/-- [0e, 0b, 0d, 09] and [02, 03, 01, 01] are inverse circulants: the first row of either product -/
theorem circ_inv :
    (row 0x0e 0x0b 0x0d 0x09 2 1 1 3 = 1 ∧ row 0x0e 0x0b 0x0d 0x09 3 2 1 1 = 0 ∧
     row 0x0e 0x0b 0x0d 0x09 1 3 2 1 = 0 ∧ row 0x0e 0x0b 0x0d 0x09 1 1 3 2 = 0) ∧
    (row 2 3 1 1 0x0e 0x09 0x0d 0x0b = 1 ∧ row 2 3 1 1 0x0b 0x0e 0x09 0x0d = 0 ∧
     row 2 3 1 1 0x0d 0x0b 0x0e 0x09 = 0 ∧ row 2 3 1 1 0x09 0x0d 0x0b 0x0e = 0) := by decide +kernel

theorem invMixColumn_mixColumn (a b c d : UInt8) :
    mixColumn [0x0e, 0x0b, 0x0d, 0x09] (mixColumn [2, 3, 1, 1] [a, b, c, d]) = [a, b, c, d] := by
  obtain ⟨⟨h0, h1, h2, h3⟩, -⟩ := circ_inv
  rw [mixColumn_mul, h0, h1, h2, h3, mixColumn_unit]

theorem mixColumns_sixteen (m0 m1 m2 m3 a0 a1 a2 a3 a4 a5 a6 a7 a8 a9 a10 a11 a12 a13 a14 a15 : UInt8) :
    (List.range 4).flatMap (fun c => mixColumn [m0, m1, m2, m3]
      (([a0, a1, a2, a3, a4, a5, a6, a7, a8, a9, a10, a11, a12, a13, a14, a15].drop (4 * c)).take 4)) =
    mixColumn [m0, m1, m2, m3] [a0, a1, a2, a3] ++ mixColumn [m0, m1, m2, m3] [a4, a5, a6, a7] ++
    mixColumn [m0, m1, m2, m3] [a8, a9, a10, a11] ++ mixColumn [m0, m1, m2, m3] [a12, a13, a14, a15] := by
  simp [range4]

theorem mixCols_mixCols (e0 e1 e2 e3 m0 m1 m2 m3 : UInt8)
    (h : ∀ a b c d, mixColumn [e0, e1, e2, e3] (mixColumn [m0, m1, m2, m3] [a, b, c, d]) = [a, b, c, d])
    (s : Bytes) (hs : s.length = 16) :
    (List.range 4).flatMap (fun c => mixColumn [e0, e1, e2, e3]
      ((((List.range 4).flatMap fun c => mixColumn [m0, m1, m2, m3] ((s.drop (4 * c)).take 4)).drop (4 * c)).take 4)) = s := by
  obtain ⟨a0, a1, a2, a3, a4, a5, a6, a7, a8, a9, a10, a11, a12, a13, a14, a15, rfl⟩ := exists_sixteen s hs
  rw [mixColumns_sixteen m0]
  simp only [mixColumn_four m0, List.cons_append, List.nil_append]
  rw [mixColumns_sixteen]
  simp only [← mixColumn_four m0, h, List.cons_append, List.nil_append]

theorem invMixColumns_mixColumns (s : Bytes) (h : s.length = 16) : invMixColumns (mixColumns s) = s :=
  mixCols_mixCols _ _ _ _ _ _ _ _ invMixColumn_mixColumn s h

/-! ## Cipher / InvCipher for an arbitrary list of 16-byte round keys -/

theorem getD_reverse {α : Type} (l : List α) (r : Nat) (hr : r < l.length) (d : α) :
    l.reverse.getD r d = l.getD (l.length - 1 - r) d := by
  rw [List.getD_eq_getElem?_getD, List.getD_eq_getElem?_getD, List.getElem?_reverse hr]

theorem getD_length16 (rk : List Bytes) (hk : ∀ k ∈ rk, k.length = 16) (i : Nat) (hi : i < rk.length) :
    (rk.getD i []).length = 16 := by
  apply hk
  rw [List.getD_eq_getElem?_getD, List.getElem?_eq_getElem hi, Option.getD_some]
  exact List.getElem_mem hi

/-- the state after `i` full encryption rounds -/
def encS (rk : List Bytes) (s0 : Bytes) (i : Nat) : Bytes :=
  (List.range i).foldl (fun s r =>
    addRoundKey (mixColumns (shiftRows (subBytes s))) (rk.getD (r + 1) [])) s0

theorem encS_zero (rk : List Bytes) (s0 : Bytes) : encS rk s0 0 = s0 := rfl

theorem encS_succ (rk : List Bytes) (s0 : Bytes) (i : Nat) :
    encS rk s0 (i + 1) =
      addRoundKey (mixColumns (shiftRows (subBytes (encS rk s0 i)))) (rk.getD (i + 1) []) := by
  simp [encS, List.range_succ, List.foldl_append]

theorem invSub_invShift_shift_sub (s : Bytes) (h : s.length = 16) :
    invSubBytes (invShiftRows (shiftRows (subBytes s))) = s := by
  rw [invShiftRows_shiftRows _ (by rw [subBytes_length]; exact h), invSubBytes_subBytes]

/-- one decryption round undoes one encryption round (in the InvCipher grouping) -/
theorem round_inv (y k : Bytes) (hk : k.length = 16) :
    invMixColumns (addRoundKey (invSubBytes (invShiftRows (shiftRows (subBytes
      (addRoundKey (mixColumns (shiftRows (subBytes y))) k))))) k) = shiftRows (subBytes y) := by
  rw [invSub_invShift_shift_sub _ (addRoundKey_length16 _ _ (mixColumns_length _) hk),
    addRoundKey_cancel _ _ (by rw [mixColumns_length, hk]; exact Nat.le_refl _),
    invMixColumns_mixColumns _ (shiftRows_length _)]

theorem dec_fold (rk : List Bytes) (hk : ∀ k ∈ rk, k.length = 16) (nr : Nat) (hnr : nr < rk.length)
    (s0 : Bytes) (j : Nat) (hj : j ≤ nr - 1) :
    (List.range j).foldl (fun s r =>
      invMixColumns (addRoundKey (invSubBytes (invShiftRows s)) (rk.getD (nr - 1 - r) [])))
      (shiftRows (subBytes (encS rk s0 (nr - 1)))) = shiftRows (subBytes (encS rk s0 (nr - 1 - j))) := by
  induction j with
  | zero => rfl
  | succ j ih =>
    rw [List.range_succ, List.foldl_append, ih (by omega)]
    simp only [List.foldl_cons, List.foldl_nil]
    have e : nr - 1 - j = (nr - 1 - (j + 1)) + 1 := by omega
    rw [e, encS_succ]
    exact round_inv _ _ (getD_length16 rk hk _ (by omega))

theorem invCipher_cipher_rk (rk : List Bytes) (hne : rk ≠ []) (hk : ∀ k ∈ rk, k.length = 16)
    (b : Bytes) (hb : b.length = 16) : invCipher rk (cipher rk b) = b := by
  have hpos : 0 < rk.length := List.length_pos_iff.mpr hne
  have hnr : rk.length - 1 < rk.length := by omega
  have h0 : (rk.getD 0 []).length = 16 := getD_length16 rk hk 0 hpos
  have hs0 : (addRoundKey b (rk.getD 0 [])).length = 16 := addRoundKey_length16 _ _ hb h0
  have hfold := dec_fold rk hk (rk.length - 1) hnr (addRoundKey b (rk.getD 0 [])) (rk.length - 1 - 1)
    (Nat.le_refl _)
  rw [Nat.sub_self, encS_zero] at hfold
  unfold encS at hfold
  simp only [cipher, invCipher]
  rw [addRoundKey_cancel _ _ (by rw [shiftRows_length, getD_length16 rk hk _ hnr]; exact Nat.le_refl _),
    hfold, invSub_invShift_shift_sub _ hs0, addRoundKey_cancel _ _ (by rw [hb, h0]; exact Nat.le_refl _)]

theorem cipher_length_rk (rk : List Bytes) (hne : rk ≠ []) (hk : ∀ k ∈ rk, k.length = 16)
    (b : Bytes) : (cipher rk b).length = 16 := by
  have hpos : 0 < rk.length := List.length_pos_iff.mpr hne
  simp only [cipher]
  exact addRoundKey_length16 _ _ (shiftRows_length _) (getD_length16 rk hk _ (by omega))

theorem invCipher_length_rk (rk : List Bytes) (hne : rk ≠ []) (hk : ∀ k ∈ rk, k.length = 16)
    (b : Bytes) : (invCipher rk b).length = 16 := by
  have hpos : 0 < rk.length := List.length_pos_iff.mpr hne
  simp only [invCipher]
  exact addRoundKey_length16 _ _ (by rw [invSubBytes_length, invShiftRows_length])
    (getD_length16 rk hk _ hpos)

/-! ## KeyExpansion: number and size of the round keys -/

/-- the `temp` of one step of `keyExpansion` -/
def tempF (nk i : Nat) (temp : Bytes) : Bytes :=
  if i % nk = 0 then
    List.zipWith (· ^^^ ·) ((temp.drop 1 ++ temp.take 1).map sbox) [rcon (i / nk), 0, 0, 0]
  else if nk > 6 ∧ i % nk = 4 then temp.map sbox
  else temp

/-- the word array of `keyExpansion` -/
def kWords (key : Bytes) : Array Bytes :=
  let nk := key.length / 4
  (List.range (4 * (nk + 6 + 1) - nk)).foldl (fun (w : Array Bytes) j =>
    w.push (List.zipWith (· ^^^ ·) (w.getD (j + nk - nk) []) (tempF nk (j + nk) (w.getD (j + nk - 1) []))))
    ((Array.range nk).map fun i => (key.drop (4 * i)).take 4)

theorem keyExpansion_eq (key : Bytes) :
    keyExpansion key = (List.range (key.length / 4 + 6 + 1)).map fun r =>
      (List.range 4).flatMap fun c => (kWords key).getD (4 * r + c) [] := rfl

theorem length_keyExpansion (key : Bytes) : (keyExpansion key).length = key.length / 4 + 6 + 1 := by
  simp [keyExpansion_eq]

theorem getD_push {α : Type} (w : Array α) (x d : α) (m : Nat) :
    (w.push x).getD m d = if m = w.size then x else w.getD m d := by
  simp only [Array.getD_eq_getD_getElem?, Array.getElem?_push]
  split <;> simp

/-- a property of the words of the key that the step w[m] = w[m - Nk] ^ temp(w[m - 1]) preserves holds of all 4(Nr + 1) words -/
theorem kWords_inv (key : Bytes) (h4 : 4 ≤ key.length) (Q : Nat → Bytes → Prop)
    (h0 : ∀ i, i < key.length / 4 → Q i ((key.drop (4 * i)).take 4))
    (hs : ∀ m u t, key.length / 4 ≤ m → Q (m - key.length / 4) u → Q (m - 1) t →
      Q m (List.zipWith (· ^^^ ·) u (tempF (key.length / 4) m t))) :
    (kWords key).size = 4 * (key.length / 4 + 6 + 1) ∧ ∀ m, m < (kWords key).size → Q m ((kWords key).getD m []) := by
  have hnk : 1 ≤ key.length / 4 := by omega
  unfold kWords
  simp only []
  generalize hw : List.foldl _ _ _ = w
  have hinv : w.size = key.length / 4 + (4 * (key.length / 4 + 6 + 1) - key.length / 4) ∧
      ∀ m, m < w.size → Q m (w.getD m []) := by
    rw [← hw]
    apply Loops.foldl_range_ind _ (fun j (w : Array Bytes) => w.size = key.length / 4 + j ∧ ∀ m, m < w.size → Q m (w.getD m []))
    · refine ⟨by simp, ?_⟩
      intro m hm
      simp only [Array.size_map, Array.size_range] at hm
      simpa [hm] using h0 m hm
    · intro j w _ ⟨hsz, hall⟩
      refine ⟨by simp [hsz]; omega, ?_⟩
      intro m hm
      simp only [Array.size_push] at hm
      rw [getD_push]
      split
      · have hm' : m = j + key.length / 4 := by omega
        subst hm'
        exact hs _ _ _ (by omega) (hall _ (by omega)) (hall _ (by omega))
      · exact hall m (by omega)
  exact ⟨by rw [hinv.1]; omega, hinv.2⟩

theorem keyExpansion_length_of_ge (key : Bytes) (h4 : 4 ≤ key.length) :
    keyExpansion key ≠ [] ∧ ∀ k ∈ keyExpansion key, k.length = 16 := by
  obtain ⟨hsz, hlen⟩ := kWords_inv key h4 (fun _ l => l.length = 4)
    (fun i hi => by simp; omega)
    (fun m u t _ hu ht => by
      unfold tempF
      simp only [List.length_zipWith, hu]
      split
      · simp [ht]
      · split <;> simp [ht])
  constructor
  · intro h
    simpa [h] using length_keyExpansion key
  · rw [keyExpansion_eq]
    intro k hk
    simp only [List.mem_map, List.mem_range] at hk
    obtain ⟨r, hr, rfl⟩ := hk
    simp only [range4, List.flatMap_cons, List.flatMap_nil, List.length_append, List.length_nil]
    rw [hlen _ (by omega), hlen _ (by omega), hlen _ (by omega), hlen _ (by omega)]

theorem keyExpansion_length (key : Bytes) (h : key.length = 16 ∨ key.length = 24 ∨ key.length = 32) :
    keyExpansion key ≠ [] ∧ ∀ k ∈ keyExpansion key, k.length = 16 :=
  keyExpansion_length_of_ge key (by omega)

/-! ## Cipher / InvCipher under the FIPS 197 key expansion -/

theorem invCipher_cipher (key b : Bytes) (hk : key.length = 16 ∨ key.length = 24 ∨ key.length = 32)
    (hb : b.length = 16) : invCipher (keyExpansion key) (cipher (keyExpansion key) b) = b :=
  invCipher_cipher_rk _ (keyExpansion_length key hk).1 (keyExpansion_length key hk).2 b hb

theorem cipher_length (key b : Bytes) (hk : key.length = 16 ∨ key.length = 24 ∨ key.length = 32) :
    (cipher (keyExpansion key) b).length = 16 :=
  cipher_length_rk _ (keyExpansion_length key hk).1 (keyExpansion_length key hk).2 b

theorem invCipher_length (key b : Bytes) (hk : key.length = 16 ∨ key.length = 24 ∨ key.length = 32) :
    (invCipher (keyExpansion key) b).length = 16 :=
  invCipher_length_rk _ (keyExpansion_length key hk).1 (keyExpansion_length key hk).2 b

end Relic.Lemmas.Aes
