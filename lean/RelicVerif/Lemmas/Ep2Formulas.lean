/-
The point-arithmetic templates are instantiated twice by the library: TMPL_*(ep, fp) and TMPL_*(ep2, fp2).  The
translator regenerates both instantiations (and the public wrappers of relic_ep2_add.c / relic_ep2_dbl.c) on every
run.  The two generated texts are the same term up to the names; this file checks that by `rfl`, so that every theorem
of Lemmas/EpFormulas.lean (stated over an arbitrary field) is a theorem about the ep2 code as well.  If the two
instantiations ever diverge, these equalities stop checking.
-/
import RelicVerif.Lemmas.EpFormulas
import RelicVerif.Gen.Ep2Formulas

namespace Relic.Lemmas.Ep2Formulas
open Relic.Gen

theorem dbl_basic_imp_eq : @ep2_dbl_basic_imp = @ep_dbl_basic_imp := rfl
theorem dbl_basic_eq : @ep2_dbl_basic = @ep_dbl_basic := rfl
theorem dbl_projc_imp_eq : @ep2_dbl_projc_imp = @ep_dbl_projc_imp := rfl
theorem dbl_projc_eq : @ep2_dbl_projc = @ep_dbl_projc := rfl
theorem dbl_jacob_imp_eq : @ep2_dbl_jacob_imp = @ep_dbl_jacob_imp := rfl
theorem dbl_jacob_eq : @ep2_dbl_jacob = @ep_dbl_jacob := rfl
theorem add_basic_imp_eq : @ep2_add_basic_imp = @ep_add_basic_imp := rfl
theorem add_basic_eq : @ep2_add_basic = @ep_add_basic := rfl
theorem add_projc_mix_eq : @ep2_add_projc_mix = @ep_add_projc_mix := rfl
theorem add_projc_imp_eq : @ep2_add_projc_imp = @ep_add_projc_imp := rfl
theorem add_projc_eq : @ep2_add_projc = @ep_add_projc := rfl
theorem add_jacob_mix_eq : @ep2_add_jacob_mix = @ep_add_jacob_mix := rfl
theorem add_jacob_imp_eq : @ep2_add_jacob_imp = @ep_add_jacob_imp := rfl
theorem add_jacob_eq : @ep2_add_jacob = @ep_add_jacob := rfl

end Relic.Lemmas.Ep2Formulas
