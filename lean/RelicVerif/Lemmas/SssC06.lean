/-
The executable reconstruction functions of property C06 — `Model.Cp.sssKey` (the shape of mpc_sss_key) and
`Spec.Cp.lagrangeAt` (the specification the driver evaluates) — return f(0) for every polynomial f over Z_q of degree below
the number of presented shares, for every prime q and every list of shares with pairwise distinct abscissae modulo q
(any qualifying subset, any order).  Link between the Nat-level code and Lemmas/ShareC06.lean.
-/
import Mathlib.LinearAlgebra.Lagrange
import Mathlib.Data.ZMod.Basic
import Mathlib.FieldTheory.Finite.Basic
import Mathlib.Data.List.GetD
import RelicVerif.Lemmas.NumC06
import RelicVerif.Lemmas.ShareC06
import RelicVerif.Model.Cp

namespace Relic.Lemmas.SssC06
open Polynomial Relic.Spec.Cp Relic.Model.Cp
open Relic.Spec.Curve (invEuclid)

def sharesOf (q : Nat) (f : (ZMod q)[X]) (xs : List Nat) : List (Nat × Nat) :=
  xs.map fun x => (x, (f.eval (x : ZMod q)).val)

theorem cast_subMod (q : Nat) [Fact q.Prime] (a b : Nat) :
    ((subMod q a b : Nat) : ZMod q) = (a : ZMod q) - b := by
  unfold subMod
  have hq : 0 < q := (Fact.out : q.Prime).pos
  have hb : b % q ≤ q := (Nat.mod_lt b hq).le
  rw [ZMod.natCast_mod, Nat.add_sub_assoc hb, Nat.cast_add, Nat.cast_sub hb, ZMod.natCast_mod,
    ZMod.natCast_mod, ZMod.natCast_self]
  ring

theorem cast_foldl_prod (q : Nat) {α : Type} (c : α → Prop) [DecidablePred c] (g : α → Nat) (l : List α) :
    ∀ a0 : Nat, ((l.foldl (fun a m => if c m then a else a * g m % q) a0 : Nat) : ZMod q)
      = a0 * ((l.filter (fun m => ¬ c m)).map (fun m => (g m : ZMod q))).prod := by
  induction l with
  | nil => intro a0; simp
  | cons x l ih =>
    intro a0
    rw [List.foldl_cons, ih]
    by_cases hc : c x
    · simp [hc]
    · simp [hc, ZMod.natCast_mod, Nat.cast_mul, mul_assoc]

theorem cast_foldl_sum (q : Nat) {α : Type} (t : α → Nat) (l : List α) :
    ∀ a0 : Nat, ((l.foldl (fun acc i => (acc + t i) % q) a0 : Nat) : ZMod q)
      = a0 + (l.map (fun i => (t i : ZMod q))).sum := by
  induction l with
  | nil => intro a0; simp
  | cons x l ih =>
    intro a0
    rw [List.foldl_cons, ih]
    simp [ZMod.natCast_mod, Nat.cast_add, add_assoc]

theorem cast_foldl_prod_erase (q : Nat) {ι : Type} [DecidableEq ι] (l : List ι) (hl : l.Nodup) (i : ι)
    (c : ι → Prop) [DecidablePred c] (hc : ∀ m ∈ l, c m ↔ m = i) (g : ι → Nat) :
    ((l.foldl (fun a m => if c m then a else a * g m % q) 1 : Nat) : ZMod q) = ∏ m ∈ l.toFinset.erase i, (g m : ZMod q) := by
  have hf : l.filter (fun m => ¬ c m) = l.filter (fun m => ¬ m = i) :=
    List.filter_congr fun m hm => by simp only [hc m hm]
  rw [cast_foldl_prod, Nat.cast_one, one_mul, hf, ← List.prod_toFinset _ (hl.filter _), List.toFinset_filter]
  congr 1
  ext m
  simp [Finset.mem_erase, and_comm]

theorem sssKey_cast (q : Nat) [Fact q.Prime] (pts : List (Nat × Nat))
    (hinj : Set.InjOn (fun i => ((pts.getD i (0, 0)).1 : ZMod q)) (Finset.range pts.length : Finset Nat)) :
    ((sssKey q pts : Nat) : ZMod q) = ∑ i ∈ Finset.range pts.length,
      ((pts.getD i (0, 0)).2 : ZMod q) *
        ((∏ m ∈ (Finset.range pts.length).erase i, ((pts.getD m (0, 0)).1 : ZMod q)) /
         (∏ m ∈ (Finset.range pts.length).erase i,
            (((pts.getD m (0, 0)).1 : ZMod q) - ((pts.getD i (0, 0)).1 : ZMod q)))) := by
  unfold sssKey
  simp only []
  rw [ZMod.natCast_mod, cast_foldl_sum, Nat.cast_zero, zero_add,
    ← List.sum_toFinset _ List.nodup_range, List.toFinset_range]
  apply Finset.sum_congr rfl
  intro i hi
  have hA := cast_foldl_prod_erase q (List.range pts.length) List.nodup_range i (fun m => m = i) (fun _ _ => Iff.rfl)
    (fun m => (pts.getD m (0, 0)).1)
  have hB := cast_foldl_prod_erase q (List.range pts.length) List.nodup_range i (fun m => m = i) (fun _ _ => Iff.rfl)
    (fun m => subMod q (pts.getD m (0, 0)).1 (pts.getD i (0, 0)).1)
  rw [List.toFinset_range] at hA hB
  simp only [cast_subMod] at hB
  have hne : (∏ m ∈ (Finset.range pts.length).erase i,
            (((pts.getD m (0, 0)).1 : ZMod q) - ((pts.getD i (0, 0)).1 : ZMod q))) ≠ 0 := by
    rw [Finset.prod_ne_zero_iff]
    intro m hm
    rw [Finset.mem_erase] at hm
    rw [sub_ne_zero]
    intro he
    exact hm.1 (hinj (Finset.mem_coe.2 hm.2) (Finset.mem_coe.2 hi) he)
  rw [ZMod.natCast_mod, Nat.cast_mul, ZMod.natCast_mod, Nat.cast_mul, NumC06.cast_invEuclid q _ (by rw [hB]; exact hne),
    hA, hB]
  rw [div_eq_mul_inv]
  ring

theorem sharesOf_length (q : Nat) (f : (ZMod q)[X]) (xs : List Nat) : (sharesOf q f xs).length = xs.length := by
  unfold sharesOf; rw [List.length_map]

theorem sharesOf_getD (q : Nat) (f : (ZMod q)[X]) (xs : List Nat) (i : Nat) (hi : i < xs.length) :
    (sharesOf q f xs).getD i (0, 0) = (xs.getD i 0, (f.eval ((xs.getD i 0 : Nat) : ZMod q)).val) := by
  have hi' : i < (sharesOf q f xs).length := by rw [sharesOf_length]; exact hi
  rw [List.getD_eq_getElem _ _ hi', List.getD_eq_getElem _ _ hi]
  simp only [sharesOf, List.getElem_map]

/-- written without a type for `x`, `xs.map (fun x => (x : ZMod q))` elaborates with the coercion on the list (a monadic lift);
    it is the plain map of the cast.  The statements here and in Props/C06 write `fun x : Nat =>` and need no such step. -/
theorem map_norm (q : Nat) (xs : List Nat) :
    (xs.map (fun x => (x : ZMod q))) = List.map (fun x : Nat => (x : ZMod q)) xs := by
  simp only [List.map_id', List.bind_eq_flatMap, List.pure_def]
  induction xs with
  | nil => rfl
  | cons a l ih => simp [List.flatMap_cons, ih]

theorem getD_injOn (q : Nat) (xs : List Nat) (hnd : (List.map (fun x : Nat => (x : ZMod q)) xs).Nodup) :
    Set.InjOn (fun i => ((xs.getD i 0 : Nat) : ZMod q)) (Finset.range xs.length : Finset Nat) := by
  intro i hi j hj he
  rw [Finset.mem_coe, Finset.mem_range] at hi hj
  simp only [] at he
  rw [List.getD_eq_getElem _ _ hi, List.getD_eq_getElem _ _ hj] at he
  have hi' : i < (List.map (fun x : Nat => (x : ZMod q)) xs).length := by rw [List.length_map]; exact hi
  have hj' : j < (List.map (fun x : Nat => (x : ZMod q)) xs).length := by rw [List.length_map]; exact hj
  have := (hnd.getElem_inj_iff (hi := hi') (hj := hj')).1 (by rw [List.getElem_map, List.getElem_map]; exact he)
  exact this

theorem sssKey_reconstruct (q : Nat) [Fact q.Prime] (f : (ZMod q)[X]) (xs : List Nat)
    (hnd : (xs.map (fun x : Nat => (x : ZMod q))).Nodup) (hdeg : f.degree < xs.length) :
    ((sssKey q (sharesOf q f xs) : Nat) : ZMod q) = f.eval 0 ∧ sssKey q (sharesOf q f xs) < q := by
  have hq : 0 < q := (Fact.out : q.Prime).pos
  refine ⟨?_, Nat.mod_lt _ hq⟩
  have hinjx := getD_injOn q xs hnd
  have hinj : Set.InjOn (fun i => (((sharesOf q f xs).getD i (0, 0)).1 : ZMod q))
      (Finset.range (sharesOf q f xs).length : Finset Nat) := by
    rw [sharesOf_length]
    exact hinjx.congr fun i hi => by rw [sharesOf_getD q f xs i (Finset.mem_range.1 (Finset.mem_coe.1 hi))]
  rw [sssKey_cast q _ hinj, sharesOf_length]
  rw [← Relic.Lemmas.ShareC06.shamir_reconstruct_indexed f (Finset.range xs.length)
    (fun i => ((xs.getD i 0 : Nat) : ZMod q)) hinjx (by rw [Finset.card_range]; exact hdeg)]
  apply Finset.sum_congr rfl
  intro i hi
  have hi2 := Finset.mem_range.1 hi
  rw [sharesOf_getD q f xs i hi2]
  simp only []
  rw [ZMod.natCast_zmod_val]
  congr 1
  congr 1 <;> exact Finset.prod_congr rfl fun m hm => by
    rw [sharesOf_getD q f xs m (Finset.mem_range.1 (Finset.mem_of_mem_erase hm))]

theorem lagrangeAt_cast (q : Nat) [Fact q.Prime] (xs : List Nat) (y : Nat → Nat)
    (hnd : (List.map (fun x : Nat => (x : ZMod q)) xs).Nodup) :
    ((lagrangeAt q (xs.map (fun x => (x, y x))) 0 : Nat) : ZMod q) = ∑ x ∈ xs.toFinset,
      (y x : ZMod q) * ((∏ m ∈ xs.toFinset.erase x, (m : ZMod q)) /
        (∏ m ∈ xs.toFinset.erase x, ((m : ZMod q) - (x : ZMod q)))) := by
  have hxs : xs.Nodup := List.Nodup.of_map _ hnd
  have hinj := List.inj_on_of_nodup_map hnd
  unfold lagrangeAt
  simp only [List.foldl_map]
  rw [ZMod.natCast_mod, cast_foldl_sum, Nat.cast_zero, zero_add, ← List.sum_toFinset _ hxs]
  apply Finset.sum_congr rfl
  intro x hx
  rw [List.mem_toFinset] at hx
  have hc : ∀ m ∈ xs, m % q = x % q ↔ m = x := fun m hm =>
    ⟨fun h => hinj hm hx ((ZMod.natCast_eq_natCast_iff' m x q).2 h), fun h => by rw [h]⟩
  have hA := cast_foldl_prod_erase q xs hxs x _ hc (fun m => subMod q 0 m)
  have hB := cast_foldl_prod_erase q xs hxs x _ hc (fun m => subMod q x m)
  simp only [cast_subMod] at hA hB
  have hne : (∏ m ∈ xs.toFinset.erase x, ((x : ZMod q) - (m : ZMod q))) ≠ 0 := by
    rw [Finset.prod_ne_zero_iff]
    intro m hm
    rw [Finset.mem_erase, List.mem_toFinset] at hm
    rw [sub_ne_zero]
    intro he
    exact hm.1 (hinj hm.2 hx he.symm)
  rw [Nat.cast_mul, ZMod.natCast_mod, Nat.cast_mul, ZMod.natCast_mod, NumC06.cast_invEuclid q _ (by rw [hB]; exact hne),
    hA, hB, mul_assoc, ← div_eq_mul_inv, ← Finset.prod_div_distrib, ← Finset.prod_div_distrib]
  congr 1
  apply Finset.prod_congr rfl
  intro m _
  rw [Nat.cast_zero, zero_sub, ← neg_sub (m : ZMod q) (x : ZMod q), neg_div_neg_eq]

theorem lagrangeAt_zero_reconstruct (q : Nat) [Fact q.Prime] (f : (ZMod q)[X]) (xs : List Nat)
    (hnd : (xs.map (fun x : Nat => (x : ZMod q))).Nodup) (hdeg : f.degree < xs.length) :
    ((lagrangeAt q (sharesOf q f xs) 0 : Nat) : ZMod q) = f.eval 0 ∧ lagrangeAt q (sharesOf q f xs) 0 < q := by
  have hq : 0 < q := (Fact.out : q.Prime).pos
  refine ⟨?_, Nat.mod_lt _ hq⟩
  have hxs : xs.Nodup := List.Nodup.of_map _ hnd
  have hinj : Set.InjOn (fun x : Nat => (x : ZMod q)) (xs.toFinset : Finset Nat) := by
    intro a ha b hb he
    rw [Finset.mem_coe, List.mem_toFinset] at ha hb
    exact List.inj_on_of_nodup_map hnd ha hb he
  unfold sharesOf
  rw [lagrangeAt_cast q xs (fun x => (f.eval ((x : Nat) : ZMod q)).val) hnd]
  rw [← Relic.Lemmas.ShareC06.shamir_reconstruct_indexed f xs.toFinset (fun x : Nat => (x : ZMod q)) hinj
    (by rw [List.toFinset_card_of_nodup hxs]; exact hdeg)]
  apply Finset.sum_congr rfl
  intro x _
  rw [ZMod.natCast_zmod_val]

theorem sssKey_eq_lagrangeAt (q : Nat) [Fact q.Prime] (f : (ZMod q)[X]) (xs : List Nat)
    (hnd : (xs.map (fun x : Nat => (x : ZMod q))).Nodup) (hdeg : f.degree < xs.length) :
    sssKey q (sharesOf q f xs) = lagrangeAt q (sharesOf q f xs) 0 := by
  obtain ⟨h1, h1lt⟩ := sssKey_reconstruct q f xs hnd hdeg
  obtain ⟨h2, h2lt⟩ := lagrangeAt_zero_reconstruct q f xs hnd hdeg
  have h := (ZMod.natCast_eq_natCast_iff' _ _ q).1 (h1.trans h2.symm)
  rw [Nat.mod_eq_of_lt h1lt, Nat.mod_eq_of_lt h2lt] at h
  exact h

theorem zipIdx_sum_shift (q : Nat) (x : ZMod q) (l : List Nat) : ∀ k : Nat,
    ((l.zipIdx k).map fun (a, i) => (a : ZMod q) * x ^ i).sum
      = x ^ k * ((l.zipIdx 0).map fun (a, i) => (a : ZMod q) * x ^ i).sum := by
  induction l with
  | nil => intro k; simp
  | cons a l ih =>
    intro k
    rw [List.zipIdx_cons, List.zipIdx_cons, List.map_cons, List.map_cons, List.sum_cons, List.sum_cons,
      ih (k + 1), ih (0 + 1)]
    simp only []
    ring

/-- bn_evl (Horner) as the dealer uses it: share_i = f(i) -/
theorem polyEval_eq (q : Nat) [Fact q.Prime] (coeffs : List Nat) (x : Nat) :
    ((polyEval q coeffs x : Nat) : ZMod q)
      = (coeffs.zipIdx.map fun (a, i) => (a : ZMod q) * (x : ZMod q) ^ i).sum := by
  induction coeffs with
  | nil => simp [polyEval]
  | cons a l ih =>
    have hstep : polyEval q (a :: l) x = (polyEval q l x * x + a) % q := rfl
    rw [hstep, ZMod.natCast_mod, Nat.cast_add, Nat.cast_mul, ih, List.zipIdx_cons, List.map_cons, List.sum_cons,
      zipIdx_sum_shift q (x : ZMod q) l (0 + 1)]
    simp only []
    ring

end Relic.Lemmas.SssC06
