/-
fp_smb_basic = Legendre symbol (Euler's criterion), fp_is_sqr, and what fp_srt needs: the invariant of the constant-time
Tonelli–Shanks loop (c² = a·t1, t1^(2^k) = 1, t3^(2^k) = −1) and the exponents it starts from.
-/
import Mathlib.Data.ZMod.Basic
import Mathlib.Algebra.Field.ZMod
import Mathlib.NumberTheory.LegendreSymbol.Basic
import Mathlib.Tactic.Ring
import RelicVerif.Model.FpAlgCrt
import RelicVerif.Lemmas.FpAlgInv
import RelicVerif.Lemmas.NtMxpLeg

namespace Relic.Model.FpAlg
open Relic.Model.Rec
open Relic.Lemmas.ZModCast (cast_inj_of_lt cast_eq_zero_iff_of_lt)

structure Ctx.WFsrt (c : Ctx) : Prop extends c.WF where
  fpos : 0 < c.f
  fq : ∃ q, q % 2 = 1 ∧ c.p - 1 = 2 ^ c.f * q
  zlt : c.z < c.p
  zord : c.p % 4 = 1 → c.z ^ (2 ^ (c.f - 1)) % c.p = c.p - 1

theorem cast_pred (p : Nat) (hp : 0 < p) : ((p - 1 : Nat) : ZMod p) = -1 := by
  rw [Nat.cast_sub hp, ZMod.natCast_self]; simp

theorem cast_fneg (p r : Nat) (hr : r ≤ p) : ((fneg p r : Nat) : ZMod p) = -(r : ZMod p) := by
  unfold fneg
  rw [ZMod.natCast_mod, Nat.cast_sub hr, ZMod.natCast_self, zero_sub]

theorem cast_fsqr (p x : Nat) : ((fsqr p x : Nat) : ZMod p) = (x : ZMod p) ^ 2 := by
  unfold fsqr
  rw [ZMod.natCast_mod, Nat.cast_mul, sq]

theorem cast_powmod (p a e : Nat) : ((a ^ e % p : Nat) : ZMod p) = (a : ZMod p) ^ e := by
  rw [ZMod.natCast_mod, Nat.cast_pow]

theorem sq_of_cast {p x a : Nat} (ha : a < p) (h : (x : ZMod p) ^ 2 = a) : x * x % p = a := by
  have hp : 0 < p := by omega
  apply cast_inj_of_lt (p := p) (Nat.mod_lt _ hp) ha
  rw [ZMod.natCast_mod, Nat.cast_mul, ← sq, h]

/-- fp_srt and fp_crt test a candidate x by `R x == a` (R y = y² mod p, y³ mod p): the test decides whether a has a root under R
    as soon as x is one whenever a has any -/
theorem root_test {p a x : Nat} (R : Nat → Nat) (hx : x < p) (hR : (∃ y, R y = a) → R x = a) :
    ((R x == a) = true ↔ ∃ y, R y = a) ∧ ((R x == a) = true → x < p ∧ R x = a) := by
  rw [beq_iff_eq]
  exact ⟨⟨fun hh => ⟨_, hh⟩, hR⟩, fun hh => ⟨hx, hh⟩⟩

theorem root_zero {p : Nat} (R : Nat → Nat) (hp : 0 < p) (h0 : R 0 = 0) :
    (true = true ↔ ∃ y, R y = 0) ∧ (true = true → 0 < p ∧ R 0 = 0) :=
  ⟨iff_of_true rfl ⟨0, h0⟩, fun _ => ⟨hp, h0⟩⟩

theorem isSquare_iff (p : Nat) [NeZero p] (a : Nat) (ha : a < p) :
    IsSquare (a : ZMod p) ↔ ∃ y : Nat, y * y % p = a := by
  constructor
  · rintro ⟨r, hr⟩
    refine ⟨r.val, ?_⟩
    apply sq_of_cast ha
    rw [ZMod.natCast_zmod_val, hr, sq]
  · rintro ⟨y, hy⟩
    refine ⟨(y : ZMod p), ?_⟩
    rw [← hy, ZMod.natCast_mod, Nat.cast_mul]

theorem euler_val (p : Nat) [Fact p.Prime] (hp : p % 2 = 1) (a : Nat) (ha : a < p) :
    (a = 0 ∧ a ^ (p / 2) % p = 0 ∧ legendreSym p a = 0) ∨
    (a ≠ 0 ∧ a ^ (p / 2) % p = 1 ∧ legendreSym p a = 1) ∨
    (a ≠ 0 ∧ a ^ (p / 2) % p = p - 1 ∧ legendreSym p a = -1) := by
  have hp1 : (1 : Int) < p := by exact_mod_cast (Fact.out : p.Prime).one_lt
  have h : ((a ^ (p / 2) % p : Nat) : Int) = legendreSym p a % p := by rw [← NtMxp.pow_half_emod]; push_cast; rfl
  have h0 : legendreSym p a = 0 ↔ a = 0 := by
    rw [legendreSym.eq_zero_iff, Int.cast_natCast, cast_eq_zero_iff_of_lt ha]
  rcases NtMxp.legendreSym_cases p a with hl | hl | hl <;> rw [hl] at h h0
  · exact Or.inl ⟨h0.1 rfl, by rw [Int.zero_emod] at h; exact_mod_cast h, hl⟩
  · rw [Int.emod_eq_of_lt zero_le_one hp1] at h
    exact Or.inr (Or.inl ⟨fun e => absurd (h0.2 e) one_ne_zero, by exact_mod_cast h, hl⟩)
  · rw [NtMxp.neg_one_emod hp1] at h
    exact Or.inr (Or.inr ⟨fun e => absurd (h0.2 e) (by decide), by omega, hl⟩)

theorem smbBasic_spec (c : Ctx) (h : c.WF) (a : Nat) (ha : a < c.p) :
    haveI := Fact.mk h.prime
    smbBasic c a = some (legendreSym c.p a) := by
  have := Fact.mk h.prime
  have hp3 := h.three_le
  have hodd := h.odd
  have he : (c.p - 1) / 2 = c.p / 2 := by omega
  have hexp := fpExpNat_of_le c h a ((c.p - 1) / 2) ha (by omega)
  unfold smbBasic
  rw [hexp, he]
  rcases euler_val c.p hodd a ha with ⟨_, ht, hl⟩ | ⟨_, ht, hl⟩ | ⟨_, ht, hl⟩
  · simp only [ht, hl, fneg]
    simp [Nat.mod_self]
  · simp only [ht, hl]
    simp
  · have h1 : c.p - 1 ≠ 1 := by omega
    have h2 : fneg c.p (c.p - 1) = 1 := by
      unfold fneg
      have : c.p - (c.p - 1) = 1 := by omega
      rw [this, Nat.mod_eq_of_lt (by omega)]
    simp only [ht, hl, h2, if_neg h1]
    simp

theorem isSqr_spec (c : Ctx) (h : c.WF) (a : Nat) (ha : a < c.p) :
    ∃ b, isSqr c a = some b ∧ (b = true ↔ ∃ y, y * y % c.p = a) := by
  have := Fact.mk h.prime
  unfold isSqr
  by_cases h0 : a = 0
  · subst h0
    refine ⟨true, by simp, ?_⟩
    simp only [true_iff]
    exact ⟨0, by simp⟩
  · have hx : ((a : ℤ) : ZMod c.p) ≠ 0 := by
      rw [Int.cast_natCast, Ne, cast_eq_zero_iff_of_lt ha]; exact h0
    rw [if_neg h0, smbBasic_spec c h a ha]
    refine ⟨legendreSym c.p a == 1, rfl, ?_⟩
    rw [beq_iff_eq, legendreSym.eq_one_iff c.p hx, Int.cast_natCast, isSquare_iff c.p a ha]

theorem two_adic_arith (p f q : Nat) (hf : 0 < f) (hqodd : q % 2 = 1) (hq : p - 1 = 2 ^ f * q) (hp : 2 ≤ p) :
    (p >>> f) >>> 1 = q / 2 ∧ q = 2 * (q / 2) + 1 ∧ q ≤ p ∧ p / 2 = 2 ^ (f - 1) * q := by
  obtain ⟨g, rfl⟩ : ∃ g, f = g + 1 := ⟨f - 1, by omega⟩
  have hpq : p = 2 ^ (g + 1) * q + 1 := by omega
  have h1lt : 1 < 2 ^ (g + 1) := Nat.one_lt_two_pow (by omega)
  have hshift : p >>> (g + 1) = q := by
    rw [Nat.shiftRight_eq_div_pow, hpq, Nat.mul_add_div (by omega), Nat.div_eq_of_lt h1lt, Nat.add_zero]
  have hle : q ≤ 2 ^ (g + 1) * q := Nat.le_mul_of_pos_left _ (by omega)
  refine ⟨by rw [hshift, Nat.shiftRight_eq_div_pow, pow_one], by omega, by omega, ?_⟩
  rw [hpq, pow_succ, Nat.add_sub_cancel, Nat.mul_right_comm, Nat.mul_comm _ 2]
  omega

theorem fmul_lt (p x y : Nat) (hp : 0 < p) : fmul p x y < p := Nat.mod_lt _ hp

theorem sqrN_eq (p n : Nat) {r : Nat} (hr : r < p) : sqrN p n r = r ^ 2 ^ n % p := by
  have := sqrN_res p r n r 1 (res_one hr)
  rwa [Nat.one_mul] at this

theorem sqrN_lt (p n : Nat) {r : Nat} (hr : r < p) : sqrN p n r < p := by
  rw [sqrN_eq p n hr]
  exact Nat.mod_lt _ (by omega)

theorem cast_sqrN (p n : Nat) {r : Nat} (hr : r < p) : ((sqrN p n r : Nat) : ZMod p) = (r : ZMod p) ^ (2 ^ n) := by
  rw [sqrN_eq p n hr, cast_powmod]

theorem tsLoop_spec (p : Nat) [Fact p.Prime] (hp : 2 < p) (A : ZMod p) :
    ∀ (k c t1 t3 : Nat), c < p → t1 < p → (c : ZMod p) ^ 2 = A * t1 → (t1 : ZMod p) ^ (2 ^ k) = 1 →
      (t3 : ZMod p) ^ (2 ^ k) = -1 →
      tsLoop p k c t1 t3 < p ∧ ((tsLoop p k c t1 t3 : Nat) : ZMod p) ^ 2 = A := by
  intro k
  induction k with
  | zero =>
    intro c t1 t3 hc ht1 h1 h2 h3
    simp only [pow_zero, pow_one] at h2
    refine ⟨hc, ?_⟩
    show (c : ZMod p) ^ 2 = A
    rw [h1, h2, mul_one]
  | succ k ih =>
    intro c t1 t3 hc ht1 h1 h2 h3
    have hp0 : 0 < p := by omega
    have h1p : 1 % p = 1 := Nat.mod_eq_of_lt (by omega)
    have hunf : tsLoop p (k + 1) c t1 t3 =
        tsLoop p k (if sqrN p k t1 ≠ 1 % p then fmul p c t3 else c)
          (if sqrN p k t1 ≠ 1 % p then fmul p t1 (fsqr p t3) else t1) (fsqr p t3) := rfl
    rw [hunf, h1p]
    have hT2 := cast_sqrN p k ht1
    have h3' : ((fsqr p t3 : Nat) : ZMod p) ^ (2 ^ k) = -1 := by
      rw [cast_fsqr, ← pow_mul, ← pow_succ']; exact h3
    by_cases ht2 : sqrN p k t1 = 1
    · rw [if_neg (not_not.2 ht2), if_neg (not_not.2 ht2)]
      apply ih c t1 _ hc ht1 h1 _ h3'
      rw [← hT2, ht2, Nat.cast_one]
    · rw [if_pos ht2, if_pos ht2]
      have hsq : ((sqrN p k t1 : Nat) : ZMod p) * (sqrN p k t1 : Nat) = 1 := by
        rw [hT2, ← pow_two, ← pow_mul, ← pow_succ]; exact h2
      have hneg : (t1 : ZMod p) ^ (2 ^ k) = -1 := by
        rcases mul_self_eq_one_iff.1 hsq with h | h
        · exfalso; apply ht2
          apply cast_inj_of_lt (p := p) (sqrN_lt p k ht1) (by omega)
          rw [h, Nat.cast_one]
        · rw [← hT2, h]
      apply ih _ _ _ (fmul_lt _ _ _ hp0) (fmul_lt _ _ _ hp0) _ _ h3'
      · rw [cast_fmul, cast_fmul, cast_fsqr, mul_pow, h1]; ring
      · rw [cast_fmul, mul_pow, hneg, h3']; ring

/-- `he1`: a is a non-zero square (Euler's criterion); `hz`: `WFsrt.zord` -/
theorem tsRoot_spec (p : Nat) [Fact p.Prime] (hp : 2 < p) (f q z a t0 : Nat) (hq2 : q = 2 * (q / 2) + 1)
    (ht0 : (t0 : ZMod p) = (a : ZMod p) ^ (q / 2)) (he1 : (a : ZMod p) ^ (2 ^ (f - 1) * q) = 1)
    (hz : (z : ZMod p) ^ (2 ^ (f - 1)) = -1) :
    tsLoop p (f - 1) (fmul p t0 a) (fmul p (fsqr p t0) a) z < p ∧
      ((tsLoop p (f - 1) (fmul p t0 a) (fmul p (fsqr p t0) a) z : Nat) : ZMod p) ^ 2 = a := by
  have hp0 : 0 < p := by omega
  have hT1 : ((fmul p (fsqr p t0) a : Nat) : ZMod p) = (a : ZMod p) ^ q := by
    rw [cast_fmul, cast_fsqr, ht0]
    conv_rhs => rw [hq2]
    ring
  refine tsLoop_spec p hp (a : ZMod p) (f - 1) _ _ z (fmul_lt _ _ _ hp0) (fmul_lt _ _ _ hp0) ?_ ?_ hz
  · rw [cast_fmul, cast_fmul, cast_fsqr]; ring
  · rw [hT1, ← pow_mul, mul_comm, he1]

/-! ### fp_crt, exponentiation branches (Model/FpAlgCrt.lean) -/

theorem cube_of_cast {p x a : Nat} (ha : a < p) (h : (x : ZMod p) ^ 3 = a) : x * x % p * x % p = a := by
  have hp : 0 < p := by omega
  apply cast_inj_of_lt (p := p) (Nat.mod_lt _ hp) ha
  rw [ZMod.natCast_mod, Nat.cast_mul, ZMod.natCast_mod, Nat.cast_mul, ← h]; ring

/-- each of the three exponents e has 9e ≡ 3 (mod p − 1), so that (y³)^(3e) = y³ -/
theorem crtExp_arith (c : Ctx) (hp : 2 ≤ c.p) (e : Nat) (he : crtExp c = some e) :
    e ≤ c.p ∧ ∃ m, 9 * e = m * (c.p - 1) + 3 := by
  simp only [crtExp] at he
  have h3 : c.p % 18 % 3 = c.p % 3 := Nat.mod_mod_of_dvd _ (by decide)
  have h9 : c.p % 18 % 9 = c.p % 9 := Nat.mod_mod_of_dvd _ (by decide)
  rw [h3, h9] at he
  generalize c.p = p at he hp ⊢
  split_ifs at he with h1 h2 h3 <;> cases he
  · exact ⟨by omega, 6, by omega⟩
  · exact ⟨by omega, 2, by omega⟩
  · exact ⟨by omega, 1, by omega⟩

end Relic.Model.FpAlg
