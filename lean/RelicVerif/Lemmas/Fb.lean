/-
The binary-field algorithms of Model/Fb.lean compute the polynomial arithmetic of Spec/Gf2.lean, for all inputs:
the rows and the outer loop of the López-Dahab comb, table squaring = a·a, digit-wise folding = remainder modulo f, the loop
of shift-and-add with interleaved reduction, table-driven additive maps, the inversion chains = a power of a in any
commutative monoid. Comb = product, Karatsuba = product and the value 2^m - 2 of the exponent of fb_inv_basic for m = 283, 233 are
`fb_muln_low_correct`, `fb_mul_karat_correct` and `fb_inv_chains_correct` of Props/C16.lean.
-/
import Mathlib.Tactic.Ring
import Mathlib.Tactic.Linarith
import Mathlib.Tactic.LinearCombination
import Mathlib.Tactic.IntervalCases
import Mathlib.Algebra.Group.Basic
import Mathlib.Algebra.Group.Defs
import Mathlib.Data.List.GetD
import RelicVerif.Lemmas.Gf2Poly
import RelicVerif.Lemmas.BinFast
import RelicVerif.Model.Fb

namespace Relic.Lemmas.Fb
open Relic.Spec.Gf2 Relic.Model.Fb Relic.Model.BinFast Relic.Lemmas.Gf2Poly Relic.Lemmas.BinFast

theorem digitOf_lt (w a j : Nat) : digitOf w a j < 2 ^ w := Nat.mod_lt _ (Nat.two_pow_pos w)

theorem digitOf_top (w x i : Nat) (hx : x < 2 ^ (w * i + w)) : digitOf w x i = x >>> (w * i) := by
  unfold digitOf
  rw [Nat.mod_eq_of_lt]
  rwa [Nat.shiftRight_eq_div_pow, Nat.div_lt_iff_lt_mul (Nat.two_pow_pos _), ← Nat.pow_add, Nat.add_comm]

theorem window_sum (g : Nat → Nat) (hg0 : g 0 = 0) (hg : ∀ x y, g (x ^^^ y) = g x ^^^ g y) (w : Nat)
    (tab : Nat → Nat → Nat) (htab : ∀ j u, u < 2 ^ w → tab j u = g (u <<< (w * j))) (a n : Nat) :
    (List.range n).foldl (fun c j => c ^^^ tab j (digitOf w a j)) 0 = g (a % 2 ^ (w * n)) := by
  induction n with
  | zero => rw [Nat.mul_zero, Nat.pow_zero, Nat.mod_one, hg0]; rfl
  | succ n ih =>
    rw [Loops.foldl_range_succ, ih, htab n _ (digitOf_lt w a n), Nat.mul_succ, NatBits.mod_two_pow_add, hg]; rfl

def digitSum (w a : Nat) (φ : Nat → Nat) (n : Nat) : Nat :=
  (List.range n).foldl (fun c j => c ^^^ (φ (digitOf w a j) <<< (w * j))) 0

theorem digits_sum (w n a : Nat) (ha : a < 2 ^ (w * n)) : digitSum w a (fun d => d) n = a := by
  have h := window_sum id rfl (fun _ _ => rfl) w (fun j u => u <<< (w * j)) (fun _ _ _ => rfl) a n
  rwa [Nat.mod_eq_of_lt ha] at h

theorem digitSum_succ (w a : Nat) (φ : Nat → Nat) (n : Nat) :
    digitSum w a φ (n + 1) = digitSum w a φ n ^^^ (φ (digitOf w a n) <<< (w * n)) := by
  unfold digitSum
  exact Loops.foldl_range_succ _ _ _

theorem digitSum_xor (w a : Nat) (φ ψ : Nat → Nat) (n : Nat) :
    digitSum w a φ n ^^^ digitSum w a ψ n = digitSum w a (fun d => φ d ^^^ ψ d) n := by
  induction n with
  | zero => simp [digitSum]
  | succ n ih =>
    rw [digitSum_succ, digitSum_succ, digitSum_succ, ← ih, Nat.shiftLeft_xor_distrib]
    ac_rfl

theorem digitSum_shiftLeft (w a : Nat) (φ : Nat → Nat) (t n : Nat) :
    digitSum w a φ n <<< t = digitSum w a (fun d => φ d <<< t) n := by
  induction n with
  | zero => simp [digitSum]
  | succ n ih =>
    rw [digitSum_succ, digitSum_succ, ← ih, Nat.shiftLeft_xor_distrib, ← Nat.shiftLeft_add, ← Nat.shiftLeft_add, Nat.add_comm]

theorem digitSum_zero (w a : Nat) (φ : Nat → Nat) (n : Nat) (h : ∀ j, φ (digitOf w a j) = 0) :
    digitSum w a φ n = 0 := by
  induction n with
  | zero => simp [digitSum]
  | succ n ih => rw [digitSum_succ, ih, h]; simp

theorem combRow_eq (w n a b k c : Nat) :
    combRow w n (tab16 b) a k c = c ^^^ clmul (digitSum w a (fun d => (d >>> (4 * k)) % 16) n) b := by
  unfold combRow
  induction n with
  | zero => simp [digitSum, clmul_zero_left]
  | succ n ih =>
    rw [Loops.foldl_range_succ, ih, digitSum_succ, tab16_getD _ _ (Nat.mod_lt _ (by norm_num)), clmul_xor_left, clmul_shiftLeft_left,
      clmul_comm b, Nat.xor_assoc]

theorem lodah_loop (w n a b : Nat) (hw : w = 4 * (w / 4)) : ∀ i, i + 1 ≤ w / 4 →
    (List.range i).foldl (fun c i => combRow w n (tab16 b) a (w / 4 - 1 - i) c <<< 4) 0
      = clmul (digitSum w a (fun d => (d >>> (4 * (w / 4 - i))) <<< 4) n) b := by
  intro i
  induction i with
  | zero =>
    intro _
    rw [digitSum_zero, clmul_zero_left]; · rfl
    intro j
    rw [Nat.sub_zero, ← hw, Nat.shiftRight_eq_div_pow, Nat.div_eq_of_lt (digitOf_lt w a j)]; rfl
  | succ i ih =>
    intro hi
    rw [Loops.foldl_range_succ, ih (by omega), combRow_eq, ← clmul_xor_left, ← clmul_shiftLeft_left, digitSum_xor, digitSum_shiftLeft]
    congr 2
    funext d
    rw [show w / 4 - (i + 1) = w / 4 - 1 - i by omega, show 4 * (w / 4 - i) = 4 * (w / 4 - 1 - i) + 4 by omega,
      Nat.shiftRight_add, Nat.xor_comm]
    congr 1
    exact (split_lo_hi _ 4).symm

/-! ### table squaring -/

theorem spread4_eq (u : Nat) (hu : u < 16) : spread4 u = clmul u u := by
  interval_cases u <;> decide +kernel

theorem sq_shiftLeft (x k : Nat) : clmul (x <<< k) (x <<< k) = clmul x x <<< (2 * k) := by
  apply toPoly_injective
  simp only [toPoly_clmul, toPoly_shiftLeft]; ring

theorem sqrTable_fold (nn a : Nat) : sqrTable nn a = clmul (a % 2 ^ (4 * nn)) (a % 2 ^ (4 * nn)) :=
  window_sum (fun x => clmul x x) rfl clmul_self_xor 4 (fun i u => spread4 u <<< (8 * i))
    (fun i u hu => by rw [sq_shiftLeft, spread4_eq u hu, show 8 * i = 2 * (4 * i) by omega]) a nn

/-- fb_sqrl_low (nn = number of nibbles of the operand) -/
theorem sqrTable_eq (nn a : Nat) (ha : a < 2 ^ (4 * nn)) : sqrTable nn a = clmul a a := by
  rw [sqrTable_fold, Nat.mod_eq_of_lt ha]

/-! ### fast reduction -/

/-- the low part Σ_{e ∈ exps} z^e of the modulus -/
def lowPart (exps : List Nat) : Nat := exps.foldl (fun acc e => acc ^^^ (1 <<< e)) 0

theorem lowPart_cons (e : Nat) (r : List Nat) : lowPart (e :: r) = (1 <<< e) ^^^ lowPart r := by
  show (e :: r).foldl _ 0 = _
  rw [List.foldl_cons, foldl_xor_init, Nat.zero_xor]; rfl

theorem lowPart_lt (m : Nat) (exps : List Nat) (h : ∀ e ∈ exps, e < m) : lowPart exps < 2 ^ m := by
  induction exps with
  | nil => simp [lowPart]
  | cons e r ih =>
    rw [lowPart_cons]
    apply Nat.xor_lt_two_pow
    · rw [Nat.one_shiftLeft]; exact Nat.pow_lt_pow_right (by norm_num) (h e (by simp))
    · exact ih (fun e' he' => h e' (by simp [he']))

theorem foldDigit_eq (exps : List Nat) (d pos : Nat) : ∀ t,
    foldDigit exps d pos t = t ^^^ clmul (d <<< pos) (lowPart exps) := by
  unfold foldDigit
  induction exps with
  | nil => intro t; simp [lowPart, clmul_zero]
  | cons e r ih =>
    intro t
    rw [List.foldl_cons, ih, lowPart_cons, clmul_xor_right, Nat.one_shiftLeft, clmul_two_pow, ← Nat.shiftLeft_add,
      Nat.xor_assoc]

/-- removing d·z^(pos+m) and adding d·z^pos·(Σ z^e) adds the multiple d·z^pos·f -/
theorem foldDigit_modulus (exps : List Nat) (m d pos x : Nat) :
    foldDigit exps d pos (x ^^^ (d <<< (pos + m))) = x ^^^ clmul (d <<< pos) ((1 <<< m) ^^^ lowPart exps) := by
  rw [foldDigit_eq, clmul_xor_right, Nat.one_shiftLeft, clmul_two_pow, ← Nat.shiftLeft_add, Nat.xor_assoc]

theorem foldDigit_lt (exps : List Nat) (d pos N : Nat) (h : ∀ e ∈ exps, d <<< (pos + e) < 2 ^ N) : ∀ t, t < 2 ^ N →
    foldDigit exps d pos t < 2 ^ N := by
  unfold foldDigit
  induction exps with
  | nil => intro t ht; simpa using ht
  | cons e r ih =>
    intro t ht
    rw [List.foldl_cons]
    exact ih (fun e' he' => h e' (by simp [he'])) _ (Nat.xor_lt_two_pow ht (h e (by simp)))

theorem xor_hi (x s : Nat) : x ^^^ (x >>> s) <<< s = x % 2 ^ s := by
  conv_lhs => lhs; rw [split_lo_hi x s]
  rw [Nat.xor_assoc, Nat.xor_self, Nat.xor_zero]

/-- `he`: a folded digit lands below the digit it came from -/
theorem foldDigit_top (w m : Nat) (exps : List Nat) (f : Nat) (hf : f = (1 <<< m) ^^^ lowPart exps)
    (he : ∀ e ∈ exps, e + w ≤ m) (x d pos : Nat) (hd : d < 2 ^ w) (hx : x ^^^ d <<< (pos + m) < 2 ^ (pos + m)) :
    foldDigit exps d pos (x ^^^ d <<< (pos + m)) < 2 ^ (pos + m) ∧
      pmod (foldDigit exps d pos (x ^^^ d <<< (pos + m))) f = pmod x f :=
  ⟨foldDigit_lt exps d pos _ (fun e hee => shiftLeft_lt_two_pow hd (by have := he e hee; omega)) _ hx,
    by rw [foldDigit_modulus, ← hf, pmod_xor_clmul]⟩

theorem rdc_step (w m : Nat) (exps : List Nat) (f : Nat) (hf : f = (1 <<< m) ^^^ lowPart exps)
    (he : ∀ e ∈ exps, e + w ≤ m) (x i : Nat) (hwi : m ≤ w * i) (hx : x < 2 ^ (w * i + w)) :
    foldDigit exps (digitOf w x i) (w * i - m) (x ^^^ digitOf w x i <<< (w * i)) < 2 ^ (w * i) ∧
      pmod (foldDigit exps (digitOf w x i) (w * i - m) (x ^^^ digitOf w x i <<< (w * i))) f = pmod x f := by
  obtain ⟨pos, hpos⟩ : ∃ pos, w * i = pos + m := ⟨w * i - m, by omega⟩
  have hlt : x ^^^ (digitOf w x i <<< (w * i)) = x % 2 ^ (w * i) := by rw [digitOf_top w x i hx, xor_hi]
  rw [hpos] at hlt ⊢
  rw [Nat.add_sub_cancel]
  exact foldDigit_top w m exps f hf he x _ pos (digitOf_lt w x i) (by rw [hlt]; exact Nat.mod_lt _ (Nat.two_pow_pos _))

/-- the digit loop of fb_rdcn_low -/
theorem rdc_loop (w n m : Nat) (exps : List Nat) (f t : Nat) (hf : f = (1 <<< m) ^^^ lowPart exps)
    (he : ∀ e ∈ exps, e + w ≤ m) (ht : t < 2 ^ (w * (2 * n))) (q : Nat) (hmw : m ≤ w * (q + 1)) (k : Nat)
    (hk : k + (q + 1) ≤ 2 * n) :
    (fun x => x < 2 ^ (w * (2 * n - k)) ∧ pmod x f = pmod t f)
      ((List.range k).foldl (fun t idx =>
        let i := 2 * n - 1 - idx
        let d := digitOf w t i
        foldDigit exps d (w * i - m) (t ^^^ (d <<< (w * i)))) t) := by
  refine Loops.foldl_range_ind _ (fun k x => x < 2 ^ (w * (2 * n - k)) ∧ pmod x f = pmod t f) ⟨ht, rfl⟩ k ?_
  clear ht
  intro j y hj
  -- digit i = 2n - 1 - j lies above z^m
  obtain ⟨ha, hb, hc⟩ : 2 * n - j = (2 * n - 1 - j) + 1 ∧ 2 * n - (j + 1) = 2 * n - 1 - j ∧ q + 1 ≤ 2 * n - 1 - j := by
    omega
  dsimp only
  rw [ha, hb, Nat.mul_succ]
  rintro ⟨h1, h2⟩
  rw [← h2]
  exact rdc_step w m exps f hf he y _ (le_trans hmw (Nat.mul_le_mul_left w hc)) h1

/-- fb_rdcn_low (fb_rdct_low / fb_rdcp_low with exps = [a, 0] / [a, b, c, 0]); under `he` one pass over the digits suffices -/
theorem rdcQuick_eq (w n m : Nat) (exps : List Nat) (f t : Nat) (hw : 0 < w) (hn : m < w * n)
    (hf : f = exps.foldl (fun acc e => acc ^^^ (1 <<< e)) (1 <<< m))
    (he : ∀ e ∈ exps, e + w ≤ m) (ht : t < 2 ^ (2 * w * n)) :
    rdcQuick w n m exps t = pmod t f := by
  replace hf : f = (1 <<< m) ^^^ lowPart exps := by rw [hf, foldl_xor_init]; rfl
  have hbl : m < bitLen f := by
    by_contra hc
    have hfm : f.testBit m = true := by
      rw [hf, Nat.testBit_xor, Nat.one_shiftLeft, Nat.testBit_two_pow_self,
        Nat.testBit_lt_two_pow (lowPart_lt m exps fun e hee => lt_of_lt_of_le (Nat.lt_add_of_pos_right hw) (he e hee))]
      rfl
    rw [testBit_of_bitLen_le (Nat.le_of_not_lt hc)] at hfm
    exact absurd hfm (by simp)
  have hq : m / w < n := (Nat.div_lt_iff_lt_mul hw).2 (by rw [Nat.mul_comm]; exact hn)
  have hmw := Nat.div_add_mod m w
  have hmod := Nat.mod_lt m hw
  unfold rdcQuick
  simp only
  generalize m / w = q at *
  obtain ⟨hk, hk'⟩ : 2 * n - (q + 1) + (q + 1) ≤ 2 * n ∧ 2 * n - (2 * n - (q + 1)) = q + 1 := by omega
  obtain ⟨h1, h2⟩ := rdc_loop w n m exps f t hf he (by rwa [← Nat.mul_assoc, Nat.mul_comm w]) q
    (by rw [Nat.mul_succ]; omega) (2 * n - (q + 1)) hk
  generalize (List.range (2 * n - (q + 1))).foldl _ t = x at h1 h2 ⊢
  rw [hk', Nat.mul_succ] at h1
  rw [Nat.add_sub_cancel]
  -- the remaining high part is x >>> m
  have hd : digitOf w x q >>> (m % w) = x >>> m := by rw [digitOf_top w x q h1, ← Nat.shiftRight_add, hmw]
  have hdlt : x >>> m < 2 ^ w := by
    rw [← hd]
    exact lt_of_le_of_lt (Nat.shiftRight_le _ _) (digitOf_lt w x q)
  rw [hd]
  have hlast := foldDigit_top w m exps f hf he x (x >>> m) 0 hdlt
    (by rw [Nat.zero_add, xor_hi]; exact Nat.mod_lt _ (Nat.two_pow_pos _))
  rw [Nat.zero_add] at hlast
  rw [← h2, ← hlast.2]
  exact (pmod_of_bitLen_lt _ _ (lt_of_le_of_lt ((bitLen_le_iff _ _).2 hlast.1) hbl)).symm

theorem rdcQuick_clmul (F : Field) (w n : Nat) (exps : List Nat) (hw : 0 < w) (hn : F.m < w * n)
    (hf : F.f = exps.foldl (fun acc e => acc ^^^ (1 <<< e)) (1 <<< F.m)) (he : ∀ e ∈ exps, e + w ≤ F.m)
    (a b : Nat) (ha : a < 2 ^ (w * n)) (hb : b < 2 ^ (w * n)) :
    rdcQuick w n F.m exps (clmul a b) = F.mul a b :=
  rdcQuick_eq w n F.m exps F.f _ hw hn hf he (by rw [Nat.mul_assoc]; exact clmul_lt a b (w * n) ha hb)

/-! ### shift-and-add -/

theorem pmod_shiftLeft_one (x f : Nat) : pmod (pmod x f <<< 1) f = pmod (x <<< 1) f := by
  rw [← clmul_two_pow, ← clmul_two_pow, pmod_clmul_pmod_left]

theorem mulBasic_loop (f : Nat) (rdc : Nat → Nat) (hrdc : ∀ x, rdc x = pmod x f) (a b : Nat) (hb : pmod b f = b) :
    ∀ k, (List.range k).foldl (fun (st : Nat × Nat) i =>
        let s := rdc (st.1 <<< 1)
        (s, if a.testBit (i + 1) then st.2 ^^^ s else st.2)) (b, if a % 2 = 1 then b else 0)
      = (pmod (b <<< k) f, pmod (clmul (a % 2 ^ (k + 1)) b) f) := by
  intro k
  induction k with
  | zero =>
    simp only [List.range_zero, List.foldl_nil, Nat.shiftLeft_zero, hb, Nat.zero_add, Nat.pow_one]
    congr 1
    by_cases h : a % 2 = 1
    · rw [if_pos h, h, clmul_one_left, hb]
    · have h0 : a % 2 = 0 := by omega
      rw [if_neg h, h0, clmul_zero_left, pmod_zero]
  | succ k ih =>
    rw [Loops.foldl_range_succ, ih]
    simp only [hrdc]
    rw [pmod_shiftLeft_one, ← Nat.shiftLeft_add]
    congr 1
    rw [NatBits.mod_two_pow_succ a (k + 1), clmul_xor_left, pmod_xor]
    by_cases h : a.testBit (k + 1)
    · rw [if_pos h, if_pos h, clmul_comm (2 ^ (k + 1)), clmul_two_pow]
    · rw [if_neg h, if_neg h, clmul_zero_left, pmod_zero, Nat.xor_zero]

/-! ### table-driven additive maps -/

/-- fb_itrn_low (there g = a ↦ a^(2^b) mod f) -/
theorem itrTable_eq (g : Nat → Nat) (hg0 : g 0 = 0) (hg : ∀ x y, g (x ^^^ y) = g x ^^^ g y) (tab : Nat → Nat → Nat)
    (htab : ∀ i u, u < 2 ^ 4 → tab i u = g (u <<< (4 * i))) (nn a : Nat) (ha : a < 2 ^ (4 * nn)) :
    itrTable tab nn a = g a := by
  have h := window_sum g hg0 hg 4 tab htab a nn
  rwa [Nat.mod_eq_of_lt ha] at h

section chains
variable {M : Type} [CommMonoid M]

def monoidOps : MOps M := ⟨1, (· * ·)⟩

theorem sqrN_pow (n : Nat) (a : M) : MOps.sqrN (monoidOps : MOps M) n a = a ^ (2 ^ n) := by
  induction n generalizing a with
  | zero => simp [MOps.sqrN]
  | succ n ih =>
    show MOps.sqrN monoidOps n (a * a) = _
    rw [ih, ← pow_two, ← pow_mul, pow_succ']

theorem mops_mul (x y : M) : (monoidOps : MOps M).mul x y = x * y := rfl

theorem mops_sqr (x : M) : (monoidOps : MOps M).sqr x = x ^ 2 := (pow_two x).symm

theorem invBasicChain_go (a : M) : ∀ (fuel x eu ev : Nat),
    invBasicChain.go (monoidOps : MOps M) fuel x (a ^ eu) (a ^ ev) = a ^ invBasicExp.go fuel x eu ev := by
  intro fuel
  induction fuel with
  | zero => intro x eu ev; rfl
  | succ fuel ih =>
    intro x eu ev
    unfold invBasicChain.go invBasicExp.go
    by_cases hx : x = 0
    · simp [hx]
    · simp only [hx, if_false]
      rw [mops_mul, sqrN_pow, ← pow_mul, ← pow_add]
      by_cases hp : x % 2 = 0
      · simp only [hp, if_true]; exact ih _ _ _
      · simp only [hp, if_false]
        rw [mops_sqr, mops_mul, ← pow_mul, ← pow_add, mul_comm _ 2]; exact ih _ _ _

/-- fb_inv_basic -/
theorem invBasicChain_eq (m : Nat) (a : M) : invBasicChain (monoidOps : MOps M) m a = a ^ invBasicExp m := by
  have h := invBasicChain_go a (m + 1) ((m - 1) / 2) 2 0
  rw [pow_zero] at h
  unfold invBasicChain invBasicExp
  rw [mops_sqr]; exact h

/-- a chain entry (x << 8) + y creating table index k is usable when x, y < k and, if x = y, x is the last index k - 1 -/
def ChainValid (chain : List Nat) : Prop :=
  ∀ (i : Nat) (hi : i < chain.tail.length),
    chain.tail[i] / 256 < i + 2 ∧ chain.tail[i] % 256 < i + 2 ∧
      (chain.tail[i] / 256 = chain.tail[i] % 256 → chain.tail[i] / 256 = i + 1)

instance (chain : List Nat) : Decidable (ChainValid chain) := by unfold ChainValid; infer_instance

/-- the loop body of `invItohtChain` -/
def itohtStep (o : MOps M) (a : M) (st : List M × List Nat) (ch : Nat) : List M × List Nat :=
  let x := ch / 256
  let y := ch % 256
  let ui := if x = y then 2 * st.2.getLastD 0 else st.2.getD x 0 + st.2.getD y 0
  let ti := o.mul (o.sqrN (st.2.getD y 0) (st.1.getD x a)) (st.1.getD y a)
  (st.1 ++ [ti], st.2 ++ [ui])

omit [CommMonoid M] in
theorem invItohtChain_unfold (o : MOps M) (chain : List Nat) (a : M) :
    invItohtChain o chain a =
      (o.sqr ((chain.tail.foldl (itohtStep o a) ([a, o.mul (o.sqr a) a], [1, 2])).1.getLastD a),
        (chain.tail.foldl (itohtStep o a) ([a, o.mul (o.sqr a) a], [1, 2])).2.getLastD 0) := rfl

/-- the table invariant of fb_inv_itoht -/
def ItohtInv (a : M) (st : List M × List Nat) (k : Nat) : Prop :=
  st.1.length = k ∧ st.2.length = k ∧ ∀ i, i < k → st.1.getD i a = a ^ (2 ^ (st.2.getD i 0) - 1)

theorem getLastD_eq_getD {α : Type} (l : List α) (d : α) : l.getLastD d = l.getD (l.length - 1) d := by
  rw [List.getLastD_eq_getLast?, List.getLast?_eq_getElem?, List.getD_eq_getElem?_getD]

theorem pow_two_sub_one_mul (ux uy : Nat) : (2 ^ ux - 1) * 2 ^ uy + (2 ^ uy - 1) = 2 ^ (ux + uy) - 1 := by
  have := Nat.one_le_two_pow (n := uy)
  have := Nat.le_mul_of_pos_left (2 ^ uy) (Nat.two_pow_pos ux)
  rw [pow_add, Nat.sub_mul, one_mul]
  omega

theorem itohtStep_inv (a : M) (st : List M × List Nat) (k ch : Nat) (h : ItohtInv a st k)
    (hx : ch / 256 < k) (hy : ch % 256 < k) (hxy : ch / 256 = ch % 256 → ch / 256 + 1 = k) :
    ItohtInv a (itohtStep (monoidOps : MOps M) a st ch) (k + 1) := by
  obtain ⟨h1, h2, h3⟩ := h
  unfold itohtStep
  refine ⟨by rw [List.length_append, h1]; rfl, by rw [List.length_append, h2]; rfl, fun i hi => ?_⟩
  dsimp only
  rcases Nat.lt_succ_iff_lt_or_eq.1 hi with hik | rfl
  · rw [List.getD_append _ _ _ _ (h1.symm ▸ hik), List.getD_append _ _ _ _ (h2.symm ▸ hik)]
    exact h3 i hik
  · rw [List.getD_append_right _ _ _ _ h1.le, List.getD_append_right _ _ _ _ h2.le, h1, h2, Nat.sub_self,
      List.getD_cons_zero, List.getD_cons_zero]
    -- for x = y the code doubles the last u, and x is the last index
    have hu : (if ch / 256 = ch % 256 then 2 * st.2.getLastD 0 else st.2.getD (ch / 256) 0 + st.2.getD (ch % 256) 0)
        = st.2.getD (ch / 256) 0 + st.2.getD (ch % 256) 0 := by
      split
      · rename_i he
        rw [getLastD_eq_getD, h2, ← he, ← hxy he, Nat.add_sub_cancel, two_mul]
      · rfl
    rw [hu, mops_mul, sqrN_pow, h3 _ hx, h3 _ hy, ← pow_mul, ← pow_add, pow_two_sub_one_mul]

/-- fb_inv_itoht: for any valid chain, the result is a^(2·(2^u - 1)) where u is the last chain value the function itself
    computes.  `ChainValid` is needed: without it
    * an index out of range reads the default a with u = 0: chain = [0, 5·256 + 0] gives u = 0 + 1 = 1 and the value
      (a² · a)² = a^6, not a^(2·(2^1 - 1)) = a^2;
    * an entry with x = y that is not the last index gets u = 2·u_last instead of 2·u_x: chain = [0, 256, 0] gives the
      table a, a^3, a^7 (u = 1, 2, 3), then x = y = 0 gives a^2·a = a^3 with u = 2·3 = 6: result a^6, not a^(2·(2^6 - 1)). -/
theorem invItohtChain_eq (chain : List Nat) (a : M) (hchain : ChainValid chain) :
    (invItohtChain (monoidOps : MOps M) chain a).1 = a ^ (2 * (2 ^ (invItohtChain (monoidOps : MOps M) chain a).2 - 1)) := by
  have h0 : ItohtInv a (([a, (monoidOps : MOps M).mul ((monoidOps : MOps M).sqr a) a], [1, 2]) : List M × List Nat) 2 := by
    refine ⟨rfl, rfl, ?_⟩
    intro i hi
    interval_cases i
    · simp
    · show a * a * a = _
      simp only [List.getD_cons_succ, List.getD_cons_zero]
      rw [show 2 ^ 2 - 1 = 3 by norm_num, pow_succ, pow_two]
  -- entry i of the chain creates table index i + 2
  obtain ⟨h1, h2, h3⟩ := Loops.foldl_ind_idx (itohtStep (monoidOps : MOps M) a) (fun i st => ItohtInv a st (i + 2)) chain.tail h0
    fun i hi st h => itohtStep_inv a st (i + 2) _ h (hchain i hi).1 (hchain i hi).2.1
      fun he => congrArg (· + 1) ((hchain i hi).2.2 he)
  rw [invItohtChain_unfold]
  dsimp only
  rw [getLastD_eq_getD, getLastD_eq_getD, h1, h2, h3 _ (by omega), mops_sqr, ← pow_mul, mul_comm]

end chains

end Relic.Lemmas.Fb

