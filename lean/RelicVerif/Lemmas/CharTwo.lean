/-
Commutative rings in which 2 = 0, stated with that equation as a hypothesis: the quotient GF(2)[z]/(f) of Lemmas/Gf2Field.lean
carries no `CharP` instance (it is the zero ring for a unit f), a field of characteristic two supplies `CharTwo.two_eq_zero`.
-/
import Mathlib.Algebra.CharP.Two
import Mathlib.Algebra.BigOperators.Group.Finset.Basic
import Mathlib.Tactic.Ring
import Mathlib.Tactic.LinearCombination

namespace Relic.Lemmas.Char2

section
variable {R : Type*} [CommRing R] (h2 : (2 : R) = 0)
include h2

theorem add_self (x : R) : x + x = 0 := by rw [← two_mul, h2, zero_mul]

theorem add_sq (x y : R) : (x + y) ^ 2 = x ^ 2 + y ^ 2 := by
  rw [_root_.add_sq, h2, zero_mul, zero_mul, add_zero]

theorem add_pow_two_pow (n : ℕ) (x y : R) : (x + y) ^ 2 ^ n = x ^ 2 ^ n + y ^ 2 ^ n := by
  induction n with
  | zero => simp
  | succ n ih => rw [pow_succ, pow_mul, pow_mul, pow_mul, ih, add_sq h2]

end

/-- for m = 2n + 1, c^(2^m) = c (every element of GF(2^m)) and Tr(c) = Σ_{j<m} c^(2^j) = 0 the right side is c: the half-trace
    H = Σ_{i ≤ n} c^(4^i) solves H² + H = c -/
theorem halfTrace_sq_add {R : Type*} [CommRing R] (h2 : (2 : R) = 0) (c : R) (n : ℕ) :
    (∑ i ∈ Finset.range (n + 1), c ^ 2 ^ (2 * i)) ^ 2 + ∑ i ∈ Finset.range (n + 1), c ^ 2 ^ (2 * i) =
      ∑ j ∈ Finset.range (2 * n + 2), c ^ 2 ^ j := by
  induction n with
  | zero => simp [Finset.sum_range_succ]; ring
  | succ n ih =>
    rw [Finset.sum_range_succ _ (n + 1), show 2 * (n + 1) + 2 = (2 * n + 2) + 1 + 1 by ring,
      Finset.sum_range_succ _ (2 * n + 2 + 1), Finset.sum_range_succ _ (2 * n + 2), ← ih, show 2 * (n + 1) = 2 * n + 2 by ring,
      pow_succ 2 (2 * n + 2), pow_mul c]
    -- the cross term of the square is twice a product
    linear_combination (∑ i ∈ Finset.range (n + 1), c ^ 2 ^ (2 * i)) * c ^ 2 ^ (2 * n + 2) * h2

end Relic.Lemmas.Char2
