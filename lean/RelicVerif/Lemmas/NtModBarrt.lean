/- Proofs about the Barrett reduction model of Model/NtMod.lean: the quotient estimate is off by at most two (the correction loop runs at
   most twice) and the result is the residue.  Also what Barrett shares with the pseudo-Mersenne and Montgomery proofs: the correction
   loop `subAll`, the bounds of `used`, and the residue of a negative operand (`neg_residue`, `sign_fix`). -/
import RelicVerif.Model.NtMod
import Mathlib.Tactic.Linarith
import Mathlib.Tactic.Ring
import Mathlib.Tactic.Positivity
import Mathlib.Tactic.NormNum
import Mathlib.Algebra.Order.Ring.Int

namespace Relic.Lemmas.NtMod
open Relic.Model.NtMod

theorem subLoop_spec (m : Int) (hm : 0 < m) : ∀ (j fuel : Nat) (r : Int) (n : Nat), 0 ≤ r → r < m → j < fuel →
    subLoop m fuel (r + (j : Int) * m) n = (r, n + j) := by
  intro j
  induction j with
  | zero =>
    intro fuel r n h0 h1 hf
    cases fuel with
    | zero => omega
    | succ f =>
      have : ¬ (r + ((0 : Nat) : Int) * m ≥ m) := by simp; omega
      rw [subLoop, if_neg this]; simp
  | succ j ih =>
    intro fuel r n h0 h1 hf
    cases fuel with
    | zero => omega
    | succ f =>
      have hj : (0 : Int) ≤ (j : Int) * m := mul_nonneg (Int.natCast_nonneg j) hm.le
      have hge : r + ((j + 1 : Nat) : Int) * m ≥ m := by push_cast; linarith
      have he : r + ((j + 1 : Nat) : Int) * m - m = r + (j : Int) * m := by push_cast; ring
      rw [subLoop, if_pos hge, he, ih f r (n + 1) h0 h1 (by omega)]
      congr 1; omega

theorem subAll_spec (m t : Int) (hm : 0 < m) (ht : 0 ≤ t) : subAll m t = (t % m, (t / m).toNat) := by
  have hq : 0 ≤ t / m := Int.ediv_nonneg ht hm.le
  have h := subLoop_spec m hm (t / m).toNat ((t / m).toNat + 1) (t % m) 0 (Int.emod_nonneg t hm.ne')
    (Int.emod_lt_of_pos t hm) (Nat.lt_succ_self _)
  rw [Int.toNat_of_nonneg hq, Int.emod_add_ediv_mul] at h
  simpa [subAll] using h

/-- HAC 14.42 with P = B^(k-1), Q = B^(k+1) -/
theorem barrett_bounds (c m P Q : Int) (hP : 0 < P) (hQ : 0 < Q) (hm : P ≤ m) (hc0 : 0 ≤ c) (hc : c < P * Q) :
    (c / P * (P * Q / m) / Q) * m ≤ c ∧ c < (c / P * (P * Q / m) / Q) * m + 3 * m := by
  have hm0 : 0 < m := lt_of_lt_of_le hP hm
  generalize hu : P * Q / m = u
  generalize hq1 : c / P = q1
  generalize hq3 : q1 * u / Q = q3
  have hu1 : u * m ≤ P * Q := by rw [← hu]; exact Int.ediv_mul_le _ hm0.ne'
  have hu2 : P * Q < (u + 1) * m := by rw [← hu]; exact Int.lt_ediv_add_one_mul_self _ hm0
  have hq1a : q1 * P ≤ c := by rw [← hq1]; exact Int.ediv_mul_le _ hP.ne'
  have hq1b : c < (q1 + 1) * P := by rw [← hq1]; exact Int.lt_ediv_add_one_mul_self _ hP
  have hq3a : q3 * Q ≤ q1 * u := by rw [← hq3]; exact Int.ediv_mul_le _ hQ.ne'
  have hq3b : q1 * u < (q3 + 1) * Q := by rw [← hq3]; exact Int.lt_ediv_add_one_mul_self _ hQ
  have hq10 : 0 ≤ q1 := by rw [← hq1]; exact Int.ediv_nonneg hc0 hP.le
  have hq1Q : q1 < Q := lt_of_mul_lt_mul_right (by linarith : q1 * P < Q * P) hP.le
  constructor
  · have h1 : q3 * m * Q ≤ c * Q := by
      calc q3 * m * Q = (q3 * Q) * m := by ring
        _ ≤ (q1 * u) * m := mul_le_mul_of_nonneg_right hq3a hm0.le
        _ = q1 * (u * m) := by ring
        _ ≤ q1 * (P * Q) := mul_le_mul_of_nonneg_left hu1 hq10
        _ = (q1 * P) * Q := by ring
        _ ≤ c * Q := mul_le_mul_of_nonneg_right hq1a hQ.le
    exact le_of_mul_le_mul_right h1 hQ
  · have e1 : c * Q < (q1 + 1) * P * Q := mul_lt_mul_of_pos_right hq1b hQ
    have e2 : q1 * (P * Q) ≤ q1 * ((u + 1) * m) := mul_le_mul_of_nonneg_left hu2.le hq10
    have e3 : q1 * u * m < (q3 + 1) * Q * m := mul_lt_mul_of_pos_right hq3b hm0
    have e4 : q1 * m < Q * m := mul_lt_mul_of_pos_right hq1Q hm0
    have e5 : P * Q ≤ m * Q := mul_le_mul_of_nonneg_right hm hQ.le
    have h2 : c * Q < (q3 * m + 3 * m) * Q := by linarith
    exact lt_of_mul_lt_mul_right h2 hQ.le

/-- the step `if (t < 0) t += B^(k+1)` of bn_mod_barrt on the truncated difference r1 − r2 -/
theorem wrap_fix (x y Q : Int) (hQ : 0 < Q) (hd0 : 0 ≤ x - y) (hd1 : x - y < Q) :
    (if x % Q - y % Q < 0 then x % Q - y % Q + Q else x % Q - y % Q) = x - y := by
  have hx := Int.emod_nonneg x hQ.ne'
  have hx' := Int.emod_lt_of_pos x hQ
  have hy := Int.emod_nonneg y hQ.ne'
  have hy' := Int.emod_lt_of_pos y hQ
  have hxy : x - y = (x % Q - y % Q) % Q := by rw [← Int.sub_emod, Int.emod_eq_of_lt hd0 hd1]
  rw [hxy]
  split_ifs with h
  · rw [← Int.add_emod_right (x % Q - y % Q) Q, Int.emod_eq_of_lt (a := x % Q - y % Q + Q) (by omega) (by omega)]
  · rw [Int.emod_eq_of_lt (a := x % Q - y % Q) (by omega) (by omega)]

theorem barrtCore_spec (w k : Nat) (hw : 2 ≤ w) (hk : 1 ≤ k) (c m : Int)
    (hm1 : ((2 : Int) ^ w) ^ (k - 1) ≤ m) (hm2 : m < ((2 : Int) ^ w) ^ k) (hc1 : 0 ≤ c) (hc2 : c < ((2 : Int) ^ w) ^ (2 * k)) :
    (barrtCore w k c m ((2 : Int) ^ (2 * k * w) / m)).1 = c % m ∧
    (barrtCore w k c m ((2 : Int) ^ (2 * k * w) / m)).2.2 ≤ 2 := by
  obtain ⟨k', rfl⟩ : ∃ k', k = k' + 1 := ⟨k - 1, by omega⟩
  simp only [Nat.add_sub_cancel] at *
  have hB : (0 : Int) < (2 : Int) ^ w := by positivity
  have hB4 : (4 : Int) ≤ (2 : Int) ^ w := by
    calc (4 : Int) = 2 ^ 2 := by norm_num
      _ ≤ 2 ^ w := pow_le_pow_right₀ (by norm_num) hw
  generalize hBd : (2 : Int) ^ w = B at *
  have hP : 0 < B ^ k' := by positivity
  have hQ : 0 < B ^ (k' + 1 + 1) := by positivity
  have hPQ : (2 : Int) ^ (2 * (k' + 1) * w) = B ^ k' * B ^ (k' + 1 + 1) := by
    rw [← hBd, ← pow_mul, ← pow_mul, ← pow_add]; congr 1; ring
  have hN : B ^ (2 * (k' + 1)) = B ^ k' * B ^ (k' + 1 + 1) := by
    rw [← pow_add]; congr 1; ring
  rw [hPQ]
  rw [hN] at hc2
  have hm0 : 0 < m := lt_of_lt_of_le hP hm1
  obtain ⟨hb1, hb2⟩ := barrett_bounds c m (B ^ k') (B ^ (k' + 1 + 1)) hP hQ hm1 hc1 hc2
  have h3m : 3 * m ≤ B ^ (k' + 1 + 1) := by
    have : B ^ (k' + 1 + 1) = B ^ (k' + 1) * B := pow_succ B (k' + 1)
    have hk1 : 0 < B ^ (k' + 1) := by positivity
    have := mul_le_mul_of_nonneg_left hB4 hk1.le
    linarith
  generalize hq3 : c / B ^ k' * (B ^ k' * B ^ (k' + 1 + 1) / m) / B ^ (k' + 1 + 1) = q3 at hb1 hb2
  have hd0 : 0 ≤ c - q3 * m := sub_nonneg.2 hb1
  have hfix := wrap_fix c (q3 * m) (B ^ (k' + 1 + 1)) hQ hd0 (by linarith)
  have hsub := subAll_spec m (c - q3 * m) hm0 hd0
  have hmod : (c - q3 * m) % m = c % m := by
    rw [Int.sub_eq_add_neg, ← Int.neg_mul, Int.add_mul_emod_self_right]
  have hdiv : ((c - q3 * m) / m).toNat ≤ 2 := by
    have : (c - q3 * m) / m < 3 := Int.ediv_lt_of_lt_mul hm0 (sub_lt_iff_lt_add'.2 hb2)
    omega
  simp only [barrtCore, hBd, Nat.add_sub_cancel, hq3, hfix, hsub]
  exact ⟨hmod, hdiv⟩

theorem used_upper (w n : Nat) (hw : 0 < w) : n < 2 ^ (w * used w n) := by
  unfold used
  split
  · subst_vars; positivity
  · calc n < 2 ^ (n.log2 + 1) := Nat.lt_log2_self
      _ ≤ 2 ^ (w * (n.log2 / w + 1)) := Nat.pow_le_pow_right (by omega) (Nat.lt_mul_div_succ _ hw)

theorem lt_pow_used (w : Nat) (hw : 0 < w) (m : Int) (hm : 0 ≤ m) : m < ((2 : Int) ^ w) ^ used w m.toNat := by
  rw [← pow_mul]
  conv_lhs => rw [← Int.toNat_of_nonneg hm]
  exact_mod_cast used_upper w m.toNat hw

theorem used_lower (w n : Nat) (hn : n ≠ 0) : 2 ^ (w * (used w n - 1)) ≤ n := by
  unfold used
  simp only [hn, if_false, Nat.add_sub_cancel]
  calc 2 ^ (w * (n.log2 / w)) ≤ 2 ^ n.log2 := Nat.pow_le_pow_right (by omega) (Nat.mul_div_le _ _)
    _ ≤ n := Nat.log2_self_le hn

theorem used_pos (w n : Nat) : 1 ≤ used w n := by
  unfold used; split
  · exact Nat.le_refl 1
  · exact Nat.le_add_left 1 _

theorem lt_of_used_le (w n j : Nat) (hw : 0 < w) (h : used w n ≤ j) : n < 2 ^ (w * j) :=
  lt_of_lt_of_le (used_upper w n hw) (Nat.pow_le_pow_right (by omega) (Nat.mul_le_mul_left w h))

/-- what `if (neg && c != 0) c = m - c` computes -/
theorem neg_residue (a m : Int) (hm : 0 < m) : a % m = if (-a) % m = 0 then 0 else m - (-a) % m := by
  have h1 := Int.emod_add_mul_ediv (-a) m
  have h2 := Int.emod_nonneg (-a) hm.ne'
  have h3 := Int.emod_lt_of_pos (-a) hm
  generalize (-a) % m = r at h1 h2 h3 ⊢
  generalize (-a) / m = q at h1
  obtain rfl : a = -(r + m * q) := by linarith
  split
  · next h =>
    subst h
    exact Int.emod_eq_zero_of_dvd ⟨-q, by ring⟩
  · next h =>
    have e : -(r + m * q) = (m - r) + m * (-q - 1) := by ring
    rw [e, Int.add_mul_emod_self_left]
    exact Int.emod_eq_of_lt (by omega) (by omega)

theorem sign_fix (a m : Int) (hm : 0 < m) :
    (if a < 0 ∧ (a.natAbs : Int) % m ≠ 0 then m - (a.natAbs : Int) % m else (a.natAbs : Int) % m) = a % m := by
  by_cases hneg : a < 0
  · rw [neg_residue a m hm, show (a.natAbs : Int) = -a by omega]
    by_cases hz : (-a) % m = 0 <;> simp [hz, hneg]
  · rw [show (a.natAbs : Int) = a by omega]
    simp [hneg]

theorem modBarrtFull_spec (w : Nat) (hw : 2 ≤ w) (a m : Int) (hm : 0 < m) :
    ∃ p, modBarrtFull w a m = some (a % m, p) ∧ ∀ wr n, p = BarrtPath.main wr n → n ≤ 2 := by
  have hmn : ¬ m ≤ 0 := not_le.mpr hm
  simp only [modBarrtFull, preBarrt, modBarrt, hmn, if_false]
  have hma : (m.natAbs : Int) = m := Int.natAbs_of_nonneg hm.le
  have hmt : (m.toNat : Int) = m := Int.toNat_of_nonneg hm.le
  have hc0 : (0 : Int) ≤ (a.natAbs : Int) := Int.natCast_nonneg _
  by_cases h1 : a.natAbs < m.natAbs
  · refine ⟨.early, ?_, by intro _ _ h; cases h⟩
    simp only [h1, if_true]
    by_cases hneg : a < 0
    · rw [if_pos hneg, ← Int.add_emod_right, Int.emod_eq_of_lt (a := a + m) (by omega) (by omega)]
    · rw [if_neg hneg, Int.emod_eq_of_lt (by omega) (by omega)]
  · simp only [h1, if_false]
    by_cases h2 : used w a.natAbs > 2 * used w m.toNat
    · exact ⟨.long, by simp only [h2, if_true], by intro _ _ h; cases h⟩
    · simp only [h2, if_false]
      have hw0 : 0 < w := by omega
      have hmne : m.toNat ≠ 0 := by omega
      have hml := used_lower w m.toNat hmne
      have hau := lt_of_used_le w a.natAbs (2 * used w m.toNat) hw0 (by omega)
      have hm1 : ((2 : Int) ^ w) ^ (used w m.toNat - 1) ≤ m := by
        rw [← pow_mul, ← hmt]; exact_mod_cast hml
      have hm2 := lt_pow_used w hw0 m hm.le
      have hc2 : (a.natAbs : Int) < ((2 : Int) ^ w) ^ (2 * used w m.toNat) := by
        rw [← pow_mul]; exact_mod_cast hau
      obtain ⟨hv, hn⟩ := barrtCore_spec w (used w m.toNat) hw (used_pos w _) (a.natAbs : Int) m hm1 hm2 hc0 hc2
      refine ⟨_, by rw [hv, sign_fix a m hm], ?_⟩
      intro wr n h
      cases h
      exact hn

theorem modBarrtFull_nonneg (w : Nat) (hw : 2 ≤ w) (a m : Int) (hm : 0 < m) (_ha : 0 ≤ a) :
    ∃ p, modBarrtFull w a m = some (a % m, p) ∧ ∀ wr n, p = BarrtPath.main wr n → n ≤ 2 :=
  modBarrtFull_spec w hw a m hm

end Relic.Lemmas.NtMod
