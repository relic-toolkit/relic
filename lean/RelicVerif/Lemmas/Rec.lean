/-
Scalar recodings (Model/Rec.lean): every recoding represents exactly the input integer, using only the
digits and length its contract promises; sparsity (at most one non-zero digit among w) is proved for the NAF only.
-/
import RelicVerif.Model.Rec
import RelicVerif.Lemmas.NatBits

namespace Relic.Model.Rec

/-- what `mulSlide` and the exponentiation loops do with a sliding-window string, most significant first -/
def evalSlw (ds : List Int) : Int :=
  ds.foldl (fun acc d => if d = 0 then 2 * acc else acc * 2 ^ (bitLen d.toNat) + d) 0

theorem bitLen_spec (n : Nat) (h : 0 < n) : 2 ^ (bitLen n - 1) ≤ n ∧ n < 2 ^ bitLen n :=
  ⟨Lemmas.NatBits.two_pow_pred_bl_le (Nat.ne_of_gt h), Lemmas.NatBits.lt_two_pow_bl n⟩

theorem lt_two_pow_bitLen (n : Nat) : n < 2 ^ bitLen n := Lemmas.NatBits.lt_two_pow_bl n

theorem bitLen_pos {n : Nat} (h : 0 < n) : 0 < bitLen n := Lemmas.NatBits.bl_pos (Nat.ne_of_gt h)

theorem bitLen_le_of_lt {n b : Nat} (h : n < 2 ^ b) : bitLen n ≤ b := (Lemmas.NatBits.bl_le_iff n b).2 h

theorem two_pow_eq (c : Nat) (hc : 0 < c) : 2 ^ c = 2 * 2 ^ (c - 1) := by
  rw [← Nat.pow_succ']; congr 1; omega

theorem shr_top (n : Nat) (h : 0 < n) : n >>> (bitLen n - 1) = 1 := by
  obtain ⟨h1, h2⟩ := bitLen_spec n h
  have hp := bitLen_pos h
  have e := two_pow_eq (bitLen n) hp
  rw [Nat.shiftRight_eq_div_pow]
  exact Nat.div_eq_of_lt_le (by omega) (by omega)

theorem lt_two_pow_ceil (n d : Nat) (hd : 0 < d) : n < 2 ^ (((bitLen n + d - 1) / d) * d) := by
  have h2 := Nat.lt_mul_div_succ (bitLen n + d - 1) hd
  rw [Nat.mul_succ, Nat.mul_comm d] at h2
  exact Nat.lt_of_lt_of_le (lt_two_pow_bitLen n) (Nat.pow_le_pow_right (by decide) (by omega))

@[simp] theorem eval_nil (s : Nat) : eval s [] = 0 := rfl
@[simp] theorem eval_cons (s : Nat) (d : Int) (ds : List Int) : eval s (d :: ds) = d + 2 ^ s * eval s ds := rfl

theorem eval_append (s : Nat) (a b : List Int) :
    eval s (a ++ b) = eval s a + 2 ^ (s * a.length) * eval s b := by
  induction a with
  | nil => simp
  | cons d a ih =>
    simp only [List.cons_append, eval_cons, ih, List.length_cons, Nat.mul_succ, Int.pow_add]
    grind

theorem eval_zeros (s : Nat) : ∀ (zs : List Int), (∀ z ∈ zs, z = 0) → eval s zs = 0 := by
  intro zs
  induction zs with
  | nil => intro _; rfl
  | cons z zs ih =>
    intro h
    rw [eval_cons, h z List.mem_cons_self, ih (fun x hx => h x (List.mem_cons_of_mem _ hx))]
    simp

theorem getBits_eq (k f t : Nat) : getBits k f t = (k / 2 ^ f) % 2 ^ (t + 1 - f) := by
  simp [getBits, Nat.shiftRight_eq_div_pow]

theorem eval_win_aux (k w cnt : Nat) :
    eval w ((List.range cnt).map (fun j => (((k / 2 ^ (j * w)) % 2 ^ w : Nat) : Int)) ++
      [((k / 2 ^ (cnt * w) : Nat) : Int)]) = k := by
  induction cnt with
  | zero => simp
  | succ c ih =>
    rw [eval_append] at ih
    rw [List.range_succ, List.map_append, List.append_assoc, eval_append]
    simp only [List.length_map, List.length_range, eval_cons, eval_nil, List.map_cons, List.map_nil,
      List.cons_append, List.nil_append, Int.mul_zero, Int.add_zero] at ih ⊢
    have e : k / 2 ^ ((c + 1) * w) = k / 2 ^ (c * w) / 2 ^ w := by
      rw [Nat.div_div_eq_div_mul, ← Nat.pow_add, Nat.add_mul, Nat.one_mul]
    have := Nat.mod_add_div (k / 2 ^ (c * w)) (2 ^ w)
    rw [e]
    have e2 : ((k / 2 ^ (c * w) % 2 ^ w : Nat) : Int) + 2 ^ w * ((k / 2 ^ (c * w) / 2 ^ w : Nat) : Int)
        = ((k / 2 ^ (c * w) : Nat) : Int) := by
      exact_mod_cast this
    rw [e2]; exact ih

theorem win_count (l w : Nat) (hw : 0 < w) : max ((l + w - 1) / w) 1 = (l - 1) / w + 1 := by
  rcases Nat.eq_zero_or_pos l with rfl | hl
  · rw [Nat.zero_add, Nat.div_eq_of_lt (by omega)]; simp
  · rw [show l + w - 1 = (l - 1) + w by omega, Nat.add_div_right _ hw]
    exact Nat.max_eq_left (Nat.le_add_left _ _)

theorem recWin_eq_some {cap k w : Nat} (hw : 0 < w) {ds : List Int} :
    recWin cap k w = some ds ↔ max ((bitLen k + w - 1) / w) 1 ≤ cap ∧
      (List.range ((bitLen k - 1) / w)).map (fun j => (((k / 2 ^ (j * w)) % 2 ^ w : Nat) : Int)) ++
        [((k / 2 ^ ((bitLen k - 1) / w * w) : Nat) : Int)] = ds := by
  have hl2 := lt_two_pow_bitLen k
  have hcnt : (if bitLen k ≤ w then 0 else (bitLen k - w + w - 1) / w) = (bitLen k - 1) / w := by
    split
    · rw [Nat.div_eq_of_lt (by omega)]
    · rw [show bitLen k - w + w - 1 = bitLen k - 1 by omega]
  have hdm := Nat.div_mul_le_self (bitLen k - 1) w
  unfold recWin
  simp only [hcnt]
  generalize bitLen k = l at *
  generalize (l - 1) / w = cnt at *
  have hlast : getBits k (cnt * w) (l - 1) = k / 2 ^ (cnt * w) := by
    rw [getBits_eq]
    apply Nat.mod_eq_of_lt
    rw [Nat.div_lt_iff_lt_mul (Nat.two_pow_pos _), ← Nat.pow_add]
    exact Nat.lt_of_lt_of_le hl2 (Nat.pow_le_pow_right (by decide) (by omega))
  simp only [hlast, getBits_eq, show ∀ j, j * w + w - 1 + 1 - j * w = w by omega]
  split
  · simp; omega
  · simp; omega

theorem win_top_lt (k w : Nat) (hw : 0 < w) : k / 2 ^ ((bitLen k - 1) / w * w) < 2 ^ w := by
  rw [Nat.div_lt_iff_lt_mul (Nat.two_pow_pos _), ← Nat.pow_add]
  refine Nat.lt_of_lt_of_le (lt_two_pow_bitLen k) (Nat.pow_le_pow_right (by decide) ?_)
  have h := Nat.div_add_mod (bitLen k - 1) w
  have := Nat.mod_lt (bitLen k - 1) hw
  rw [Nat.mul_comm] at h
  omega

/-- zero included: the single window 0 -/
theorem recWin_value (cap k w : Nat) (hw : 0 < w) (ds : List Int) (h : recWin cap k w = some ds) :
    eval w ds = k ∧ ∀ d ∈ ds, 0 ≤ d ∧ d < 2 ^ w := by
  obtain ⟨_, rfl⟩ := (recWin_eq_some hw).1 h
  refine ⟨eval_win_aux k w _, fun d hd => ?_⟩
  simp only [List.mem_append, List.mem_map, List.mem_range, List.mem_singleton] at hd
  rcases hd with ⟨j, _, rfl⟩ | rfl
  · exact ⟨Int.natCast_nonneg _, by exact_mod_cast Nat.mod_lt _ (Nat.two_pow_pos w)⟩
  · exact ⟨Int.natCast_nonneg _, by exact_mod_cast win_top_lt k w hw⟩

theorem recWin_length (cap k w : Nat) (hw : 0 < w) (ds : List Int) (h : recWin cap k w = some ds) :
    ds.length = max ((bitLen k + w - 1) / w) 1 ∧ ds.length ≤ cap := by
  obtain ⟨hcap, rfl⟩ := (recWin_eq_some hw).1 h
  rw [win_count _ w hw] at hcap ⊢
  simpa using hcap

theorem recWin_spec (cap k w : Nat) (hw : 0 < w) (hk : 0 < k) (ds : List Int) (h : recWin cap k w = some ds) :
    eval w ds = k ∧ (∀ d ∈ ds, 0 ≤ d ∧ d < 2 ^ w) ∧ ds.length = (bitLen k + w - 1) / w ∧ ds.length ≤ cap := by
  obtain ⟨hv, hd⟩ := recWin_value cap k w hw ds h
  obtain ⟨hl, hc⟩ := recWin_length cap k w hw ds h
  have := (Nat.le_div_iff_mul_le hw).2 (show 1 * w ≤ bitLen k + w - 1 by have := bitLen_pos hk; omega)
  exact ⟨hv, hd, by omega, hc⟩

/-- the powers of two, the quotient part and the residue get names, so that `omega` sees linear facts about them -/
theorem split_pow (w t : Nat) (hw : 2 ≤ w) :
    ∃ P X m : Nat, 2 ^ (w - 1) = P ∧ 2 ^ w = 2 * P ∧ P % 2 = 0 ∧ 0 < P ∧ P * (t / 2 ^ w) = X ∧ t % 2 ^ w = m ∧
      t = 2 * X + m ∧ m < 2 * P := by
  obtain ⟨s, rfl⟩ : ∃ s, w = s + 2 := ⟨w - 2, by omega⟩
  have hW : (2 : Nat) ^ (s + 2) = 2 * (2 * 2 ^ s) := by rw [Nat.pow_succ, Nat.pow_succ]; omega
  have hP : (2 : Nat) ^ (s + 2 - 1) = 2 * 2 ^ s := by
    rw [show s + 2 - 1 = s + 1 by omega, Nat.pow_succ, Nat.mul_comm]
  have hdm := Nat.div_add_mod t (2 ^ (s + 2))
  have hlt := Nat.mod_lt t (Nat.two_pow_pos (s + 2))
  rw [hW, Nat.mul_assoc] at hdm
  rw [hW] at hlt
  have := Nat.two_pow_pos s
  exact ⟨2 * 2 ^ s, _, _, hP, hW, by omega, by omega, rfl, rfl, by rw [hW]; omega, by rw [hW]; exact hlt⟩

theorem recRegLoop_length (w l t : Nat) (acc : List Int) : (recRegLoop w l t acc).1.length = acc.length + l := by
  fun_induction recRegLoop w l t acc with
  | case1 => rfl
  | case2 l t acc u t' ih => rw [ih]; simp; omega

theorem recReg_length (cap k n w : Nat) (ds : List Int) (h : recReg cap k n w = some ds) :
    ds.length = (n + (w - 1) - 1) / (w - 1) + 1 := by
  unfold recReg at h
  simp only at h
  split at h
  · exact absurd h (by simp)
  · simp only [Option.some.injEq] at h
    subst h
    simp [recRegLoop_length]

theorem recReg_length_indep (cap k k' n w : Nat) (ds ds' : List Int)
    (h : recReg cap k n w = some ds) (h' : recReg cap k' n w = some ds') : ds.length = ds'.length := by
  rw [recReg_length _ _ _ _ _ h, recReg_length _ _ _ _ _ h']

theorem reg_step (w t B : Nat) (hw : 2 ≤ w) (ht : t % 2 = 1) :
    (((t % 2 ^ w : Nat) : Int) - 2 ^ (w - 1)) % 2 ≠ 0 ∧
    (((t % 2 ^ w : Nat) : Int) - 2 ^ (w - 1)).natAbs < 2 ^ (w - 1) ∧
    ((t : Int) - (((t % 2 ^ w : Nat) : Int) - 2 ^ (w - 1))).toNat >>> (w - 1) = 2 * (t / 2 ^ w) + 1 ∧
    (t : Int) = (((t % 2 ^ w : Nat) : Int) - 2 ^ (w - 1)) + 2 ^ (w - 1) * ((2 * (t / 2 ^ w) + 1 : Nat) : Int) ∧
    (t ≤ 2 ^ (w - 1) * B → 2 * (t / 2 ^ w) + 1 ≤ B) := by
  obtain ⟨P, X, m, hP, hW, hPe, hPpos, hX, hm, htm, hmlt⟩ := split_pow w t hw
  have hPi : (2 : Int) ^ (w - 1) = (P : Int) := by rw [← hP]; simp
  rw [hm, hPi, hP, Nat.shiftRight_eq_div_pow, hP]
  have e : (t : Int) - ((m : Int) - P) = ((P * (2 * (t / 2 ^ w) + 1) : Nat) : Int) := by
    rw [Nat.mul_add, Nat.mul_one, Nat.mul_left_comm, hX]; omega
  rw [e, Int.toNat_natCast, Nat.mul_div_cancel_left _ hPpos, ← Int.natCast_mul, ← e]
  refine ⟨by omega, by omega, rfl, by omega, fun hB => ?_⟩
  have : P * (2 * (t / 2 ^ w)) < P * B := by rw [Nat.mul_left_comm, hX]; omega
  have := Nat.lt_of_mul_lt_mul_left this
  omega

theorem recRegLoop_spec (w : Nat) (hw : 2 ≤ w) (l t : Nat) (acc : List Int) : ∀ B,
    t % 2 = 1 → t ≤ 2 ^ ((w - 1) * l) * B →
    ∃ ds t', recRegLoop w l t acc = (acc ++ ds, t') ∧ ds.length = l ∧
      (∀ d ∈ ds, d % 2 ≠ 0 ∧ d.natAbs < 2 ^ (w - 1)) ∧
      (t : Int) = eval (w - 1) ds + 2 ^ ((w - 1) * l) * (t' : Int) ∧ t' % 2 = 1 ∧ t' ≤ B := by
  fun_induction recRegLoop w l t acc with
  | case1 t acc => exact fun B ht hB => ⟨[], t, by simp, rfl, by simp, by simp, ht, by simpa using hB⟩
  | case2 l t acc u t' ih =>
    intro B ht hB
    have hu : u = ((t % 2 ^ w : Nat) : Int) - 2 ^ (w - 1) := by
      show (if w = 2 then _ else _) = _
      split
      · subst w; rfl
      · rfl
    rw [Nat.mul_succ, Nat.pow_add, Nat.mul_comm (2 ^ _), Nat.mul_assoc] at hB
    obtain ⟨h1, h2, h3, h4, h5⟩ := reg_step w t _ hw ht
    rw [← hu] at h1 h2 h3 h4
    obtain ⟨ds, t'', e, hlen, hd, hv, ho, hbd⟩ := ih B (by rw [h3]; omega) (by rw [h3]; exact h5 hB)
    refine ⟨u :: ds, t'', by rw [e]; simp, by simp [hlen], List.forall_mem_cons.2 ⟨⟨h1, h2⟩, hd⟩, ?_, ho, hbd⟩
    rw [eval_cons, h4, ← h3, hv, Nat.mul_succ, Int.pow_add]
    generalize (2 : Int) ^ (w - 1) = P
    generalize (2 : Int) ^ ((w - 1) * l) = Q
    rw [Int.mul_add, Int.add_assoc, Int.mul_comm Q P, Int.mul_assoc]

/-- the final carry is 1: it is odd and at most 1 -/
theorem recReg_run (cap k n w : Nat) (hw : 2 ≤ w) (hodd : k % 2 = 1) (hk : k < 2 ^ n) (ds : List Int)
    (h : recReg cap k n w = some ds) :
    ∃ ds', ds = ds' ++ [1] ∧ ds'.length = (n + (w - 1) - 1) / (w - 1) ∧
      (∀ d ∈ ds', d % 2 ≠ 0 ∧ d.natAbs < 2 ^ (w - 1)) ∧
      (k : Int) = eval (w - 1) ds' + 2 ^ ((w - 1) * ds'.length) ∧ ds'.length < cap := by
  unfold recReg at h
  simp only at h
  split at h
  · exact absurd h (by simp)
  rename_i hcap
  generalize hl : (n + (w - 1) - 1) / (w - 1) = l at *
  have hn : 2 ^ n ≤ 2 ^ ((w - 1) * l) := by
    apply Nat.pow_le_pow_right (by decide)
    rw [← hl]
    have := Nat.div_add_mod (n + (w - 1) - 1) (w - 1)
    have := Nat.mod_lt (n + (w - 1) - 1) (show 0 < w - 1 by omega)
    omega
  obtain ⟨ds', t', e, hlen, hd, hv, ho, hbd⟩ := recRegLoop_spec w hw l k [] 1 hodd (by omega)
  rw [e] at h
  simp only [List.nil_append, Option.some.injEq] at h
  obtain rfl : t' = 1 := by omega
  exact ⟨ds', h.symm, hlen, hd, by rw [hlen]; simpa using hv, by omega⟩

theorem recReg_digits (cap k n w : Nat) (hw : 2 ≤ w) (hodd : k % 2 = 1) (hk : k < 2 ^ n) (ds : List Int)
    (h : recReg cap k n w = some ds) :
    eval (w - 1) ds = k ∧ ∀ d ∈ ds, d % 2 ≠ 0 ∧ d.natAbs < 2 ^ (w - 1) := by
  obtain ⟨ds', rfl, _, hd, hv, _⟩ := recReg_run cap k n w hw hodd hk ds h
  refine ⟨by rw [eval_append, hv]; simp, fun d hdm => ?_⟩
  rcases List.mem_append.1 hdm with hdm | hdm
  · exact hd d hdm
  · obtain rfl : d = 1 := by simpa using hdm
    have : 2 ^ 1 ≤ 2 ^ (w - 1) := Nat.pow_le_pow_right (by decide) (by omega)
    exact ⟨by decide, by simp at this ⊢; omega⟩

/-- the signed window digit taken at an odd t -/
def nafU (w t : Nat) : Int :=
  if w = 2 then 2 - ((t % 2 ^ w : Nat) : Int)
  else (if t % 2 ^ w > 2 ^ w / 2 then ((t % 2 ^ w : Nat) : Int) - 2 ^ w else ((t % 2 ^ w : Nat) : Int))

def nafD (w t : Nat) : Int := if t % 2 = 1 then nafU w t else 0

def nafNext (w t : Nat) : Nat := if t % 2 = 1 then ((t : Int) - nafU w t).toNat / 2 else t / 2

/-- accumulator-free form of recNafLoop -/
def nafOut (w : Nat) : Nat → Nat → List Int
  | 0, _ => []
  | f + 1, t => if t = 0 then [] else nafD w t :: nafOut w f (nafNext w t)

theorem recNafLoop_eq (w f t : Nat) (acc : List Int) : recNafLoop w f t acc = acc ++ nafOut w f t := by
  fun_induction recNafLoop w f t acc with
  | case1 => simp [nafOut]
  | case2 => simp [nafOut]
  | case3 f t acc ht ho m u t' ih =>
    simp only [ih, nafOut, if_neg ht, nafD, nafNext, nafU, if_pos ho, List.append_assoc, List.cons_append,
      List.nil_append, m, u, t']
  | case4 f t acc ht ho ih =>
    simp only [ih, nafOut, if_neg ht, nafD, nafNext, if_neg ho, List.append_assoc, List.cons_append, List.nil_append]

theorem nafOut_zero (w f : Nat) : nafOut w f 0 = [] := by
  cases f <;> simp [nafOut]

theorem toNat_two_mul_div (n : Nat) : (2 * (n : Int)).toNat / 2 = n := by omega

theorem centred_odd {P X m t : Nat} {u : Int} (hP : P % 2 = 0) (hm : m < 2 * P) (ho : m % 2 = 1) (htm : t = 2 * X + m)
    (hu : u = if m > P then (m : Int) - 2 * P else m) :
    (u % 2 ≠ 0 ∧ u.natAbs < P) ∧
    (m < P ∧ (t : Int) - u = 2 * (X : Nat) ∨ P < m ∧ (t : Int) - u = 2 * ((X + P : Nat) : Int)) := by
  subst hu; split <;> omega

/-- for w = 2 the code computes the centred residue as 2 - m -/
theorem nafU_split {w t P m : Nat} (hP : 2 ^ (w - 1) = P) (hW : 2 ^ w = 2 * P) (hm : t % 2 ^ w = m) (ho : m % 2 = 1)
    (hmlt : m < 2 * P) : nafU w t = if m > P then (m : Int) - 2 * P else m := by
  have hWi : (2 : Int) ^ w = 2 * (P : Int) := by
    have := congrArg (fun n : Nat => (n : Int)) hW
    simpa using this
  unfold nafU
  rw [hm, hW, hWi, Nat.mul_div_cancel_left _ (by decide : 0 < 2)]
  split
  · subst w
    obtain rfl : P = 2 := hP.symm
    split <;> omega
  · rfl

/-- rounding up stays within the bound because 2P(q+1) and 2^c are both multiples of 2P -/
theorem naf_round_up (P q m w c : Nat) (hW : 2 ^ w = 2 * P) (hmP : P < m) (hc : 2 * (P * q) + m ≤ 2 ^ c) :
    2 * (P * q + P) ≤ 2 ^ c := by
  rcases Nat.lt_or_ge c w with hcw | hcw
  · have : 2 ^ (c + 1) ≤ 2 ^ w := Nat.pow_le_pow_right (by decide) hcw
    rw [Nat.pow_succ] at this
    omega
  · obtain ⟨M, hM⟩ := Nat.pow_dvd_pow 2 hcw
    rw [hW, Nat.mul_assoc] at hM
    have h2 : q + 1 ≤ M := by
      refine Nat.lt_of_mul_lt_mul_left (a := P) ?_
      omega
    have h3 := Nat.mul_le_mul_left P h2
    rw [Nat.mul_add, Nat.mul_one] at h3
    omega

theorem naf_step (w t c : Nat) (hw : 2 ≤ w) :
    (nafD w t = 0 ∨ (nafD w t % 2 ≠ 0 ∧ (nafD w t).natAbs < 2 ^ (w - 1))) ∧
    (t : Int) = nafD w t + 2 * (nafNext w t : Int) ∧
    (nafD w t ≠ 0 → 2 ^ (w - 1) ∣ nafNext w t) ∧
    (t ≤ 2 ^ c → 2 * nafNext w t ≤ 2 ^ c) := by
  by_cases ho : t % 2 = 1
  · obtain ⟨P, X, m, hP, hW, hPe, hPpos, hX, hm, htm, hmlt⟩ := split_pow w t hw
    obtain ⟨c1, c3⟩ := centred_odd hPe hmlt (by omega) htm (nafU_split hP hW hm (by omega) hmlt)
    simp only [nafD, nafNext, if_pos ho, hP]
    refine ⟨Or.inr c1, ?_⟩
    subst hX
    rcases c3 with ⟨_, e⟩ | ⟨hgt, e⟩ <;> rw [e, toNat_two_mul_div]
    · exact ⟨by omega, fun _ => ⟨_, rfl⟩, by omega⟩
    · exact ⟨by omega, fun _ => ⟨t / 2 ^ w + 1, (Nat.mul_succ ..).symm⟩, fun hc => naf_round_up P _ m w c hW hgt (htm ▸ hc)⟩
  · simp only [nafD, nafNext, if_neg ho]
    exact ⟨by simp, by omega, by simp, by omega⟩

theorem nafOut_digits (w : Nat) (hw : 2 ≤ w) (f t : Nat) :
    ∀ d ∈ nafOut w f t, d = 0 ∨ (d % 2 ≠ 0 ∧ d.natAbs < 2 ^ (w - 1)) := by
  fun_induction nafOut w f t with
  | case1 | case2 => simp
  | case3 f t ht ih =>
    rintro d (_ | ⟨_, hd⟩)
    · exact (naf_step w t 0 hw).1
    · exact ih d hd

theorem nafOut_value (w : Nat) (hw : 2 ≤ w) (f t : Nat) : ∀ c, t ≤ 2 ^ c → c + 1 ≤ f →
    eval 1 (nafOut w f t) = t ∧ (nafOut w f t).length ≤ c + 1 := by
  fun_induction nafOut w f t with
  | case1 => intro c _ hf; omega
  | case2 => simp
  | case3 f t ht ih =>
    intro c hc hf
    obtain ⟨_, hv, _, hb⟩ := naf_step w t c hw
    have hb := hb hc
    cases c with
    | zero =>
      have h0 : nafNext w t = 0 := by simp at hb; omega
      rw [h0] at hv ⊢
      rw [nafOut_zero]; simp at hv ⊢; omega
    | succ c =>
      obtain ⟨iv, il⟩ := ih c (by rw [Nat.pow_succ] at hb; omega) (by omega)
      rw [eval_cons, iv]
      exact ⟨by rw [hv]; simp, by simp only [List.length_cons]; omega⟩

theorem nafOut_zeros (w f t : Nat) : ∀ j, 2 ^ j ∣ t → ∀ d ∈ (nafOut w f t).take j, d = 0 := by
  fun_induction nafOut w f t with
  | case1 | case2 => simp
  | case3 f t ht ih =>
    intro j hdvd d hd
    cases j with
    | zero => simp at hd
    | succ j =>
      obtain ⟨r, hr⟩ := hdvd
      have he : t % 2 = 0 := by rw [hr, Nat.pow_succ, Nat.mul_assoc, Nat.mul_comm, Nat.mul_assoc]; omega
      have hN : nafNext w t = 2 ^ j * r := by
        simp only [nafNext, he]
        rw [hr, Nat.pow_succ, Nat.mul_assoc, Nat.mul_comm 2 r, ← Nat.mul_assoc]
        simp
      rcases List.mem_cons.1 hd with rfl | hd
      · simp [nafD, he]
      · exact ih j (hN ▸ ⟨r, rfl⟩) d hd

theorem nafOut_sparse (w : Nat) (hw : 2 ≤ w) (f t : Nat) : ∀ i,
    (((nafOut w f t).drop i).take w).countP (· ≠ 0) ≤ 1 := by
  fun_induction nafOut w f t with
  | case1 | case2 => simp
  | case3 f t ht ih =>
    intro i
    cases i with
    | succ i => simpa using ih i
    | zero =>
      obtain ⟨w', rfl⟩ : ∃ w', w = w' + 1 := ⟨w - 1, by omega⟩
      rw [List.drop_zero, List.take_succ_cons, List.countP_cons]
      by_cases hD : nafD (w' + 1) t = 0
      · have h1 := ih 0
        rw [List.drop_zero] at h1
        have h2 := (List.take_sublist_take_left (l := nafOut (w' + 1) f (nafNext (w' + 1) t))
          (Nat.le_succ w')).countP_le (p := fun x : Int => decide (x ≠ 0))
        simp only [hD]
        simp at h1 h2 ⊢
        omega
      · have hz := nafOut_zeros (w' + 1) f _ w' ((naf_step (w' + 1) t 0 hw).2.2.1 hD)
        have : List.countP (fun x : Int => decide (x ≠ 0))
            (List.take w' (nafOut (w' + 1) f (nafNext (w' + 1) t))) = 0 := by
          rw [List.countP_eq_zero]
          intro a ha; simp [hz a ha]
        rw [this]; simp [hD]

/-- c halvings leave at most 1 -/
theorem nafOut_top (w : Nat) (hw : 2 ≤ w) (f t : Nat) : ∀ c, t ≤ 2 ^ c →
    (nafOut w f t).getD c 0 = 0 ∨ (nafOut w f t).getD c 0 = 1 := by
  fun_induction nafOut w f t with
  | case1 | case2 => simp
  | case3 f t h0 ih =>
    intro c ht
    have hb := (naf_step w t c hw).2.2.2 ht
    cases c with
    | zero =>
      obtain ⟨_, hv, _, _⟩ := naf_step w t 0 hw
      simp only [Nat.pow_zero] at ht hb
      rw [List.getD_cons_zero]; omega
    | succ c => exact ih c (by rw [Nat.pow_succ] at hb; omega)

theorem recNaf_eq_some {cap k w : Nat} {ds : List Int} :
    recNaf cap k w = some ds ↔ bitLen k + 1 ≤ cap ∧ nafOut w (bitLen k + 2) k = ds := by
  unfold recNaf
  split
  · simp; omega
  · simp [recNafLoop_eq]; omega

/-- the test `naf[bn_bits(n)] == 1` of eb_mul_halve is exhaustive -/
theorem recNaf_top (cap kk w l : Nat) (hw : 2 ≤ w) (ds : List Int) (h : recNaf cap kk w = some ds) (hlt : kk < 2 ^ l) :
    ds.getD l 0 = 0 ∨ ds.getD l 0 = 1 := by
  obtain ⟨_, rfl⟩ := recNaf_eq_some.1 h
  exact nafOut_top w hw _ kk l (Nat.le_of_lt hlt)

theorem recNaf_spec (cap k w : Nat) (hw : 2 ≤ w) (ds : List Int) (h : recNaf cap k w = some ds) :
    eval 1 ds = k ∧ (∀ d ∈ ds, d = 0 ∨ (d % 2 ≠ 0 ∧ d.natAbs < 2 ^ (w - 1))) ∧
    (∀ i, (((ds.drop i).take w).countP (· ≠ 0)) ≤ 1) ∧ ds.length ≤ bitLen k + 1 ∧ ds.length ≤ cap := by
  obtain ⟨hcap, rfl⟩ := recNaf_eq_some.1 h
  obtain ⟨hv, hl⟩ := nafOut_value w hw (bitLen k + 2) k (bitLen k) (Nat.le_of_lt (lt_two_pow_bitLen k)) (by omega)
  exact ⟨hv, nafOut_digits w hw _ _, nafOut_sparse w hw _ _, hl, by omega⟩

/-- lower end of the window whose top bit is `iN` -/
def slwS (k w iN : Nat) : Nat :=
  (((List.range (iN - (if iN + 1 ≥ w then iN + 1 - w else 0) + 1)).find?
    fun d => (k >>> ((if iN + 1 ≥ w then iN + 1 - w else 0) + d)) % 2 = 1).map
      (· + (if iN + 1 ≥ w then iN + 1 - w else 0))).getD iN

/-- accumulator-free form of recSlwLoop, indexed by j = i + 1 -/
def slwOut (k w : Nat) : Nat → Nat → List Int
  | 0, _ => []
  | _ + 1, 0 => []
  | f + 1, j + 1 =>
    if (k >>> j) % 2 = 0 then 0 :: slwOut k w f j
    else (getBits k (slwS k w j) j : Int) :: slwOut k w f (slwS k w j)

theorem recSlwLoop_eq (k w : Nat) : ∀ (f j : Nat) (acc : List Int),
    recSlwLoop k w f ((j : Int) - 1) acc = acc ++ slwOut k w f j := by
  intro f
  induction f with
  | zero => intro j acc; simp [recSlwLoop, slwOut]
  | succ f ih =>
    intro j acc
    cases j with
    | zero => simp [recSlwLoop, slwOut]
    | succ j =>
      have e1 : ((j + 1 : Nat) : Int) - 1 = (j : Int) := by omega
      have e2 : ¬ ((j : Int) < 0) := by omega
      simp only [recSlwLoop, slwOut, e1, e2, if_false, Int.toNat_natCast]
      by_cases hb : (k >>> j) % 2 = 0
      · simp only [if_pos hb, ih, List.append_assoc, List.cons_append, List.nil_append]
      · simp only [if_neg hb]
        rw [show (Option.map (fun x => x + (if j + 1 ≥ w then j + 1 - w else 0))
          (List.find? (fun d => decide (k >>> ((if j + 1 ≥ w then j + 1 - w else 0) + d) % 2 = 1))
            (List.range (j - (if j + 1 ≥ w then j + 1 - w else 0) + 1)))).getD j = slwS k w j from rfl]
        rw [ih]; simp

theorem slwS_spec (k w j : Nat) (hw : 0 < w) (hb : (k >>> j) % 2 = 1) :
    slwS k w j ≤ j ∧ j + 1 ≤ slwS k w j + w ∧ (k >>> slwS k w j) % 2 = 1 := by
  unfold slwS
  generalize hs0 : (if j + 1 ≥ w then j + 1 - w else 0) = s0
  have h0 : s0 ≤ j ∧ j + 1 ≤ s0 + w := by
    rw [← hs0]; split <;> omega
  cases hf : (List.range (j - s0 + 1)).find? fun d => (k >>> (s0 + d)) % 2 = 1 with
  | none => simp only [Option.map_none, Option.getD_none]; exact ⟨by omega, by omega, hb⟩
  | some d =>
    simp only [Option.map_some, Option.getD_some]
    have hm := List.mem_of_find?_eq_some hf
    have hp := List.find?_some hf
    simp only [List.mem_range] at hm
    simp only [decide_eq_true_eq] at hp
    rw [Nat.add_comm d s0]
    exact ⟨by omega, by omega, hp⟩

theorem slw_window (k s j : Nat) (hs : s ≤ j) (hj : (k / 2 ^ j) % 2 = 1) (hsb : (k / 2 ^ s) % 2 = 1) :
    ((k / 2 ^ s) % 2 ^ (j + 1 - s)) % 2 = 1 ∧ (k / 2 ^ s) % 2 ^ (j + 1 - s) < 2 ^ (j + 1 - s) ∧
    bitLen ((k / 2 ^ s) % 2 ^ (j + 1 - s)) = j + 1 - s ∧
    (k / 2 ^ (j + 1)) * 2 ^ (j + 1 - s) + (k / 2 ^ s) % 2 ^ (j + 1 - s) = k / 2 ^ s := by
  obtain ⟨e, rfl⟩ : ∃ e, j = s + e := ⟨j - s, by omega⟩
  rw [show s + e + 1 - s = e + 1 by omega]
  have e1 : k / 2 ^ (s + e) = k / 2 ^ s / 2 ^ e := by rw [Nat.div_div_eq_div_mul, Nat.pow_add]
  have e2 : k / 2 ^ (s + e + 1) = k / 2 ^ s / 2 ^ (e + 1) := by
    rw [Nat.div_div_eq_div_mul, Nat.add_assoc, Nat.pow_add]
  rw [e1] at hj
  rw [e2]
  generalize k / 2 ^ s = A at *
  have hms : A % 2 ^ (e + 1) = A % 2 ^ e + 2 ^ e := by rw [Nat.mod_pow_succ, hj, Nat.mul_one]
  refine ⟨?_, Nat.mod_lt _ (Nat.two_pow_pos _), ?_, ?_⟩
  · rw [Nat.mod_mod_of_dvd A ⟨2 ^ e, Nat.pow_succ'⟩]; exact hsb
  · apply Lemmas.NatBits.bl_eq_of_bounds
    · omega
    · exact Nat.mod_lt _ (Nat.two_pow_pos _)
  · rw [Nat.mul_comm]; exact Nat.div_add_mod A (2 ^ (e + 1))

theorem slwOut_digits (k w : Nat) (hw : 0 < w) (f j : Nat) :
    ∀ d ∈ slwOut k w f j, d = 0 ∨ (d % 2 = 1 ∧ 0 < d ∧ d < 2 ^ w) := by
  fun_induction slwOut k w f j with
  | case1 | case2 => simp
  | case3 f j hb ih =>
    rintro d (_ | ⟨_, hd⟩)
    · exact Or.inl rfl
    · exact ih d hd
  | case4 f j hb ih =>
    rintro d (_ | ⟨_, hd⟩)
    · right
      have hb1 : (k >>> j) % 2 = 1 := by omega
      obtain ⟨h1, h2, h3⟩ := slwS_spec k w j hw hb1
      rw [Nat.shiftRight_eq_div_pow] at hb1 h3
      obtain ⟨w1, w2, _, _⟩ := slw_window k (slwS k w j) j h1 hb1 h3
      rw [getBits_eq]
      have : 2 ^ (j + 1 - slwS k w j) ≤ 2 ^ w := Nat.pow_le_pow_right (by decide) (by omega)
      generalize k / 2 ^ slwS k w j % 2 ^ (j + 1 - slwS k w j) = D at *
      have : ((2 ^ w : Nat) : Int) = 2 ^ w := by simp
      omega
    · exact ih d hd

theorem slwOut_length (k w : Nat) (hw : 0 < w) (f j : Nat) : (slwOut k w f j).length ≤ j := by
  fun_induction slwOut k w f j with
  | case1 | case2 => simp
  | case3 f j hb ih => simp only [List.length_cons]; omega
  | case4 f j hb ih =>
    have := (slwS_spec k w j hw (by omega)).1
    simp only [List.length_cons]; omega

theorem slwOut_value (k w : Nat) (hw : 0 < w) (f j : Nat) : j ≤ f →
    (slwOut k w f j).foldl (fun acc d => if d = 0 then 2 * acc else acc * 2 ^ (bitLen d.toNat) + d)
      ((k / 2 ^ j : Nat) : Int) = k := by
  fun_induction slwOut k w f j with
  | case1 j => intro hj; obtain rfl : j = 0 := by omega
               simp
  | case2 => simp
  | case3 f j hb ih =>
    intro hj
    simp only [List.foldl_cons, if_true]
    rw [← ih (by omega)]
    congr 1
    rw [Nat.shiftRight_eq_div_pow] at hb
    have : k / 2 ^ (j + 1) = k / 2 ^ j / 2 := by rw [Nat.div_div_eq_div_mul, Nat.pow_succ]
    rw [this]; omega
  | case4 f j hb ih =>
    intro hj
    have hb1 : (k >>> j) % 2 = 1 := by omega
    obtain ⟨h1, h2, h3⟩ := slwS_spec k w j hw hb1
    rw [Nat.shiftRight_eq_div_pow] at hb1 h3
    obtain ⟨w1, w2, w3, w4⟩ := slw_window k (slwS k w j) j h1 hb1 h3
    rw [List.foldl_cons, getBits_eq, ← ih (by omega)]
    congr 1
    generalize k / 2 ^ slwS k w j % 2 ^ (j + 1 - slwS k w j) = D at *
    have hD : ¬ ((D : Int) = 0) := by omega
    simp only [if_neg hD, Int.toNat_natCast, w3]
    rw [← w4]; simp

theorem recSlw_eq_some {cap k w : Nat} {ds : List Int} :
    recSlw cap k w = some ds ↔ bitLen k ≤ cap ∧ slwOut k w (bitLen k + 1) (bitLen k) = ds := by
  unfold recSlw
  simp only
  split
  · simp; omega
  · simp [recSlwLoop_eq]; omega

theorem recSlw_spec (cap k w : Nat) (hw : 0 < w) (ds : List Int) (h : recSlw cap k w = some ds) :
    evalSlw ds = k ∧ (∀ d ∈ ds, d = 0 ∨ (d % 2 = 1 ∧ 0 < d ∧ d < 2 ^ w)) ∧ ds.length ≤ bitLen k ∧ ds.length ≤ cap := by
  obtain ⟨hcap, rfl⟩ := recSlw_eq_some.1 h
  have hl := slwOut_length k w hw (bitLen k + 1) (bitLen k)
  refine ⟨?_, slwOut_digits k w hw _ _, hl, by omega⟩
  have := slwOut_value k w hw (bitLen k + 1) (bitLen k) (by omega)
  rwa [Nat.div_eq_of_lt (lt_two_pow_bitLen k)] at this

def jsfL (n : Nat) (d : Int) : Nat := (((n % 2 ^ 64 : Nat) : Int) + d).toNat % 8

def jsfU (l0 l1 : Nat) : Int :=
  if l0 % 2 = 0 then 0
  else if (l0 = 3 ∨ l0 = 5) ∧ l1 % 4 = 2 then -(2 - ((l0 % 4 : Nat) : Int)) else 2 - ((l0 % 4 : Nat) : Int)

def jsfD (d u : Int) : Int := if d + d = 1 + u then 1 - d else d

/-- accumulator-free form of recJsfLoop -/
def jsfOut : Nat → Nat → Nat → Int → Int → List Int × List Int
  | 0, _, _, _, _ => ([], [])
  | f + 1, n0, n1, d0, d1 =>
    if n0 = 0 ∧ d0 = 0 ∧ n1 = 0 ∧ d1 = 0 then ([], [])
    else
      (jsfU (jsfL n0 d0) (jsfL n1 d1) ::
        (jsfOut f (n0 / 2) (n1 / 2) (jsfD d0 (jsfU (jsfL n0 d0) (jsfL n1 d1)))
          (jsfD d1 (jsfU (jsfL n1 d1) (jsfL n0 d0)))).1,
       jsfU (jsfL n1 d1) (jsfL n0 d0) ::
        (jsfOut f (n0 / 2) (n1 / 2) (jsfD d0 (jsfU (jsfL n0 d0) (jsfL n1 d1)))
          (jsfD d1 (jsfU (jsfL n1 d1) (jsfL n0 d0)))).2)

theorem recJsfLoop_eq (f n0 n1 : Nat) (d0 d1 : Int) (a0 a1 : List Int) :
    recJsfLoop f n0 n1 d0 d1 a0 a1 =
      (a0 ++ (jsfOut f n0 n1 d0 d1).1, a1 ++ (jsfOut f n0 n1 d0 d1).2) := by
  fun_induction recJsfLoop f n0 n1 d0 d1 a0 a1 with
  | case1 => simp [jsfOut]
  | case2 _ _ _ _ _ _ _ hz => simp [jsfOut, hz]
  | case3 f n0 n1 d0 d1 a0 a1 hz l0 l1 u0 u1 d0' d1' ih =>
    rw [ih, jsfOut, if_neg hz]
    simp only [List.append_assoc, List.cons_append, List.nil_append]
    rfl

theorem jsfOut_zero (f : Nat) : jsfOut f 0 0 0 0 = ([], []) := by
  cases f <;> simp [jsfOut]

/-- the low three bits of n + d: the 64-bit digit the C code reads suffices for them -/
theorem jsfL_spec (n : Nat) (d : Int) (hd : 0 ≤ d ∧ d ≤ 1) :
    (jsfL n d : Int) % 2 = ((n : Int) + d) % 2 ∧ ((n : Int) + d ≤ 1 → (jsfL n d : Int) = n + d) := by
  have h : n % 2 ^ 64 % 8 = n % 8 := Nat.mod_mod_of_dvd n (by decide)
  unfold jsfL
  generalize n % 2 ^ 64 = m at h ⊢
  omega

theorem jsfU_spec (l0 l1 : Nat) :
    (jsfU l0 l1 = 0 ∨ jsfU l0 l1 = 1 ∨ jsfU l0 l1 = -1) ∧ jsfU l0 l1 % 2 = l0 % 2 ∧ (l0 = 1 → jsfU l0 l1 = 1) := by
  unfold jsfU
  split
  · omega
  · split <;> omega

theorem jsfU_abs (l0 l1 : Nat) : (jsfU l0 l1).natAbs ≤ 1 := by
  rcases (jsfU_spec l0 l1).1 with h | h | h <;> rw [h] <;> decide

theorem jsf_step (n : Nat) (d : Int) (l1 : Nat) (hd : 0 ≤ d ∧ d ≤ 1) :
    (0 ≤ jsfD d (jsfU (jsfL n d) l1) ∧ jsfD d (jsfU (jsfL n d) l1) ≤ 1) ∧
    (n : Int) + d = jsfU (jsfL n d) l1 + 2 * (((n / 2 : Nat) : Int) + jsfD d (jsfU (jsfL n d) l1)) ∧
    ((n : Int) + d ≤ 1 → n / 2 = 0 ∧ jsfD d (jsfU (jsfL n d) l1) = 0) := by
  obtain ⟨hl1, hl2⟩ := jsfL_spec n d hd
  obtain ⟨hu1, hu2, hu3⟩ := jsfU_spec (jsfL n d) l1
  generalize jsfL n d = l at hl1 hl2 hu1 hu2 hu3
  generalize jsfU l l1 = u at hu1 hu2 hu3 ⊢
  unfold jsfD
  obtain rfl | rfl : d = 0 ∨ d = 1 := by omega
  all_goals rcases hu1 with rfl | rfl | rfl <;> simp <;> omega

theorem jsfOut_digits (f n0 n1 : Nat) (d0 d1 : Int) :
    (∀ d ∈ (jsfOut f n0 n1 d0 d1).1, d.natAbs ≤ 1) ∧ (∀ d ∈ (jsfOut f n0 n1 d0 d1).2, d.natAbs ≤ 1) ∧
    (jsfOut f n0 n1 d0 d1).1.length = (jsfOut f n0 n1 d0 d1).2.length := by
  fun_induction jsfOut f n0 n1 d0 d1 with
  | case1 | case2 => simp
  | case3 f n0 n1 d0 d1 hz ih =>
    obtain ⟨i1, i2, i3⟩ := ih
    exact ⟨List.forall_mem_cons.2 ⟨jsfU_abs _ _, i1⟩, List.forall_mem_cons.2 ⟨jsfU_abs _ _, i2⟩, by simp only [List.length_cons, i3]⟩

theorem jsfOut_value (f n0 n1 : Nat) (d0 d1 : Int) : ∀ c, (0 ≤ d0 ∧ d0 ≤ 1) → (0 ≤ d1 ∧ d1 ≤ 1) →
    (n0 : Int) + d0 ≤ 2 ^ c → (n1 : Int) + d1 ≤ 2 ^ c → c + 1 ≤ f →
    eval 1 (jsfOut f n0 n1 d0 d1).1 = n0 + d0 ∧ eval 1 (jsfOut f n0 n1 d0 d1).2 = n1 + d1 ∧
    (jsfOut f n0 n1 d0 d1).1.length ≤ c + 1 := by
  fun_induction jsfOut f n0 n1 d0 d1 with
  | case1 => intro c _ _ _ _ hf; omega
  | case2 _ _ _ _ _ hz => obtain ⟨rfl, rfl, rfl, rfl⟩ := hz; simp
  | case3 f n0 n1 d0 d1 hz ih =>
    intro c hd0 hd1 hb0 hb1 hf
    obtain ⟨a1, a2, a3⟩ := jsf_step n0 d0 (jsfL n1 d1) hd0
    obtain ⟨b1, b2, b3⟩ := jsf_step n1 d1 (jsfL n0 d0) hd1
    have ua0 := jsfU_abs (jsfL n0 d0) (jsfL n1 d1)
    have ua1 := jsfU_abs (jsfL n1 d1) (jsfL n0 d0)
    generalize jsfU (jsfL n0 d0) (jsfL n1 d1) = u0 at *
    generalize jsfU (jsfL n1 d1) (jsfL n0 d0) = u1 at *
    generalize jsfD d0 u0 = e0 at *
    generalize jsfD d1 u1 = e1 at *
    cases c with
    | zero =>
      simp only [Int.pow_zero] at hb0 hb1
      obtain ⟨z1, z2⟩ := a3 hb0
      obtain ⟨z3, z4⟩ := b3 hb1
      rw [z1, z2] at a2
      rw [z3, z4] at b2
      rw [z1, z2, z3, z4, jsfOut_zero]
      simp only [eval_cons, eval_nil, List.length_cons, List.length_nil]
      omega
    | succ c =>
      rw [Int.pow_succ] at hb0 hb1
      clear a3 b3 hz
      obtain ⟨i1, i2, i3⟩ := ih c a1 b1 (by omega) (by omega) (by omega)
      simp only [eval_cons, i1, i2, List.length_cons]
      exact ⟨by rw [a2]; simp, by rw [b2]; simp, by omega⟩

theorem recJsf_spec (cap k l : Nat) (a0 a1 : List Int) (h : recJsf cap k l = some (a0, a1)) :
    eval 1 a0 = k ∧ eval 1 a1 = l ∧ (∀ d ∈ a0, d.natAbs ≤ 1) ∧ (∀ d ∈ a1, d.natAbs ≤ 1) ∧ a0.length = a1.length ∧
    a0.length ≤ max (bitLen k) (bitLen l) + 1 := by
  unfold recJsf at h
  split at h
  · exact absurd h (by simp)
  simp only [Option.some.injEq, recJsfLoop_eq, List.nil_append, Prod.mk.injEq] at h
  obtain ⟨rfl, rfl⟩ := h
  generalize hc : max (bitLen k) (bitLen l) = c
  have hb : ∀ n : Nat, bitLen n ≤ c → (n : Int) + 0 ≤ 2 ^ c := by
    intro n hn
    have h1 := lt_two_pow_bitLen n
    have h2 : 2 ^ bitLen n ≤ 2 ^ c := Nat.pow_le_pow_right (by decide) hn
    have : ((2 ^ c : Nat) : Int) = 2 ^ c := by simp
    omega
  obtain ⟨v0, v1, vl⟩ := jsfOut_value (c + 3) k l 0 0 c (by decide) (by decide) (hb k (by omega)) (hb l (by omega)) (by omega)
  obtain ⟨g0, g1, gl⟩ := jsfOut_digits (c + 3) k l 0 0
  exact ⟨by simpa using v0, by simpa using v1, g0, g1, gl, vl⟩

end Relic.Model.Rec
