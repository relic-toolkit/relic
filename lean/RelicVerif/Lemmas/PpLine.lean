/-
The line functions of the Miller loops, generated from the C text (Gen/PpLine.lean, tools/translate_ppline.py).  Each equals
one of two closed forms (`tangentStep`, `chordStep`: identities of polynomials, over `ringOps`), the functions of the lit loop
with the four slots of the sparse element reflected (`flipSlots`).  Of the closed forms, over a field K (the field of the
twist; Fp sits inside it): the three coefficients are s × (the coefficients of the affine tangent / chord through the running
point, evaluated at the other argument) for an explicit non-zero s ∈ K (−2YZ resp. X − Z·x₂), a factor the final
exponentiation removes; the updated running point is the tangent / chord point (homogeneous projective coordinates).
The affine line through (x₁, y₁) with slope λ evaluated at (x_e, y_e) has the coefficients (y_e, −λ·x_e, λ·x₁ − y₁).  WHICH
positions of Fp12 the symbolic slots l00, l01, l10, l11 are (the `one ^= 1` exchange for M-type twists) is not part of these
theorems: it is judged per presented line (`lfn` lines: ρ = l / affine line lies in a proper subfield).
-/
import RelicVerif.Lemmas.EpFormulas
import RelicVerif.Gen.PpLine

namespace Relic.Lemmas.PpLine
open Relic.Gen.PpLine Relic.Lemmas.EpFormulas

variable {R : Type} [CommRing R] (inv hlv : R → R) (isZ : R → Bool)
variable {K : Type} [Field K] [DecidableEq K]

/-- the doubling step of a Miller loop in closed form: line slots as pp_dbl_k12_projc_* fills them; the running point is
    the complete doubling for a = 0 (`rcbDbl 0 b`) with X³ eliminated from y by the curve equation -/
def tangentStep (b X Y Z cx cy : R) : LineOut R :=
  ⟨2 * Y * Z * cy, 0, X ^ 2 * cx, 3 * b * Z ^ 2 - Y ^ 2,
    2 * X * Y * (Y ^ 2 - 9 * b * Z ^ 2), (Y ^ 2 + 9 * b * Z ^ 2) ^ 2 - 108 * b ^ 2 * Z ^ 4, 8 * Y ^ 3 * Z⟩

/-- the addition step (mixed: the added point (x2, y2) is affine) -/
def chordStep (X Y Z x2 y2 cx cy : R) : LineOut R :=
  ⟨(X - Z * x2) * cy, 0, -(cx * (Y - Z * y2)), x2 * (Y - Z * y2) - y2 * (X - Z * x2),
    (X - Z * x2) * ((Y - Z * y2) ^ 2 * Z - (X + x2 * Z) * (X - Z * x2) ^ 2),
    (Y - Z * y2) * ((X - Z * x2) ^ 2 * X - ((Y - Z * y2) ^ 2 * Z - (X + x2 * Z) * (X - Z * x2) ^ 2)) - (X - Z * x2) ^ 3 * Y,
    Z * (X - Z * x2) ^ 3⟩

/-- pp_*_lit_k12 (running point in G1) store the same line with rows and columns of the sparse element exchanged:
    slot l[i][j] goes to l[1−i][1−j] -/
def flipSlots (o : LineOut R) : LineOut R := ⟨o.l11, o.l10, o.l01, o.l00, o.x, o.y, o.z⟩

-- `dbl` and `sqr` repeat their argument, and `ring` visits every copy: read them as 2 · a and a ^ 2
theorem pp_dbl_k12_projc_basic_closed (b X Y Z px py : R) :
    pp_dbl_k12_projc_basic (ringOps inv hlv isZ) b X Y Z px py = tangentStep b X Y Z px py := by
  simp only [pp_dbl_k12_projc_basic, tangentStep, ringOps, ← two_mul, ← sq]
  congr 1 <;> ring

theorem pp_dbl_k12_projc_lazyr_closed (b X Y Z px py : R) :
    pp_dbl_k12_projc_lazyr (ringOps inv hlv isZ) b X Y Z px py = tangentStep b X Y Z px py := by
  simp only [pp_dbl_k12_projc_lazyr, tangentStep, ringOps, ← two_mul, ← sq]
  congr 1 <;> ring

theorem pp_dbl_lit_k12_closed (b X Y Z qx qy : R) :
    pp_dbl_lit_k12 (ringOps inv hlv isZ) b X Y Z qx qy = flipSlots (tangentStep b X Y Z (3 * qx) qy) := by
  simp only [pp_dbl_lit_k12, tangentStep, flipSlots, ringOps, ← two_mul, ← sq]
  congr 1 <;> ring

theorem pp_add_k12_projc_basic_closed (X Y Z x2 y2 px py : R) :
    pp_add_k12_projc_basic (ringOps inv hlv isZ) X Y Z x2 y2 px py = chordStep X Y Z x2 y2 px py := by
  simp only [pp_add_k12_projc_basic, chordStep, ringOps, ← two_mul, ← sq]
  congr 1 <;> ring

theorem pp_add_k12_projc_lazyr_closed (X Y Z x2 y2 px py : R) :
    pp_add_k12_projc_lazyr (ringOps inv hlv isZ) X Y Z x2 y2 px py = chordStep X Y Z x2 y2 px py := by
  simp only [pp_add_k12_projc_lazyr, chordStep, ringOps, ← two_mul, ← sq]
  congr 1 <;> ring

theorem pp_add_lit_k12_closed (X Y Z x2 y2 qx qy : R) :
    pp_add_lit_k12 (ringOps inv hlv isZ) X Y Z x2 y2 qx qy = flipSlots (chordStep X Y Z x2 y2 qx qy) := by
  simp only [pp_add_lit_k12, chordStep, flipSlots, ringOps, ← two_mul, ← sq]
  congr 1 <;> ring

/-- (cx, cy) = (3·xe, −ye) is what the k12 loops precompute from the evaluation point (xe, ye); the lit loop passes
    (3·xe, qy) with qy = −ye. -/
theorem tangentStep_spec (b X Y Z xe ye : K) (h2 : (2 : K) ≠ 0) (hY : Y ≠ 0) (hZ : Z ≠ 0)
    (hc : Y ^ 2 * Z = X ^ 3 + b * Z ^ 3) :
    let o := tangentStep b X Y Z (3 * xe) (-ye)
    let lam := 3 * (X / Z) ^ 2 / (2 * (Y / Z))
    let s := -(2 * Y * Z)
    s ≠ 0 ∧ o.l00 = s * ye ∧ o.l10 = s * (-(lam * xe)) ∧ o.l11 = s * (lam * (X / Z) - Y / Z) ∧ o.l01 = 0 ∧
      o.z ≠ 0 ∧ o.x / o.z = tangX 0 (X / Z) (Y / Z) ∧ o.y / o.z = tangY 0 (X / Z) (Y / Z) := by
  have h8 : (8 : K) ≠ 0 := by
    rw [show (8 : K) = 2 * 2 * 2 by norm_num]; exact mul_ne_zero (mul_ne_zero h2 h2) h2
  have hz : 8 * Y ^ 3 * Z ≠ 0 := mul_ne_zero (mul_ne_zero h8 (pow_ne_zero 3 hY)) hZ
  obtain ⟨hx, hy⟩ := (rcbDbl_tangent 0 b X Y Z h2 hZ hY (by linear_combination hc)).2 hz
  have ex : 2 * X * Y * (Y ^ 2 - 9 * b * Z ^ 2) = (rcbDbl 0 b X Y Z).x := by simp only [rcbDbl]; ring
  have ey : (Y ^ 2 + 9 * b * Z ^ 2) ^ 2 - 108 * b ^ 2 * Z ^ 4 = (rcbDbl 0 b X Y Z).y := by
    simp only [rcbDbl]; linear_combination (18 * b * Z) * hc
  rw [← ex] at hx
  rw [← ey] at hy
  refine ⟨neg_ne_zero.mpr (mul_ne_zero (mul_ne_zero h2 hY) hZ), by simp only [tangentStep]; ring, ?_, ?_, rfl, hz, hx, hy⟩
  · -- holds for any coefficient in place of 3, and `field_simp` spends long on failing to show 3 ≠ 0
    simp only [tangentStep]
    generalize (3 : K) = c
    field_simp
  · simp only [tangentStep]
    field_simp
    linear_combination (-3 : K) * hc

theorem chordStep_spec (X Y Z x2 y2 xe ye : K) (hZ : Z ≠ 0) (hv : X - Z * x2 ≠ 0) :
    let o := chordStep X Y Z x2 y2 xe ye
    let lam := (y2 - Y / Z) / (x2 - X / Z)
    let s := X - Z * x2
    s ≠ 0 ∧ o.l00 = s * ye ∧ o.l10 = s * (-(lam * xe)) ∧ o.l11 = s * (lam * x2 - y2) ∧ o.l01 = 0 ∧
      o.z ≠ 0 ∧ o.x / o.z = chordX (X / Z) (Y / Z) x2 y2 ∧ o.y / o.z = chordY (X / Z) (Y / Z) x2 y2 := by
  have hv' : x2 * Z - X * 1 ≠ 0 := fun h => hv (by linear_combination (-1 : K) * h)
  -- two more spellings of `hv`, for the discharger of `field_simp` (whichever normal form of x2 − X/Z ≠ 0 it asks for)
  have hv2 : x2 * Z - X ≠ 0 := fun h => hv (by linear_combination (-1 : K) * h)
  have hv3 : Z * x2 - X ≠ 0 := fun h => hv (by linear_combination (-1 : K) * h)
  have hd : x2 - X / Z ≠ 0 := by
    intro h; apply hv'; field_simp at h; linear_combination h
  have hz : Z * (X - Z * x2) ^ 3 ≠ 0 := mul_ne_zero hZ (pow_ne_zero 3 hv)
  have hX := chordX_projc X Y Z x2 y2 1 hZ one_ne_zero hv'
  have hY := chordY_projc X Y Z x2 y2 1 hZ one_ne_zero hv'
  rw [div_one, div_one] at hX hY
  refine ⟨hv, rfl, ?_, ?_, rfl, hz, ?_, ?_⟩
  · simp only [chordStep]
    field_simp
    ring
  · simp only [chordStep]
    field_simp
    ring
  · rw [hX]
    simp only [chordStep]
    rw [div_eq_div_iff hz (mul_ne_zero (mul_ne_zero hZ one_ne_zero) (pow_ne_zero 2 hv'))]
    ring
  · rw [hY]
    simp only [chordStep]
    rw [div_eq_div_iff hz (mul_ne_zero (mul_ne_zero hZ one_ne_zero) (pow_ne_zero 3 hv'))]
    ring

end Relic.Lemmas.PpLine
