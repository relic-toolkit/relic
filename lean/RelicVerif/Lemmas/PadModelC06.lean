/-
Model = specification for the padding removers of cp_rsa_dec (property C06): the integer-level scans of Model/Cp.lean
(`padBasicDec`, `padPkcs1Dec`: shifts by whole octets, `m_len` / `p_len` bookkeeping as in pad_basic / pad_pkcs1 of
src/cp/relic_cp_rsa.c) decide and return exactly what the byte-level decoders of Spec/Cp.lean do, for EVERY encoded message
of the modulus length (pad_pkcs1 additionally refuses the empty message, which the encryption side does not admit).
-/
import RelicVerif.Lemmas.PadC06
import RelicVerif.Model.Cp

namespace Relic.Lemmas.PadModelC06
open Relic.Spec.Cp Relic.Model.Cp Relic.Lemmas.PadC06

theorem os2ip_cons (x : UInt8) (b : Bytes) : os2ip (x :: b) = x.toNat * 256 ^ b.length + os2ip b :=
  PadC06.os2ip_cons x b

theorem i2osp_mod (a b : Bytes) : i2osp (os2ip (a ++ b) % 256 ^ b.length) b.length = b := by
  rw [os2ip_append_mod, i2osp_os2ip]

theorem byteAt_mid (a b : Bytes) (x : UInt8) : byteAt (os2ip (a ++ x :: b)) b.length = x.toNat := by
  have h : a ++ x :: b = (a ++ [x]) ++ b := by simp
  rw [byteAt, h, os2ip_append_div, os2ip_append, os2ip_single, List.length_singleton, Nat.pow_one]
  have := x.toNat_lt
  omega

theorem u8_eq_zero (x : UInt8) : x.toNat = 0 ↔ x = 0 := by
  rw [← UInt8.toNat_inj]; rfl
theorem u8_eq_ff (x : UInt8) : x.toNat = 0xFF ↔ x = 0xFF := by
  rw [← UInt8.toNat_inj]; rfl
theorem u8_eq_two (x : UInt8) : x.toNat = 2 ↔ x = 2 := by
  rw [← UInt8.toNat_inj]; rfl

theorem byteAt_os2ip (em : Bytes) (i : Nat) (hi : i < em.length) :
    byteAt (os2ip em) i = (em.getD (em.length - 1 - i) 0).toNat := by
  have hj : em.length - 1 - i < em.length := by omega
  have hsplit : em = em.take (em.length - 1 - i) ++ em[em.length - 1 - i] :: em.drop (em.length - 1 - i + 1) := by
    rw [← List.drop_eq_getElem_cons hj, List.take_append_drop]
  have hbl : (em.drop (em.length - 1 - i + 1)).length = i := by rw [List.length_drop]; omega
  have hg : em.getD (em.length - 1 - i) 0 = em[em.length - 1 - i] := by
    rw [List.getD_eq_getElem?_getD, List.getElem?_eq_getElem hj, Option.getD_some]
  rw [hg]
  have := byteAt_mid (em.take (em.length - 1 - i)) (em.drop (em.length - 1 - i + 1)) em[em.length - 1 - i]
  rw [← hsplit, hbl] at this
  exact this

theorem pkcs1Scan_succ (m f ml : Nat) : pkcs1Scan m (f + 1) ml =
    if byteAt m (ml - 1) ≠ 0 ∧ ml - 1 > 0 then pkcs1Scan m f (ml - 1) else ml - 1 := rfl

/-- the number of octets after the first zero octet, 0 if there is none -/
theorem pkcs1Scan_os2ip (rest : Bytes) : ∀ (pre : Bytes) (f : Nat), rest.length ≤ f →
    pkcs1Scan (os2ip (pre ++ rest)) f rest.length = (rest.dropWhile (· ≠ 0)).tail.length := by
  induction rest with
  | nil => intro pre f _; cases f <;> simp [pkcs1Scan]
  | cons x rest ih =>
    intro pre f hf
    obtain ⟨f, rfl⟩ : ∃ f', f = f' + 1 := ⟨f - 1, by rw [List.length_cons] at hf; omega⟩
    rw [pkcs1Scan_succ, List.length_cons, Nat.add_sub_cancel, byteAt_mid pre rest x]
    by_cases hx : x = 0
    · subst hx
      rw [if_neg (fun h => h.1 rfl), List.dropWhile_cons_of_neg (by simp)]
      rfl
    · rw [List.dropWhile_cons_of_pos (by simpa using hx)]
      cases rest with
      | nil => rw [if_neg (by simp)]; rfl
      | cons z rest' =>
        rw [if_pos ⟨mt (u8_eq_zero x).1 hx, by simp⟩]
        have := ih (pre ++ [x]) f (by simpa using hf)
        rwa [List.append_assoc, List.singleton_append] at this

theorem basicScan_succ (m f pl ml : Nat) : basicScan m (f + 1) pl ml =
    if byteAt m (ml - 1) = 0 ∧ ml - 1 > 0 then basicScan m f (pl + 1) (ml - 1) else (pl + 1, ml - 1) := rfl

/-- the scan of pad_basic stops at the first non-zero octet: it returns the number t of octets after it, has counted the
    others, and the octet at position t is the one it stopped at (0 if all are zero) -/
theorem basicScan_os2ip (rest : Bytes) : ∀ (pre : Bytes) (f pl : Nat), rest ≠ [] → rest.length ≤ f →
    basicScan (os2ip (pre ++ rest)) f pl rest.length
      = (pl + rest.length - (rest.dropWhile (· = 0)).tail.length, (rest.dropWhile (· = 0)).tail.length) ∧
    byteAt (os2ip (pre ++ rest)) (rest.dropWhile (· = 0)).tail.length = ((rest.dropWhile (· = 0)).headD 0).toNat := by
  induction rest with
  | nil => intro _ _ _ h; exact absurd rfl h
  | cons x rest ih =>
    intro pre f pl _ hf
    obtain ⟨f, rfl⟩ : ∃ f', f = f' + 1 := ⟨f - 1, by rw [List.length_cons] at hf; omega⟩
    have hb := byteAt_mid pre rest x
    rw [basicScan_succ, List.length_cons, Nat.add_sub_cancel, hb]
    by_cases hx : x = 0
    · subst hx
      rw [List.dropWhile_cons_of_pos (by simp)]
      cases rest with
      | nil => exact ⟨by rw [if_neg (by simp)]; rfl, hb⟩
      | cons z rest' =>
        rw [if_pos ⟨rfl, by simp⟩]
        have := ih (pre ++ [0]) f (pl + 1) (List.cons_ne_nil _ _) (by simpa using hf)
        rw [List.append_assoc, List.singleton_append] at this
        refine ⟨this.1.trans ?_, this.2⟩
        rw [Nat.add_right_comm pl 1, Nat.add_assoc pl]
    · rw [if_neg (fun h => hx ((u8_eq_zero x).1 h.1)), List.dropWhile_cons_of_neg (by simpa using hx)]
      exact ⟨Prod.ext (by simp only [List.tail_cons]; omega) rfl, hb⟩

/-- pad_basic, case RSA_DEC -/
theorem padBasicDec_eq (em : Bytes) (hk : 2 ≤ em.length) :
    (padBasicDec (os2ip em) em.length).map (fun r => i2osp r.1 (em.length - r.2)) = basicUnpad em := by
  cases em with
  | nil => simp at hk
  | cons y rest =>
    have hne : rest ≠ [] := by rintro rfl; simp at hk
    obtain ⟨hscan, hbyte⟩ := basicScan_os2ip rest [y] (y :: rest).length 1 hne (Nat.le_succ _)
    rw [List.singleton_append] at hscan hbyte
    unfold padBasicDec
    rw [show (y :: rest).length - 1 = rest.length from rfl, os2ip_cons_div, hscan]
    simp only [basicUnpad]
    by_cases hy : y = 0
    · subst hy
      rw [if_neg (fun h : (0 : UInt8).toNat ≠ 0 => h rfl), if_neg (fun h : (0 : UInt8) ≠ 0 => h rfl), hbyte]
      generalize hd : rest.dropWhile (fun x => decide (x = 0)) = dw
      cases dw with
      | nil => rfl
      | cons f msg =>
        have hsplit := (dropWhile_eq_cons hd).1
        simp only [List.headD_cons, List.tail_cons, u8_eq_ff]
        clear hscan hbyte hd hne hk
        generalize rest.takeWhile (fun x => decide (x = 0)) = tw at hsplit
        subst hsplit
        have hl : (0 :: (tw ++ f :: msg)).length - (1 + (tw ++ f :: msg).length - msg.length) = msg.length := by
          simp only [List.length_cons, List.length_append]; omega
        have hm := i2osp_mod (0 :: (tw ++ [f])) msg
        rw [List.cons_append, List.append_assoc, List.singleton_append] at hm
        by_cases hf : f = 0xFF
        · simp only [if_pos hf, Option.map_some, hl, hm]
        · rw [if_neg hf, if_neg hf]; rfl
    · rw [if_pos (mt (u8_eq_zero y).1 hy), if_pos hy]; rfl

/-- pad_pkcs1, case RSA_DEC, against RFC 8017 §7.2.2 step 3 (|PS| ≥ 8 included); the C code refuses the empty message, hence
    the `bind` -/
theorem padPkcs1Dec_eq (em : Bytes) (hk : 3 ≤ em.length) :
    (padPkcs1Dec (os2ip em) em.length).map (fun r => i2osp r.1 (em.length - r.2))
      = (pkcs1Unpad em).bind fun m => if m.isEmpty then none else some m := by
  match em, hk with
  | [], hk => simp at hk
  | [_], hk => simp at hk
  | y :: t :: rest, _ =>
    have hscan := pkcs1Scan_os2ip rest [y, t] (y :: t :: rest).length (by simp only [List.length_cons]; omega)
    rw [show [y, t] ++ rest = y :: t :: rest from rfl] at hscan
    have hbt : byteAt (os2ip (y :: t :: rest)) rest.length = t.toNat := byteAt_mid [y] rest t
    unfold padPkcs1Dec
    rw [show (y :: t :: rest).length - 1 = (t :: rest).length from rfl,
      show (y :: t :: rest).length - 2 = rest.length from rfl, os2ip_cons_div, hbt, hscan]
    simp only [pkcs1Unpad]
    by_cases hy : y = 0
    · by_cases ht : t = 2
      · subst hy ht
        rw [if_neg (fun h : (0 : UInt8).toNat ≠ 0 => h rfl), if_neg (fun h : (2 : UInt8).toNat ≠ 2 => h rfl),
          if_neg (fun h : (0 : UInt8) ≠ 0 ∨ (2 : UInt8) ≠ 2 => h.elim (fun h => h rfl) (fun h => h rfl))]
        generalize hd : rest.dropWhile (fun x => decide (x ≠ 0)) = dw
        cases dw with
        | nil => rfl
        | cons z msg =>
          have hsplit := (dropWhile_eq_cons hd).1
          clear hscan hd hbt
          generalize rest.takeWhile (fun x => decide (x ≠ 0)) = ps at hsplit ⊢
          subst hsplit
          simp only [List.tail_cons]
          have hm := i2osp_mod (0 :: 2 :: (ps ++ [z])) msg
          rw [List.cons_append, List.cons_append, List.append_assoc, List.singleton_append] at hm
          have hl : (0 :: 2 :: (ps ++ z :: msg)).length - ((0 :: 2 :: (ps ++ z :: msg)).length - msg.length) = msg.length := by
            simp only [List.length_cons, List.length_append]; omega
          have hps : (0 :: 2 :: (ps ++ z :: msg)).length - 3 - msg.length = ps.length := by
            simp only [List.length_cons, List.length_append]; omega
          simp only [hps]
          by_cases h8 : ps.length < 8
          · rw [if_neg (show ¬ (msg.length > 0 ∧ ps.length ≥ 8) from fun h => absurd h.2 (by omega)), if_pos h8]; rfl
          · cases msg with
            | nil => rw [if_neg (show ¬ (([] : Bytes).length > 0 ∧ ps.length ≥ 8) from fun h => absurd h.1 (by simp)), if_neg h8]; rfl
            | cons a b =>
              rw [if_pos (show (a :: b).length > 0 ∧ ps.length ≥ 8 from ⟨by simp, by omega⟩), if_neg h8]
              simp only [Option.map_some, hl, hm]
              rfl
      · rw [if_neg (fun h => h ((u8_eq_zero y).2 hy)), if_pos (mt (u8_eq_two t).1 ht), if_pos (Or.inr ht)]; rfl
    · rw [if_pos (mt (u8_eq_zero y).1 hy), if_pos (Or.inl hy)]; rfl

end Relic.Lemmas.PadModelC06
