/-
C14 lemmas: PKCS#7 and CBC at the level of the specification (Spec/Aes.lean), the code-shaped padEncrypt / padDecrypt of
Model/Bc.lean equal to them, and CBC over two block functions that agree on 16-byte blocks (used to put the table-driven code of
rijndael-alg-fst.c in the place of the FIPS 197 cipher).  The theorems are declared in the namespaces `Relic.Lemmas.Md` (which
Props/C14 opens, together with the hash lemmas of Lemmas/Md.lean) and `Relic.Lemmas.AesCbc`.
-/
import RelicVerif.Model.Bc
import RelicVerif.Lemmas.Blocks
import RelicVerif.Lemmas.Loops
import RelicVerif.Lemmas.Ret
import RelicVerif.Lemmas.Aes

namespace Relic.Lemmas.Md
open Relic.Spec Relic.Model Relic.Lemmas.Blocks
open Relic.Spec.Aes (Bytes)

/-! ## PKCS#7 and CBC of the specification -/

theorem pkcs7Pad_length (m : Bytes) : (Aes.pkcs7Pad m).length % 16 = 0 ∧ m.length < (Aes.pkcs7Pad m).length := by
  simp [Aes.pkcs7Pad]; omega

theorem pkcs7Unpad_pad (m : Bytes) (k : Nat) (h1 : 1 ≤ k) (h16 : k ≤ 16) :
    Aes.pkcs7Unpad (m ++ List.replicate k (UInt8.ofNat k)) = some m := by
  obtain ⟨j, rfl⟩ : ∃ j, k = j + 1 := ⟨k - 1, by omega⟩
  have hlast : (m ++ List.replicate (j+1) (UInt8.ofNat (j+1))).getLast? = some (UInt8.ofNat (j+1)) := by
    simp [List.getLast?_append, List.getLast?_replicate]
  unfold Aes.pkcs7Unpad
  rw [hlast]
  simp only [UInt8.toNat_ofNat_of_lt' (by omega : j + 1 < 256)]
  have : ¬ (j + 1 = 0 ∨ j + 1 > 16 ∨ j + 1 > (m ++ List.replicate (j+1) (UInt8.ofNat (j+1))).length) := by
    simp; omega
  rw [if_neg this]
  have hl : (m ++ List.replicate (j+1) (UInt8.ofNat (j+1))).length - (j+1) = m.length := by simp
  rw [hl]
  simp

theorem pkcs7_roundtrip (m : Bytes) : Aes.pkcs7Unpad (Aes.pkcs7Pad m) = some m := by
  unfold Aes.pkcs7Pad
  exact pkcs7Unpad_pad m _ (by omega) (by omega)

theorem pkcs7Unpad_sound (c m : Bytes) (h : Aes.pkcs7Unpad c = some m) :
    ∃ k : Nat, 1 ≤ k ∧ k ≤ 16 ∧ c = m ++ List.replicate k (UInt8.ofNat k) := by
  revert m
  unfold Aes.pkcs7Unpad
  split
  · exact Ret.fail
  · next p hp =>
    refine Ret.guard fun hn => Ret.ite (fun hall => Ret.ok ⟨p.toNat, by omega, by omega, ?_⟩) fun _ => Ret.fail
    have hr := List.eq_replicate_of_mem fun b hb => beq_iff_eq.mp (List.all_eq_true.mp hall b hb)
    have hl : (c.drop (c.length - p.toNat)).length = p.toNat := by simp; omega
    rw [hl] at hr
    rw [UInt8.ofNat_toNat, ← hr, List.take_append_drop]

theorem cbc_roundtrip (E D : Bytes → Bytes) (hED : ∀ b, b.length = 16 → D (E b) = b)
    (hE : ∀ b, b.length = 16 → (E b).length = 16) (iv : Bytes) (hiv : iv.length = 16)
    (blocks : List Bytes) (hb : ∀ b ∈ blocks, b.length = 16) :
    Aes.cbcDec D iv (Aes.cbcEnc E iv blocks) = blocks := by
  induction blocks generalizing iv with
  | nil => simp [Aes.cbcEnc, Aes.cbcDec]
  | cons b bs ih =>
    have hbl : b.length = 16 := hb b (by simp)
    have hx : (Aes.addRoundKey b iv).length = 16 := Lemmas.Aes.addRoundKey_length16 _ _ hbl hiv
    simp only [Aes.cbcEnc, Aes.cbcDec]
    rw [hED _ hx, Lemmas.Aes.addRoundKey_cancel b iv (by omega), ih _ (hE _ hx) (fun b' hb' => hb b' (by simp [hb']))]

/-! ## padEncrypt / padDecrypt of Model/Bc.lean -/

theorem lastBlock_eq (rest iv : Bytes) (p : Nat) (hr : rest.length = 16 - p) (hp : p ≤ 16)
    (hiv : iv.length = 16) :
    ((List.range 16).map fun i =>
      if i < 16 - p then rest.getD i 0 ^^^ iv.getD i 0 else UInt8.ofNat p ^^^ iv.getD i 0)
      = Aes.addRoundKey (rest ++ List.replicate p (UInt8.ofNat p)) iv := by
  unfold Aes.addRoundKey
  rw [← Loops.map_range_zipWith _ (rest ++ List.replicate p (UInt8.ofNat p)) iv 0 0 16 (by simp; omega) hiv]
  apply List.map_congr_left
  intro i hi
  rw [List.mem_range] at hi
  split
  · have hi' : i < rest.length := by omega
    simp only [List.getD_eq_getElem?_getD, List.getElem?_append_left hi']
  · have hi' : rest.length ≤ i := by omega
    simp only [List.getD_eq_getElem?_getD, List.getElem?_append_right hi', List.getElem?_replicate]
    rw [if_pos (by omega), Option.getD_some]

/-- what padEncrypt does after its loop, on the loop's result (iv, rest of the input, output so far): the padded last block -/
def encFin (E : Bytes → Bytes) (p : Nat) (r : Bytes × Bytes × Bytes) : Bytes :=
  r.2.2 ++ E ((List.range 16).map fun i =>
    if i < 16 - p then r.2.1.getD i 0 ^^^ r.1.getD i 0 else UInt8.ofNat p ^^^ r.1.getD i 0)

theorem padEncLoop_eq (E : Bytes → Bytes) (hE : ∀ b, b.length = 16 → (E b).length = 16)
    (p : Nat) (hp1 : 1 ≤ p) (hp : p ≤ 16) (n : Nat) (iv inp out : Bytes) (hiv : iv.length = 16)
    (hlen : inp.length = 16 * n + (16 - p)) (f : Nat) (hf : n + 1 ≤ f) :
    encFin E p (Bc.padEncrypt.loop E n iv inp out)
    = out ++ (Aes.cbcEnc E iv (MD.blocks 16 f (inp ++ List.replicate p (UInt8.ofNat p)))).flatten := by
  induction n generalizing iv inp out f with
  | zero =>
    obtain ⟨f, rfl⟩ : ∃ g, f = g + 1 := ⟨f - 1, by omega⟩
    simp only [Bc.padEncrypt.loop, encFin]
    rw [lastBlock_eq inp iv p (by omega) hp hiv]
    rw [blocks_single 16 f _ (by decide) (by simp; omega)]
    simp [Aes.cbcEnc]
  | succ n ih =>
    obtain ⟨f, rfl⟩ : ∃ g, f = g + 1 := ⟨f - 1, by omega⟩
    rw [Bc.padEncrypt.loop]
    have hc : (E (Aes.addRoundKey (inp.take 16) iv)).length = 16 :=
      hE _ (Lemmas.Aes.addRoundKey_length16 _ _ (by simp; omega) hiv)
    rw [ih _ _ _ hc (by simp; omega) f (by omega)]
    have hsplit : inp ++ List.replicate p (UInt8.ofNat p)
        = inp.take 16 ++ (inp.drop 16 ++ List.replicate p (UInt8.ofNat p)) := by
      rw [← List.append_assoc, List.take_append_drop]
    rw [hsplit, blocks_cons 16 f _ _ (by decide) (by simp; omega)]
    simp [Aes.cbcEnc]

theorem padEncrypt_eq (E : Bytes → Bytes) (hE : ∀ b, b.length = 16 → (E b).length = 16) (iv : Bytes)
    (hiv : iv.length = 16) (m : Bytes) :
    Bc.padEncrypt E iv m =
      some (Aes.cbcEnc E iv (Aes.chunks16 ((Aes.pkcs7Pad m).length / 16 + 1) (Aes.pkcs7Pad m))).flatten := by
  have h0 : Bc.padEncrypt E iv m = some (encFin E (16 - (m.length - 16 * (m.length / 16)))
      (Bc.padEncrypt.loop E (m.length / 16) iv m [])) := rfl
  have hp : 16 - (m.length - 16 * (m.length / 16)) = 16 - m.length % 16 := by omega
  rw [h0, hp]
  have := padEncLoop_eq E hE (16 - m.length % 16) (by omega) (by omega) (m.length / 16) iv m [] hiv (by omega)
    ((Aes.pkcs7Pad m).length / 16 + 1) (by simp [Aes.pkcs7Pad]; omega)
  rw [List.nil_append] at this
  simp only [Aes.pkcs7Pad] at this ⊢
  rw [chunks16_eq, ← this]

/-- the padding check of padDecrypt on the last plaintext block, after the output `out` so far -/
def unpadLast (out block : Bytes) : Option Bytes :=
  let padLen := (block.getD 15 0).toNat
  if padLen = 0 ∨ padLen > 16 then none
  else if ((List.range 16).all fun i => i < 16 - padLen || block.getD i 0 == UInt8.ofNat padLen) then
    some (out ++ block.take (16 - padLen))
  else none

theorem all_range_drop (l : Bytes) (k : Nat) (p : UInt8) :
    ((List.range l.length).all fun i => decide (i < k) || l.getD i 0 == p) = (l.drop k).all (· == p) := by
  induction l generalizing k with
  | nil => simp
  | cons x t ih =>
    cases k with
    | zero => simpa [List.range_succ_eq_map, List.all_map, Function.comp_def] using congrArg (x == p && ·) (ih 0)
    | succ k => simpa [List.range_succ_eq_map, List.all_map, Function.comp_def] using ih k

theorem unpad_lastBlock (out block : Bytes) (hb : block.length = 16) :
    Aes.pkcs7Unpad (out ++ block) = unpadLast out block := by
  have hlast : (out ++ block).getLast? = some (block.getD 15 0) := by
    have hbl : block.getLast? = some (block.getD 15 0) := by
      rw [List.getLast?_eq_getElem?, hb]
      simp [List.getD_eq_getElem?_getD]
      rw [List.getElem?_eq_getElem (by omega)]; simp
    simp [List.getLast?_append, hbl]
  unfold Aes.pkcs7Unpad unpadLast
  rw [hlast]
  simp only
  generalize block.getD 15 0 = p
  by_cases h1 : p.toNat = 0 ∨ p.toNat > 16
  · have h2 : p.toNat = 0 ∨ p.toNat > 16 ∨ p.toNat > (out ++ block).length := by omega
    rw [if_pos h1, if_pos h2]
  · have h2 : ¬ (p.toNat = 0 ∨ p.toNat > 16 ∨ p.toNat > (out ++ block).length) := by
      simp [hb]; omega
    rw [if_neg h1, if_neg h2]
    have hl : (out ++ block).length - p.toNat = out.length + (16 - p.toNat) := by simp [hb]; omega
    have hall := all_range_drop block (16 - p.toNat) p
    rw [hb] at hall
    rw [hl, UInt8.ofNat_toNat, hall]
    simp [List.drop_append, List.take_append]
    rw [List.take_of_length_le (l := out) (by omega), List.drop_of_length_le (l := out) (by omega)]
    simp

theorem padDecLoop_eq (D : Bytes → Bytes)
    (n : Nat) (iv inp out : Bytes) (hiv : iv.length = 16)
    (hlen : inp.length = 16 * (n + 1)) (f : Nat) (hf : n + 1 ≤ f) :
    let r := Bc.padDecrypt.loop D n iv inp out
    r.1.length = 16 ∧ r.2.1.length = 16 ∧
    r.2.2 ++ Aes.addRoundKey (D (r.2.1.take 16)) r.1
      = out ++ (Aes.cbcDec D iv (MD.blocks 16 f inp)).flatten := by
  induction n generalizing iv inp out f with
  | zero =>
    obtain ⟨f, rfl⟩ : ∃ g, f = g + 1 := ⟨f - 1, by omega⟩
    simp only [Bc.padDecrypt.loop]
    refine ⟨hiv, by omega, ?_⟩
    rw [blocks_single 16 f _ (by decide) (by omega), List.take_of_length_le (by omega)]
    simp [Aes.cbcDec]
  | succ n ih =>
    obtain ⟨f, rfl⟩ : ∃ g, f = g + 1 := ⟨f - 1, by omega⟩
    rw [Bc.padDecrypt.loop]
    have ht : (inp.take 16).length = 16 := by simp; omega
    have := ih (inp.take 16) (inp.drop 16) (out ++ Aes.addRoundKey (D (inp.take 16)) iv) ht
      (by simp; omega) f (by omega)
    simp only at this ⊢
    refine ⟨this.1, this.2.1, ?_⟩
    rw [this.2.2]
    have hsplit : inp = inp.take 16 ++ inp.drop 16 := (List.take_append_drop 16 inp).symm
    conv => rhs; rw [hsplit, blocks_cons 16 f _ _ (by decide) ht]
    simp [Aes.cbcDec]

theorem padDecrypt_eq (D : Bytes → Bytes) (hD : ∀ b, b.length = 16 → (D b).length = 16) (iv : Bytes)
    (hiv : iv.length = 16) (c : Bytes) :
    Bc.padDecrypt D iv c =
      (if c.length = 0 ∨ c.length % 16 ≠ 0 then none
       else Aes.pkcs7Unpad (Aes.cbcDec D iv (Aes.chunks16 (c.length / 16 + 1) c)).flatten) := by
  have h0 : Bc.padDecrypt D iv c = if c.length = 0 then none else if c.length % 16 ≠ 0 then none
      else (let r := Bc.padDecrypt.loop D (c.length / 16 - 1) iv c []
            unpadLast r.2.2 (Aes.addRoundKey (D (r.2.1.take 16)) r.1)) := rfl
  rw [h0]
  by_cases h1 : c.length = 0
  · simp [h1]
  by_cases h2 : c.length % 16 ≠ 0
  · simp [h2]
  have h3 : ¬ (c.length = 0 ∨ c.length % 16 ≠ 0) := by omega
  rw [if_neg h1, if_neg h2, if_neg h3]
  have := padDecLoop_eq D (c.length / 16 - 1) iv c [] hiv (by omega) (c.length / 16 + 1) (by omega)
  simp only [List.nil_append] at this
  obtain ⟨ha, hb, hc⟩ := this
  rw [chunks16_eq, ← hc, unpad_lastBlock _ _ (Lemmas.Aes.addRoundKey_length16 _ _ (hD _ (by simp; omega)) ha)]

/-! ## CBC over PKCS#7 in the specification -/

/-- `l.length / 16 + 1` is the fuel the specification gives -/
theorem chunks16_whole (l : Bytes) (hm : l.length % 16 = 0) :
    (Aes.chunks16 (l.length / 16 + 1) l).flatten = l ∧ ∀ b ∈ Aes.chunks16 (l.length / 16 + 1) l, b.length = 16 :=
  chunks16_eq _ l ▸ flatten_blocks 16 _ l (by omega) hm

theorem flatten_length16 (L : List Bytes) (hL : ∀ b ∈ L, b.length = 16) : L.flatten.length = 16 * L.length := by
  rw [← List.flatMap_id, Loops.length_flatMap_const 16 id L hL, Nat.mul_comm]

theorem cbcEnc_blocks (E : Bytes → Bytes) (hE : ∀ b, b.length = 16 → (E b).length = 16) (iv : Bytes)
    (hiv : iv.length = 16) (bs : List Bytes) (hb : ∀ b ∈ bs, b.length = 16) :
    (Aes.cbcEnc E iv bs).length = bs.length ∧ ∀ c ∈ Aes.cbcEnc E iv bs, c.length = 16 := by
  induction bs generalizing iv with
  | nil => simp [Aes.cbcEnc]
  | cons b t ih =>
    have hc : (E (Aes.addRoundKey b iv)).length = 16 :=
      hE _ (Lemmas.Aes.addRoundKey_length16 _ _ (hb b (by simp)) hiv)
    have := ih _ hc (fun b' hb' => hb b' (by simp [hb']))
    simp only [Aes.cbcEnc]
    refine ⟨by simp [this.1], ?_⟩
    intro c hcm
    rcases List.mem_cons.mp hcm with rfl | hcm
    · exact hc
    · exact this.2 c hcm

theorem cbcEnc_pkcs7 (E : Bytes → Bytes) (hE : ∀ b, b.length = 16 → (E b).length = 16) (iv : Bytes)
    (hiv : iv.length = 16) (m : Bytes) :
    ∃ B : List Bytes, (∀ b ∈ B, b.length = 16) ∧ B.flatten = Aes.pkcs7Pad m ∧
      Aes.chunks16 ((Aes.pkcs7Pad m).length / 16 + 1) (Aes.pkcs7Pad m) = B ∧
      (Aes.cbcEnc E iv B).length = B.length ∧ ∀ c ∈ Aes.cbcEnc E iv B, c.length = 16 := by
  obtain ⟨hP16, _⟩ := pkcs7Pad_length m
  obtain ⟨hBf, hB16⟩ := chunks16_whole (Aes.pkcs7Pad m) hP16
  exact ⟨_, hB16, hBf, rfl, cbcEnc_blocks E hE iv hiv _ hB16⟩

theorem cbcEnc_pkcs7_length (E : Bytes → Bytes) (hE : ∀ b, b.length = 16 → (E b).length = 16) (iv : Bytes)
    (hiv : iv.length = 16) (m : Bytes) :
    (Aes.cbcEnc E iv (Aes.chunks16 ((Aes.pkcs7Pad m).length / 16 + 1) (Aes.pkcs7Pad m))).flatten.length
      = m.length + (16 - m.length % 16) := by
  obtain ⟨B, hB16, hBf, hB, hCl, hC16⟩ := cbcEnc_pkcs7 E hE iv hiv m
  rw [hB, flatten_length16 _ hC16, hCl, ← flatten_length16 _ hB16, hBf]
  simp [Aes.pkcs7Pad]

theorem cbc_pkcs7_roundtrip (E D : Bytes → Bytes) (hED : ∀ b, b.length = 16 → D (E b) = b)
    (hE : ∀ b, b.length = 16 → (E b).length = 16) (iv : Bytes) (hiv : iv.length = 16) (m c : Bytes)
    (hc : c = (Aes.cbcEnc E iv (Aes.chunks16 ((Aes.pkcs7Pad m).length / 16 + 1) (Aes.pkcs7Pad m))).flatten) :
    Aes.pkcs7Unpad (Aes.cbcDec D iv (Aes.chunks16 (c.length / 16 + 1) c)).flatten = some m := by
  obtain ⟨B, hB16, hBf, hB, hCl, hC16⟩ := cbcEnc_pkcs7 E hE iv hiv m
  rw [hB] at hc
  have hfuel : (Aes.cbcEnc E iv B).length ≤ c.length / 16 + 1 := by
    rw [hc, flatten_length16 _ hC16]; omega
  rw [hc, chunks16_eq, blocks_flatten 16 (by decide) _ hC16 _ (hc ▸ hfuel), cbc_roundtrip E D hED hE iv hiv B hB16, hBf]
  exact pkcs7_roundtrip m

theorem keyLength_of_enc (mkE : Bytes → Bytes → Bytes) (key iv m c : Bytes) (cap : Nat)
    (henc : Bc.bcAesCbcEnc mkE cap m key iv = some c) : key.length = 16 ∨ key.length = 24 ∨ key.length = 32 := by
  simp only [Bc.bcAesCbcEnc] at henc
  by_cases hkey : key.length ≠ 16 ∧ key.length ≠ 24 ∧ key.length ≠ 32
  · rw [if_pos hkey] at henc
    split at henc <;> simp at henc
  · omega

end Relic.Lemmas.Md

namespace Relic.Lemmas.AesCbc
open Relic.Spec Relic.Model Relic.Lemmas.Md
open Relic.Spec.Aes (Bytes)

theorem cbcEnc_congr (E E' : Bytes → Bytes) (h : ∀ b, b.length = 16 → E b = E' b)
    (hE : ∀ b, b.length = 16 → (E b).length = 16) (iv : Bytes) (hiv : iv.length = 16) (bs : List Bytes)
    (hb : ∀ b ∈ bs, b.length = 16) : Aes.cbcEnc E iv bs = Aes.cbcEnc E' iv bs := by
  induction bs generalizing iv with
  | nil => simp [Aes.cbcEnc]
  | cons b t ih =>
    have hx := Lemmas.Aes.addRoundKey_length16 b iv (hb b (by simp)) hiv
    simp only [Aes.cbcEnc]
    rw [← h _ hx, ih _ (hE _ hx) (fun b' hb' => hb b' (by simp [hb']))]

theorem cbcDec_congr (D D' : Bytes → Bytes) (h : ∀ b, b.length = 16 → D b = D' b) (iv : Bytes) (bs : List Bytes)
    (hb : ∀ b ∈ bs, b.length = 16) : Aes.cbcDec D iv bs = Aes.cbcDec D' iv bs := by
  induction bs generalizing iv with
  | nil => simp [Aes.cbcDec]
  | cons b t ih =>
    simp only [Aes.cbcDec]
    rw [← h _ (hb b (by simp)), ih _ (fun b' hb' => hb b' (by simp [hb']))]

end Relic.Lemmas.AesCbc
