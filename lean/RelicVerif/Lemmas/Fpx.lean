/-
What the theorems of Props/C10.lean about Model/Fpx.lean are stated and proved with. Every multiplication / squaring
formula of the model is treated once, over an operation record `o` with a map `ev` into a commutative ring that carries
the operations to the ring operations (`OpsHom`): its coefficients are the closed form (`quadProd`, `cubProd`) of the
product in R[X]/(X² − ν), R[X]/(X³ − ν). `ev = id` is the formula over a ring, evaluation at a root the stacked model.
The cyclotomic subgroup is the six Granger–Scott relations `IsCyc12`; what decompression needs (Karabina's relations)
follows from them by `linear_combination` certificates over a commutative ring.
-/
import Mathlib.Algebra.Field.Basic
import Mathlib.Data.ZMod.Basic
import Mathlib.Tactic.Ring
import Mathlib.Tactic.LinearCombination
import Mathlib.Tactic.FieldSimp
import RelicVerif.Model.Fpx
import RelicVerif.Lemmas.SimInv

namespace Relic.Lemmas.Fpx
open Relic.Model.Fpx Relic.Model.Formula

variable {R : Type} [CommRing R]

/-- the operations of a commutative ring as the record the model is written over; inversion, halving and the zero
    test are parameters (a commutative ring has none in general) -/
def rOps (inv hlv : R → R) (isZero : R → Bool) : FOps R where
  zero := 0
  one := 1
  add := (· + ·)
  sub := (· - ·)
  mul := (· * ·)
  neg := Neg.neg
  sqr := fun a => a * a
  dbl := fun a => a + a
  hlv := hlv
  inv := inv
  ofNat := fun n => (n : R)
  isZero := isZero

section projections
variable (inv hlv : R → R) (isZero : R → Bool)
@[simp] theorem rOps_zero : (rOps inv hlv isZero).zero = 0 := rfl
@[simp] theorem rOps_one : (rOps inv hlv isZero).one = 1 := rfl
@[simp] theorem rOps_add (a b : R) : (rOps inv hlv isZero).add a b = a + b := rfl
@[simp] theorem rOps_sub (a b : R) : (rOps inv hlv isZero).sub a b = a - b := rfl
@[simp] theorem rOps_mul (a b : R) : (rOps inv hlv isZero).mul a b = a * b := rfl
@[simp] theorem rOps_neg (a : R) : (rOps inv hlv isZero).neg a = -a := rfl
@[simp] theorem rOps_sqr (a : R) : (rOps inv hlv isZero).sqr a = a * a := rfl
@[simp] theorem rOps_dbl (a : R) : (rOps inv hlv isZero).dbl a = a + a := rfl
@[simp] theorem rOps_hlv (a : R) : (rOps inv hlv isZero).hlv a = hlv a := rfl
@[simp] theorem rOps_inv (a : R) : (rOps inv hlv isZero).inv a = inv a := rfl
@[simp] theorem rOps_ofNat (n : Nat) : (rOps inv hlv isZero).ofNat n = (n : R) := rfl
@[simp] theorem rOps_isZero (a : R) : (rOps inv hlv isZero).isZero a = isZero a := rfl
end projections

theorem V2.ext' {E : Type} {a b : V2 E} (h0 : a.c0 = b.c0) (h1 : a.c1 = b.c1) : a = b := by
  cases a; cases b; simp_all

theorem V3.ext' {E : Type} {a b : V3 E} (h0 : a.c0 = b.c0) (h1 : a.c1 = b.c1) (h2 : a.c2 = b.c2) : a = b := by
  cases a; cases b; simp_all

/-! ### the qnr / cnr loops -/

section loops
variable {E S : Type} [CommRing S]

/-- `ev : E → S` carries the operations of the record `o` to the ring operations of S, halving to multiplication by
    `half`; the ring operations themselves are the case `ev = id` (`rOps_hom`) -/
structure OpsHom (o : FOps E) (ev : E → S) (half : S) : Prop where
  zero : ev o.zero = 0
  one : ev o.one = 1
  add : ∀ a b, ev (o.add a b) = ev a + ev b
  sub : ∀ a b, ev (o.sub a b) = ev a - ev b
  mul : ∀ a b, ev (o.mul a b) = ev a * ev b
  neg : ∀ a, ev (o.neg a) = - ev a
  sqr : ∀ a, ev (o.sqr a) = ev a * ev a
  dbl : ∀ a, ev (o.dbl a) = ev a + ev a
  hlv : ∀ a, ev (o.hlv a) = half * ev a

variable {o : FOps E} {ev : E → S} {half : S}

theorem OpsHom.iter_sub (h : OpsHom o ev half) (t : E) : ∀ (n : Nat) (x : E),
    ev (iter (fun y => o.sub y t) n x) = ev x - n * ev t
  | 0, x => by simp [iter]
  | n + 1, x => by rw [iter, OpsHom.iter_sub h t n, h.sub]; push_cast; ring

theorem OpsHom.iter_add (h : OpsHom o ev half) (t : E) : ∀ (n : Nat) (x : E),
    ev (iter (fun y => o.add y t) n x) = ev x + n * ev t
  | 0, x => by simp [iter]
  | n + 1, x => by rw [iter, OpsHom.iter_add h t n, h.add]; push_cast; ring

theorem toNat_cast {z : Int} (hz : 0 ≤ z) : ((z.toNat : Nat) : S) = (z : S) := by
  rw [← Int.cast_natCast, Int.toNat_of_nonneg hz]

theorem negLoop_cast {q : Int} (hq : q ≤ -1) : ((negLoop q : Nat) : S) = -1 - (q : S) := by
  rw [negLoop, toNat_cast (by omega), Int.cast_sub, Int.cast_neg, Int.cast_one]

theorem negLoop0_cast {c : Int} (hc : c ≤ 0) : ((negLoop0 c : Nat) : S) = 1 - (c : S) := by
  rw [negLoop0, toNat_cast (by omega), Int.cast_sub, Int.cast_one]

theorem posLoop_cast {c : Int} (hc : 1 ≤ c) : ((posLoop c : Nat) : S) = (c : S) - 1 := by
  rw [posLoop, toNat_cast (by omega), Int.cast_sub, Int.cast_one]

theorem posLoop_zero {c : Int} (hc : c ≤ 1) : posLoop c = 0 := by
  unfold posLoop; omega

theorem posLoop0_zero {q : Int} (hq : q ≤ -1) : posLoop0 q = 0 := by
  unfold posLoop0; omega

theorem negLoop0_zero {c : Int} (hc : 1 ≤ c) : negLoop0 c = 0 := by
  unfold negLoop0; omega

theorem OpsHom.mulCnr (h : OpsHom o ev half) (c : Int) (t acc : E) :
    ev (mulCnr o c t acc) = ev acc + ((c : S) - 1) * ev t := by
  unfold Relic.Model.Fpx.mulCnr
  rw [h.iter_sub, h.iter_add]
  rcases le_or_gt c 0 with hc | hc
  · rw [negLoop0_cast hc, posLoop_zero (by omega)]; push_cast; ring
  · rw [negLoop0_zero (by omega), posLoop_cast (by omega)]; push_cast; ring

/-- x ↦ qnr·x as the loops of fp2_mul_art compute it: fp2_mul_art is the quadratic-level formula with these loops as `nor` -/
def mulQnr (o : FOps E) (q : Int) (t : E) : E :=
  iter (fun x => o.add x t) (posLoop0 q) (iter (fun x => o.sub x t) (negLoop q) (o.neg t))

theorem fp2MulArt_eq_quadArt (o : FOps E) (q : Int) (a : V2 E) : fp2MulArt o q a = quadArt (mulQnr o q) a := rfl

/-- for every integer q: one of the two loops is empty -/
theorem OpsHom.mulQnr (h : OpsHom o ev half) (q : Int) (t : E) : ev (mulQnr o q t) = (q : S) * ev t := by
  rw [Fpx.mulQnr, h.iter_add, h.iter_sub, h.neg]
  rcases le_or_gt q (-1) with hq | hq
  · rw [posLoop0_zero hq, negLoop_cast hq]; push_cast; ring
  · rw [show negLoop q = 0 by unfold negLoop; omega, posLoop0, toNat_cast (by omega)]; push_cast; ring

end loops

section ringLoops
variable (inv : R → R) (hf : R) (isZero : R → Bool)

theorem rOps_hom : OpsHom (rOps inv (fun x : R => hf * x) isZero) id hf :=
  ⟨rfl, rfl, fun _ _ => rfl, fun _ _ => rfl, fun _ _ => rfl, fun _ => rfl, fun _ => rfl, fun _ => rfl, fun _ => rfl⟩

end ringLoops

/-! ## Part A: products, squares, inverses -/

/-- product in R[X]/(X² − ν) on coefficient pairs -/
def quadProd (ν : R) (a b : V2 R) : V2 R := ⟨a.c0 * b.c0 + ν * (a.c1 * b.c1), a.c0 * b.c1 + a.c1 * b.c0⟩
/-- product in R[X]/(X³ − ν) on coefficient triples -/
def cubProd (ν : R) (a b : V3 R) : V3 R :=
  ⟨a.c0 * b.c0 + ν * (a.c1 * b.c2 + a.c2 * b.c1), a.c0 * b.c1 + a.c1 * b.c0 + ν * (a.c2 * b.c2),
   a.c0 * b.c2 + a.c1 * b.c1 + a.c2 * b.c0⟩

def toList2 {E : Type} (a : V2 E) : List E := [a.c0, a.c1]
def toList3 {E : Type} (a : V3 E) : List E := [a.c0, a.c1, a.c2]

section formulas
variable (inv : R → R) (hf : R) (isZero : R → Bool)
/- halving is multiplication by a constant hf with 2·hf = 1 (fp_hlv: (p+1)/2) -/
local notation "o" => rOps inv (fun x : R => hf * x) isZero

/-- the norm as fp2_inv accumulates it -/
def fp2Norm (q : Int) (a : V2 R) : R := a.c0 * a.c0 - (q : R) * (a.c1 * a.c1)

/-- the constant fp2_mul_nor multiplies by, the pair (c0, c1) standing for c0 + c1·i -/
def fp2NorConst (mod8 qnr2 : Nat) : V2 R :=
  if mod8 = 1 ∨ mod8 = 5 then ⟨0, 1⟩
  else if mod8 = 3 ∧ qnr2 = 1 then ⟨1, 1⟩
  else ⟨2 ^ Nat.log2 qnr2, 1⟩

/-- the norm form of a cubic element: a·(v0 + v1 X + v2 X²) = N with v0 = a0² − ν a1a2, v1 = ν a2² − a0a1, v2 = a1² − a0a2 -/
def cubNorm (ν : R) (a : V3 R) : R :=
  a.c0 * (a.c0 * a.c0 - ν * (a.c1 * a.c2)) + ν * (a.c1 * (a.c1 * a.c1 - a.c0 * a.c2)) + ν * (a.c2 * (ν * (a.c2 * a.c2) - a.c0 * a.c1))

section level
variable (ν : R)

def quadNorm (a : V2 R) : R := a.c0 * a.c0 - ν * (a.c1 * a.c1)

theorem quadProd_conj (a : V2 R) (n : R) (hn : n * quadNorm ν a = 1) :
    quadProd ν a ⟨a.c0 * n, -(a.c1 * n)⟩ = ⟨1, 0⟩ := by
  unfold quadNorm at hn
  apply V2.ext' <;> simp only [quadProd]
  · linear_combination hn
  · ring

theorem cubProd_adj (a : V3 R) (n : R) (hn : n * cubNorm ν a = 1) :
    cubProd ν a ⟨(a.c0 * a.c0 - ν * (a.c1 * a.c2)) * n, (ν * (a.c2 * a.c2) - a.c0 * a.c1) * n,
      (a.c1 * a.c1 - a.c0 * a.c2) * n⟩ = ⟨1, 0, 0⟩ := by
  unfold cubNorm at hn
  apply V3.ext' <;> simp only [cubProd]
  · linear_combination hn
  · ring
  · ring

end level

theorem fp2MulNor_cases {E : Type} (o' : FOps E) (q : Int) (mod8 qnr2 : Nat) (a r : V2 E)
    (h : fp2MulNor o' q mod8 qnr2 a = some r) :
    ((mod8 = 1 ∨ mod8 = 5) ∧ r = fp2MulArt o' q a) ∨
    (mod8 = 3 ∧ qnr2 = 1 ∧ r = ⟨o'.add (o'.neg a.c1) a.c0, o'.add a.c0 a.c1⟩) ∨
    (¬ (mod8 = 1 ∨ mod8 = 5) ∧ ¬ (mod8 = 3 ∧ qnr2 = 1) ∧
      r = v2Add o' (iter (v2Dbl o') (Nat.log2 qnr2) a) (fp2MulArt o' q a)) := by
  unfold fp2MulNor at h
  split at h
  · exact Or.inl ⟨Or.inl rfl, (Option.some.inj h).symm⟩
  · exact Or.inl ⟨Or.inr rfl, (Option.some.inj h).symm⟩
  · split at h
    · exact Or.inr (Or.inl ⟨rfl, ‹_›, (Option.some.inj h).symm⟩)
    · exact Or.inr (Or.inr ⟨by omega, fun hc => ‹¬ qnr2 = 1› hc.2, (Option.some.inj h).symm⟩)
  · exact Or.inr (Or.inr ⟨by omega, by omega, (Option.some.inj h).symm⟩)
  · exact absurd h (by simp)

/-- c = fp_prime_get_cnr(), of either sign -/
theorem mulCnr_self (c : Int) : (fun t : R => mulCnr o c t t) = fun t => (c : R) * t := by
  funext t
  rw [show mulCnr o c t t = t + ((c : R) - 1) * t from (rOps_hom inv hf isZero).mulCnr c t t]; ring

/-! ## Part B: fp12 = fp6[w]/(w² − v), fp6 = K[v]/(v³ − ξ) over a commutative ring K (fp2 in the library) -/

section fp12
variable (ξ : R)
local notation "nor" => (fun t : R => ξ * t)

def v3add (a b : V3 R) : V3 R := ⟨a.c0 + b.c0, a.c1 + b.c1, a.c2 + b.c2⟩

/-- product in (K[v]/(v³ − ξ))[w]/(w² − v) on coefficient vectors: quadProd over the cubic ring with ν = v -/
def fp12Prod (a b : Fp12 R) : Fp12 R :=
  ⟨v3add (cubProd ξ a.c0 b.c0) (cubProd ξ (cubProd ξ a.c1 b.c1) ⟨0, 1, 0⟩),
   v3add (cubProd ξ a.c0 b.c1) (cubProd ξ a.c1 b.c0)⟩

theorem Fp12.ext' {E : Type} {a b : Fp12 E} (h00 : a.c0.c0 = b.c0.c0) (h01 : a.c0.c1 = b.c0.c1) (h02 : a.c0.c2 = b.c0.c2)
    (h10 : a.c1.c0 = b.c1.c0) (h11 : a.c1.c1 = b.c1.c1) (h12 : a.c1.c2 = b.c1.c2) : a = b :=
  V2.ext' (V3.ext' h00 h01 h02) (V3.ext' h10 h11 h12)

@[simp] theorem cubOps_add (a b : V3 R) : (cubOps o nor).add a b = v3Add o a b := rfl
@[simp] theorem cubOps_sub (a b : V3 R) : (cubOps o nor).sub a b = v3Sub o a b := rfl

theorem cubProd_karatsuba (a0 a1 b0 b1 : V3 R) :
    v3Sub o (v3Sub o (cubProd ξ (v3Add o a0 a1) (v3Add o b0 b1)) (cubProd ξ a0 b0)) (cubProd ξ a1 b1) =
      v3add (cubProd ξ a0 b1) (cubProd ξ a1 b0) := by
  apply V3.ext' <;> simp only [v3Sub, v3Add, v3add, cubProd, rOps_add, rOps_sub] <;> ring

/-- sparse operand of a D-type twist line function: b = (b00, 0, 0) + (b10, b11, 0)·w -/
def SparseD (b : Fp12 R) : Prop := b.c0.c1 = 0 ∧ b.c0.c2 = 0 ∧ b.c1.c2 = 0
/-- sparse operand of an M-type twist line function: b = (b00, b01, 0) + (0, b11, 0)·w -/
def SparseM (b : Fp12 R) : Prop := b.c0.c2 = 0 ∧ b.c1.c0 = 0 ∧ b.c1.c2 = 0

example : SparseD (⟨⟨(5 : ℤ), 0, 0⟩, ⟨7, 11, 0⟩⟩ : Fp12 ℤ) := ⟨rfl, rfl, rfl⟩
example : SparseM (⟨⟨(5 : ℤ), 7, 0⟩, ⟨0, 11, 0⟩⟩ : Fp12 ℤ) := ⟨rfl, rfl, rfl⟩

/-! ### the cyclotomic subgroup -/

/-- Write fp12 as a cubic extension of K4 = K[s]/(s² − ξ), s = w³:  α = A + C·w + B·w² with
A = a00 + a11·s, C = a10 + a02·s, B = a01 + a12·s. The p²-power map acts on K4 as the conjugation s ↦ −s and sends w to
γ·w with γ = ξ^((p²−1)/6) a primitive sixth root of unity (γ² − γ + 1 = 0). α^(p⁴ − p² + 1) = 1 (with α invertible) reads
α · α^(p⁴) = α^(p²); comparing the coefficients of 1, w, w² gives (`cyclotomic_relations` of Props/C10.lean, over an
abstract K4)

  C·B·s = A² − conj A,    A·C = B²·s + conj C,    A·B = C² − conj B,

the relations Granger and Scott derive. In coordinates over K these are the six equations of `IsCyc12`
(g0 = a00, g1 = a11, g2 = a10, g3 = a02, g4 = a01, g5 = a12 in the notation of the C comments). -/
structure IsCyc12 (a : Fp12 R) : Prop where
  r1a : ξ * (a.c1.c0 * a.c1.c2 + a.c0.c2 * a.c0.c1) = a.c0.c0 ^ 2 + ξ * a.c1.c1 ^ 2 - a.c0.c0
  r1b : a.c1.c0 * a.c0.c1 + ξ * (a.c0.c2 * a.c1.c2) = 2 * a.c0.c0 * a.c1.c1 + a.c1.c1
  r2a : a.c0.c0 * a.c1.c0 + ξ * (a.c1.c1 * a.c0.c2) = 2 * ξ * (a.c0.c1 * a.c1.c2) + a.c1.c0
  r2b : a.c0.c0 * a.c0.c2 + a.c1.c1 * a.c1.c0 = a.c0.c1 ^ 2 + ξ * a.c1.c2 ^ 2 - a.c0.c2
  r3a : a.c0.c0 * a.c0.c1 + ξ * (a.c1.c1 * a.c1.c2) = a.c1.c0 ^ 2 + ξ * a.c0.c2 ^ 2 - a.c0.c1
  r3b : a.c0.c0 * a.c1.c2 + a.c1.c1 * a.c0.c1 = 2 * a.c1.c0 * a.c0.c2 + a.c1.c2

/-- the identity is cyclotomic: the hypotheses are satisfiable -/
example : IsCyc12 (7 : ℤ) ⟨⟨1, 0, 0⟩, ⟨0, 0, 0⟩⟩ := by constructor <;> norm_num

/-- Karabina's first relation: 4·g2·g1 = ξ·g5² + 3·g4² − 2·g3 -/
theorem cyc_g1 (a : Fp12 R) (h : IsCyc12 ξ a) :
    4 * a.c1.c0 * a.c1.c1 = ξ * a.c1.c2 ^ 2 + 3 * a.c0.c1 ^ 2 - 2 * a.c0.c2 := by
  linear_combination (-a.c0.c2) * h.r1a + (-a.c1.c0) * h.r1b + (-a.c1.c1) * h.r2a + (2 - a.c0.c0) * h.r2b +
    (-a.c0.c1) * h.r3a + (-(a.c1.c2 * ξ)) * h.r3b

/-- the exceptional case g2 = 0: g3·g1 = 2·g4·g5 -/
theorem cyc_g1_exc (a : Fp12 R) (h : IsCyc12 ξ a) (h2 : a.c1.c0 = 0) :
    a.c0.c2 * a.c1.c1 = 2 * a.c0.c1 * a.c1.c2 := by
  have e1 := h.r1a; have e2 := h.r1b; have e3 := h.r2a; have e4 := h.r2b; have e5 := h.r3a; have e6 := h.r3b
  rw [h2] at e1 e2 e3 e4 e5 e6
  linear_combination (-2 * a.c1.c1 * a.c0.c2 + a.c0.c1 * a.c1.c2) * e1 +
    (a.c0.c0 * a.c0.c2 - 2 * a.c0.c2 - a.c0.c1 ^ 2) * e2 + (-2 * a.c1.c1 ^ 2) * e3 + (-a.c1.c1) * e4 +
    (a.c0.c0 * a.c1.c2 - 2 * a.c1.c1 * a.c0.c1 - 2 * a.c1.c2) * e5 + (-(a.c1.c1 * a.c1.c2 * ξ)) * e6

/-- the defect of Karabina's second relation g0 = ξ·(2·g1² + g2·g5 − 3·g3·g4) + 1 -/
def g0Defect (a : Fp12 R) : R :=
  a.c0.c0 - (ξ * (2 * a.c1.c1 ^ 2 + a.c1.c0 * a.c1.c2 - 3 * a.c0.c2 * a.c0.c1) + 1)

theorem cyc_g0_mul_g3 (a : Fp12 R) (h : IsCyc12 ξ a) : a.c0.c2 * g0Defect ξ a = 0 := by
  unfold g0Defect
  linear_combination (a.c0.c0 * a.c0.c2 + 2 * a.c0.c2 - a.c1.c2 ^ 2 * ξ) * h.r1a +
    (-ξ * (a.c1.c1 * a.c0.c2 - a.c0.c1 * a.c1.c2)) * h.r1b + (-a.c0.c0 * a.c1.c1 - a.c1.c1 + a.c1.c0 * a.c0.c1) * h.r2a +
    (a.c0.c0 ^ 2 - a.c1.c0 * a.c1.c2 * ξ - 1) * h.r2b + (a.c0.c0 * a.c0.c1 - a.c1.c1 * a.c1.c2 * ξ - a.c0.c1) * h.r3a +
    (a.c1.c2 * ξ) * h.r3b

theorem cyc_g0_mul_g1 (a : Fp12 R) (h : IsCyc12 ξ a) : a.c1.c1 * g0Defect ξ a = 0 := by
  unfold g0Defect
  linear_combination (2 * a.c1.c1 + a.c1.c0 * a.c0.c1) * h.r1a + (-a.c0.c0 + a.c1.c0 * a.c1.c2 * ξ + 1) * h.r1b +
    (a.c1.c0 ^ 2) * h.r2a + (a.c1.c0 * a.c0.c2 * ξ) * h.r2b + (a.c1.c0 * (a.c0.c0 - 1)) * h.r3a +
    (ξ * (a.c1.c1 * a.c1.c0 + a.c0.c2)) * h.r3b

theorem cyc_g0_mul_g4 (a : Fp12 R) (h : IsCyc12 ξ a) : a.c0.c1 * g0Defect ξ a = 0 := by
  unfold g0Defect
  linear_combination (a.c0.c0 * a.c0.c1 - a.c1.c1 * a.c1.c2 * ξ + 2 * a.c0.c1) * h.r1a +
    (ξ * (a.c0.c0 * a.c1.c2 - a.c1.c1 * a.c0.c1 - a.c1.c2)) * h.r1b + (a.c0.c0 * a.c1.c0 - a.c1.c1 * a.c0.c2 * ξ + a.c1.c0) * h.r2a +
    (ξ * (a.c0.c0 * a.c0.c2 - a.c1.c1 * a.c1.c0 - a.c0.c2)) * h.r2b + (a.c0.c0 ^ 2 - a.c1.c1 ^ 2 * ξ - 1) * h.r3a

theorem cyc_g0_mul_g5 (a : Fp12 R) (h : IsCyc12 ξ a) : a.c1.c2 * g0Defect ξ a = 0 := by
  unfold g0Defect
  linear_combination (a.c1.c1 * a.c0.c1) * h.r1a + (a.c1.c1 * a.c1.c2 * ξ + a.c0.c1) * h.r1b + (a.c1.c1 * a.c1.c0 - a.c0.c2) * h.r2a +
    (a.c1.c1 * a.c0.c2 * ξ + a.c1.c0) * h.r2b + (a.c0.c0 * a.c1.c1) * h.r3a + (a.c1.c1 ^ 2 * ξ + 1) * h.r3b

end fp12
end formulas

/-! ### decompression over a field (fp2 is one) -/

section backcyc
variable {F : Type} [Field F] [DecidableEq F] (hf ξ : F)

def fieldOps : FOps F := rOps (fun x => x⁻¹) (fun x => hf * x) (fun x => decide (x = 0))

local notation "fo" => fieldOps (F := F) hf
local notation "nor" => (fun t : F => ξ * t)

def NonZero12 (a : Fp12 F) : Prop :=
  ¬ (a.c0.c0 = 0 ∧ a.c0.c1 = 0 ∧ a.c0.c2 = 0 ∧ a.c1.c0 = 0 ∧ a.c1.c1 = 0 ∧ a.c1.c2 = 0)

/-- Karabina's second relation holds for every non-zero solution of the cyclotomic relations (the zero vector satisfies
    the six relations but not this one: it is not in the group) -/
theorem cyc_g0 (a : Fp12 F) (h : IsCyc12 ξ a) (hne : NonZero12 a) :
    a.c0.c0 = ξ * (2 * a.c1.c1 ^ 2 + a.c1.c0 * a.c1.c2 - 3 * a.c0.c2 * a.c0.c1) + 1 := by
  have key : g0Defect ξ a = 0 := by
    by_contra hd
    have z3 : a.c0.c2 = 0 := (mul_eq_zero.mp (cyc_g0_mul_g3 ξ a h)).resolve_right hd
    have z1 : a.c1.c1 = 0 := (mul_eq_zero.mp (cyc_g0_mul_g1 ξ a h)).resolve_right hd
    have z4 : a.c0.c1 = 0 := (mul_eq_zero.mp (cyc_g0_mul_g4 ξ a h)).resolve_right hd
    have z5 : a.c1.c2 = 0 := (mul_eq_zero.mp (cyc_g0_mul_g5 ξ a h)).resolve_right hd
    have e3 := h.r3a
    rw [z3, z1, z4, z5] at e3
    have z2 : a.c1.c0 = 0 := by
      have : a.c1.c0 ^ 2 = 0 := by linear_combination -e3
      exact pow_eq_zero_iff (two_ne_zero) |>.mp this
    have e1 := h.r1a
    rw [z3, z1, z4, z5, z2] at e1
    have : a.c0.c0 * (a.c0.c0 - 1) = 0 := by linear_combination -e1
    rcases mul_eq_zero.mp this with z0 | z0
    · exact hne ⟨z0, z4, z3, z2, z1, z5⟩
    · apply hd
      unfold g0Defect
      rw [z3, z1, z4, z5, z2]
      linear_combination z0
  unfold g0Defect at key
  linear_combination key

omit [DecidableEq F] in
/-- regular case g2 ≠ 0: Karabina's first relation solved for g1, in the shape the formula computes the quotient -/
theorem cyc_g1_regular (h2 : (2 : F) ≠ 0) (a : Fp12 F) (h : IsCyc12 ξ a) (hg2 : a.c1.c0 ≠ 0) :
    (ξ * (a.c1.c2 * a.c1.c2) + (a.c0.c1 * a.c0.c1 - a.c0.c2 + (a.c0.c1 * a.c0.c1 - a.c0.c2) + a.c0.c1 * a.c0.c1)) *
      (a.c1.c0 + a.c1.c0 + (a.c1.c0 + a.c1.c0))⁻¹ = a.c1.c1 := by
  have h4 : a.c1.c0 + a.c1.c0 + (a.c1.c0 + a.c1.c0) ≠ 0 := by
    have : a.c1.c0 + a.c1.c0 + (a.c1.c0 + a.c1.c0) = 2 * 2 * a.c1.c0 := by ring
    rw [this]; exact mul_ne_zero (mul_ne_zero h2 h2) hg2
  rw [mul_inv_eq_iff_eq_mul₀ h4]
  linear_combination -(cyc_g1 ξ a h)

/-- `fp12BackCycOld` (the formula of /repo before commit 62d0ef0, finding C10-3) on the identity presented as the element 1 -/
theorem fp12BackCycOld_one : fp12BackCycOld fo nor true ⟨⟨1, 0, 0⟩, ⟨0, 0, 0⟩⟩ = ⟨⟨1, 0, 0⟩, ⟨0, 0, 0⟩⟩ := by
  refine Fp12.ext' ?_ rfl rfl rfl ?_ rfl <;>
  simp [fp12BackCycOld, fieldOps]

/-- `fp12BackCycOld` (the formula of /repo before commit ebef3ca, finding C10-8) in the exceptional case g2 = 0, g3 ≠ 0: it
    computes (ξ·g5² + 3·(2·g4·g5) − 2·g3)/g3 for g1, which is the coefficient of a only if g4·(4·g5 − 3·g4) = 0; the value of
    the subgroup element is 2·g4·g5/g3 (`cyc_g1_exc`). -/
theorem fp12BackCycOld_exc_iff (a x : Fp12 F) (h : IsCyc12 ξ a)
    (h01 : x.c0.c1 = a.c0.c1) (h02 : x.c0.c2 = a.c0.c2) (h10 : x.c1.c0 = a.c1.c0) (h12 : x.c1.c2 = a.c1.c2)
    (hg2 : a.c1.c0 = 0) (hg3 : a.c0.c2 ≠ 0) :
    (fp12BackCycOld fo nor false x).c1.c1 = a.c1.c1 ↔ a.c0.c1 * (4 * a.c1.c2 - 3 * a.c0.c1) = 0 := by
  have hg1 := cyc_g1 ξ a h
  have hex := cyc_g1_exc ξ a h hg2
  rw [hg2] at hg1
  simp only [fp12BackCycOld, fieldOps, rOps_isZero, rOps_add, rOps_sub, rOps_mul, rOps_sqr, rOps_dbl, rOps_inv, rOps_one, h01, h02, h10, h12,
    decide_eq_true_eq, hg2, if_true, if_false, Bool.false_eq_true]
  rw [mul_inv_eq_iff_eq_mul₀ hg3]
  constructor
  · intro e; linear_combination e + hg1 + hex
  · intro e; linear_combination e - hg1 - hex

/-- in every branch and for every input: g0 is Karabina's second relation at whatever the formula settled on for g1 -/
theorem fp12BackCyc_c00 (x : Fp12 F) :
    (fp12BackCyc fo nor x).c0.c0 =
      ξ * (2 * (fp12BackCyc fo nor x).c1.c1 ^ 2 + x.c1.c0 * x.c1.c2 - 3 * x.c0.c2 * x.c0.c1) + 1 := by
  simp only [fp12BackCyc, fieldOps, rOps_add, rOps_sub, rOps_mul, rOps_sqr, rOps_dbl, rOps_one]
  ring

/-! #### the identity case of decompression: all four retained coefficients vanish

−3 is assumed a square: in fp2 every element of the prime field is one. -/

theorem cyc_g2g3_zero (h3 : (3 : F) ≠ 0) (hns : ∀ y : F, y ^ 2 ≠ ξ) (ω : F) (hω : ω ^ 2 = -3)
    (a : Fp12 F) (h : IsCyc12 ξ a) (hg2 : a.c1.c0 = 0) (hg3 : a.c0.c2 = 0) : a.c0.c1 = 0 ∧ a.c1.c2 = 0 := by
  have hg1 := cyc_g1 ξ a h
  rw [hg2, hg3] at hg1
  have e : ξ * a.c1.c2 ^ 2 + 3 * a.c0.c1 ^ 2 = 0 := by linear_combination -hg1
  by_cases h5 : a.c1.c2 = 0
  · rw [h5] at e
    have : a.c0.c1 ^ 2 = 0 := by
      have : 3 * a.c0.c1 ^ 2 = 0 := by linear_combination e
      exact (mul_eq_zero.mp this).resolve_left h3
    exact ⟨pow_eq_zero_iff (two_ne_zero) |>.mp this, h5⟩
  · exfalso
    apply hns (ω * a.c0.c1 * (a.c1.c2)⁻¹)
    have : ξ * a.c1.c2 ^ 2 = (ω * a.c0.c1) ^ 2 := by
      rw [mul_pow, hω]; linear_combination e
    rw [mul_pow, ← this, inv_pow, mul_assoc, mul_inv_cancel₀ (pow_ne_zero 2 h5), mul_one]

theorem cyc_compressed_zero (h2 : (2 : F) ≠ 0) (hns : ∀ y : F, y ^ 2 ≠ ξ) (ω : F) (hω : ω ^ 2 = -3)
    (a : Fp12 F) (h : IsCyc12 ξ a) (hne : NonZero12 a)
    (z2 : a.c1.c0 = 0) (z3 : a.c0.c2 = 0) (z4 : a.c0.c1 = 0) (z5 : a.c1.c2 = 0) : a.c0.c0 = 1 ∧ a.c1.c1 = 0 := by
  have e1 := h.r1a; have e2 := h.r1b
  rw [z2, z3, z4, z5] at e1 e2
  have hg1 : a.c1.c1 = 0 := by
    by_contra hn
    have hg0 : 2 * a.c0.c0 + 1 = 0 := by
      have : a.c1.c1 * (2 * a.c0.c0 + 1) = 0 := by linear_combination -e2
      exact (mul_eq_zero.mp this).resolve_left hn
    -- then 4·ξ·g1² = −3, so ξ = (ω/(2·g1))²
    have e : 4 * ξ * a.c1.c1 ^ 2 = ω ^ 2 := by
      rw [hω]; linear_combination (-4 : F) * e1 + (3 - 2 * a.c0.c0) * hg0
    apply hns (ω * (2 * a.c1.c1)⁻¹)
    have h2g : (2 * a.c1.c1) ≠ 0 := mul_ne_zero h2 hn
    field_simp
    linear_combination -e
  refine ⟨?_, hg1⟩
  rw [hg1] at e1
  have : a.c0.c0 * (a.c0.c0 - 1) = 0 := by linear_combination -e1
  rcases mul_eq_zero.mp this with z0 | z0
  · exact absurd ⟨z0, z4, z3, z2, hg1, z5⟩ hne
  · linear_combination z0

end backcyc

section frobenius
variable {K : Type} [CommRing K] (conj : K →+* K) (γ : K)

/-- the p²-power map on coordinates, abstractly: K any commutative ring with a ring endomorphism `conj` (the p²-power map
    on fp4), α = a + b·w + c·w² ↦ conj a + γ·conj b·w + γ²·conj c·w², which is the p²-power map when γ = ξ^((p²−1)/6).
    `cyclotomic_relations` of Props/C10.lean: α·φ(φ(α)) = φ(α) is equivalent to the three Granger–Scott relations. -/
def frobQ (x : V3 K) : V3 K := ⟨conj x.c0, γ * conj x.c1, γ ^ 2 * conj x.c2⟩

end frobenius

/-! ## Part C: the stacked model -/

section partC
variable {E S : Type} [CommRing S] {o : FOps E} {ev : E → S} {half : S}

/-- evaluation of a pair at x, meant for a root x of X² − ν in S (`ev3`: of a triple, at a root of X³ − ν) -/
def ev2 (ev : E → S) (x : S) (a : V2 E) : S := ev a.c0 + ev a.c1 * x
def ev3 (ev : E → S) (x : S) (a : V3 E) : S := ev a.c0 + ev a.c1 * x + ev a.c2 * (x * x)

theorem quadArt_ev (nor : E → E) (ν x : S) (hn : ∀ a, ev (nor a) = ν * ev a) (hx : x * x = ν) (a : V2 E) :
    ev2 ev x (quadArt nor a) = x * ev2 ev x a := by
  simp only [ev2, quadArt, hn]
  linear_combination (-(ev a.c1)) * hx

theorem cubArt_ev (nor : E → E) (ν x : S) (hn : ∀ a, ev (nor a) = ν * ev a) (hx : x * x * x = ν) (a : V3 E) :
    ev3 ev x (cubArt nor a) = x * ev3 ev x a := by
  simp only [ev3, cubArt, hn]
  linear_combination (-(ev a.c2)) * hx

theorem fp2MulArt_ev (h : OpsHom o ev half) (q : Int) (x : S) (hx : x * x = (q : S)) (a : V2 E) :
    ev2 ev x (fp2MulArt o q a) = x * ev2 ev x a :=
  quadArt_ev (mulQnr o q) (q : S) x (h.mulQnr q) hx a

theorem half_spec (p : Nat) (hodd : p % 2 = 1) : 2 * (((p + 1) / 2 : Nat) : ZMod p) = 1 := by
  have : 2 * ((p + 1) / 2) = p + 1 := by omega
  rw [← Nat.cast_ofNat (R := ZMod p), ← Nat.cast_mul, this, Nat.cast_add, ZMod.natCast_self, zero_add, Nat.cast_one]

theorem OpsHom.comp {S' : Type} [CommRing S'] (h : OpsHom o ev half) (φ : S →+* S') :
    OpsHom o (fun a => φ (ev a)) (φ half) where
  zero := (congrArg φ h.zero).trans φ.map_zero
  one := (congrArg φ h.one).trans φ.map_one
  add a b := (congrArg φ (h.add a b)).trans (φ.map_add _ _)
  sub a b := (congrArg φ (h.sub a b)).trans (φ.map_sub _ _)
  mul a b := (congrArg φ (h.mul a b)).trans (φ.map_mul _ _)
  neg a := (congrArg φ (h.neg a)).trans (φ.map_neg _)
  sqr a := (congrArg φ (h.sqr a)).trans (φ.map_mul _ _)
  dbl a := (congrArg φ (h.dbl a)).trans (φ.map_add _ _)
  hlv a := (congrArg φ (h.hlv a)).trans (φ.map_mul _ _)

/-- the constant fp2_mul_nor multiplies by, as an element of S (x = the image of the adjoined root i) -/
def norConstS (x : S) (mod8 qnr2 : Nat) : S :=
  if mod8 = 1 ∨ mod8 = 5 then x
  else if mod8 = 3 ∧ qnr2 = 1 then 1 + x
  else 2 ^ Nat.log2 qnr2 + x

/-! ### the formulas coefficientwise under an `OpsHom`

A multiplication or squaring formula over a record with `OpsHom` returns coefficients whose images (`map2 ev`, `map3 ev`)
are the closed form `quadProd` / `cubProd` of the images. With `ev = id` that is the formula over a ring (Props/C10.lean
§2); followed by `ev2_quadProd` / `ev3_cubProd` (the closed forms are multiplicative under evaluation at a root) it is
the stacked model (§4). -/

def map2 (f : E → S) (a : V2 E) : V2 S := ⟨f a.c0, f a.c1⟩
def map3 (f : E → S) (a : V3 E) : V3 S := ⟨f a.c0, f a.c1, f a.c2⟩

theorem ev2_quadProd (ν x : S) (hx : x * x = ν) (a b : V2 S) :
    ev2 id x (quadProd ν a b) = ev2 id x a * ev2 id x b := by
  simp only [ev2, quadProd, id]
  linear_combination (-(a.c1 * b.c1)) * hx

theorem ev3_cubProd (ν x : S) (hx : x * x * x = ν) (a b : V3 S) :
    ev3 id x (cubProd ν a b) = ev3 id x a * ev3 id x b := by
  simp only [ev3, cubProd, id]
  linear_combination (-(a.c1 * b.c2 + a.c2 * b.c1) - a.c2 * b.c2 * x) * hx

theorem ev2_fp2NorConst (x : S) (mod8 qnr2 : Nat) : ev2 id x (fp2NorConst mod8 qnr2) = norConstS x mod8 qnr2 := by
  unfold fp2NorConst norConstS
  split_ifs <;> simp [ev2]

section hom
variable (h : OpsHom o ev half)
include h

theorem OpsHom.map_fp2Mul (q : Int) (hq : q ≤ -1) (a b : V2 E) :
    map2 ev (fp2Mul o q a b) = quadProd (q : S) (map2 ev a) (map2 ev b) := by
  apply V2.ext' <;>
  simp only [map2, fp2Mul, quadProd, h.add, h.sub, h.mul, h.iter_sub, h.iter_add, negLoop_cast hq,
    posLoop_zero (hq.trans (by decide))] <;>
  push_cast <;> ring

theorem OpsHom.map_fp2Sqr (q : Int) (hq : q ≤ -1) (a : V2 E) :
    map2 ev (fp2Sqr o q a) = quadProd (q : S) (map2 ev a) (map2 ev a) := by
  have hp : posLoop q = 0 := posLoop_zero (hq.trans (by decide))
  unfold fp2Sqr
  by_cases h1 : q = -1
  · apply V2.ext' <;>
    simp only [map2, quadProd, h.add, h.sub, h.mul, h.dbl, h.iter_sub, h.iter_add, negLoop_cast hq, hp, if_pos h1] <;>
    subst h1 <;> push_cast <;> ring
  · apply V2.ext' <;>
    simp only [map2, quadProd, h.add, h.sub, h.mul, h.dbl, h.iter_sub, h.iter_add, negLoop_cast hq, hp, if_neg h1] <;>
    push_cast <;> ring

theorem OpsHom.map_fp2MulArt (q : Int) (a : V2 E) :
    map2 ev (fp2MulArt o q a) = quadProd (q : S) (map2 ev a) ⟨0, 1⟩ := by
  apply V2.ext' <;> simp only [map2, fp2MulArt_eq_quadArt, quadArt, quadProd, h.mulQnr] <;> ring

theorem OpsHom.map_iter_v2Dbl (a : V2 E) : ∀ n : Nat,
    map2 ev (iter (v2Dbl o) n a) = ⟨2 ^ n * ev a.c0, 2 ^ n * ev a.c1⟩
  | 0 => by simp [iter, map2]
  | n + 1 => by
    rw [iter, OpsHom.map_iter_v2Dbl _ n]
    apply V2.ext' <;> simp only [v2Dbl, h.dbl] <;> ring

/-- `h3`: the branch p ≡ 3 (mod 8), qnr2 = 1 returns (a0 − a1, a0 + a1), which is a·(1 + i) only when i² = −1 -/
theorem OpsHom.map_fp2MulNor (q : Int) (mod8 qnr2 : Nat) (a r : V2 E) (hr : fp2MulNor o q mod8 qnr2 a = some r)
    (h3 : mod8 = 3 → qnr2 = 1 → q = -1) :
    map2 ev r = quadProd (q : S) (map2 ev a) (fp2NorConst mod8 qnr2) := by
  unfold fp2NorConst
  rcases fp2MulNor_cases o q mod8 qnr2 a r hr with ⟨hm, rfl⟩ | ⟨hm, hq2, rfl⟩ | ⟨hm1, hm3, rfl⟩
  · rw [if_pos hm]
    exact h.map_fp2MulArt q a
  · rw [if_neg (by omega), if_pos ⟨hm, hq2⟩]
    have hq1 := h3 hm hq2
    subst hq1
    apply V2.ext' <;> simp only [map2, quadProd, h.add, h.neg] <;> push_cast <;> ring
  · rw [if_neg hm1, if_neg hm3]
    have e1 := h.map_iter_v2Dbl a (Nat.log2 qnr2)
    have e2 := h.map_fp2MulArt q a
    simp only [map2, quadProd, V2.mk.injEq] at e1 e2
    apply V2.ext' <;> simp only [map2, v2Add, quadProd, h.add, e1.1, e1.2, e2.1, e2.2] <;> ring

theorem OpsHom.map_fp3Mul (c : Int) (a b : V3 E) :
    map3 ev (fp3Mul o c a b) = cubProd (c : S) (map3 ev a) (map3 ev b) := by
  apply V3.ext' <;> simp only [map3, fp3Mul, cubProd, h.mulCnr, h.add, h.sub, h.mul] <;> ring

theorem OpsHom.map_fp3Sqr (c : Int) (hh : 2 * half = 1) (a : V3 E) :
    map3 ev (fp3Sqr o c a) = cubProd (c : S) (map3 ev a) (map3 ev a) := by
  apply V3.ext' <;> simp only [map3, fp3Sqr, cubProd, h.mulCnr, h.add, h.sub, h.mul, h.sqr, h.dbl, h.hlv]
  · ring
  · linear_combination (-((ev a.c0 + ev a.c2) ^ 2 + ev a.c1 ^ 2)) * hh
  · linear_combination ((ev a.c0 + ev a.c2) ^ 2 + ev a.c1 ^ 2) * hh

variable (nor : E → E) (ν : S) (hn : ∀ a, ev (nor a) = ν * ev a)
include hn

theorem OpsHom.map_quadMul (a b : V2 E) : map2 ev (quadMul o nor a b) = quadProd ν (map2 ev a) (map2 ev b) := by
  apply V2.ext' <;> simp only [map2, quadMul, quadProd, h.add, h.sub, h.mul, hn]
  ring

theorem OpsHom.map_quadSqr (a : V2 E) : map2 ev (quadSqr o nor a) = quadProd ν (map2 ev a) (map2 ev a) := by
  apply V2.ext' <;> simp only [map2, quadSqr, quadProd, h.add, h.sub, h.mul, h.dbl, hn] <;> ring

theorem OpsHom.map_cubMul (a b : V3 E) : map3 ev (cubMul o nor a b) = cubProd ν (map3 ev a) (map3 ev b) := by
  apply V3.ext' <;> simp only [map3, cubMul, cubProd, h.add, h.sub, h.mul, hn] <;> ring

theorem OpsHom.map_cubSqr (hh : 2 * half = 1) (a : V3 E) :
    map3 ev (cubSqr o nor a) = cubProd ν (map3 ev a) (map3 ev a) := by
  apply V3.ext' <;> simp only [map3, cubSqr, cubProd, h.add, h.sub, h.mul, h.sqr, h.dbl, h.hlv, hn]
  · ring
  · linear_combination (-((ev a.c0 + ev a.c2) ^ 2 + ev a.c1 ^ 2)) * hh
  · linear_combination ((ev a.c0 + ev a.c2) ^ 2 + ev a.c1 ^ 2) * hh

end hom

end partC

/-! ## loops -/

/-- value of a bit string with an implicit leading 1 -/
def bitsVal (bits : List Bool) : Nat := bits.foldl (fun acc b => 2 * acc + (if b then 1 else 0)) 1

/-! ### simultaneous inversion (Montgomery's trick, fpN_inv_sim) over a field

The two passes are those of Lemmas/SimInv for the multiplication of the field; the backward pass of the model appends
its outputs and multiplies the other way round. -/

section invsim
variable {F : Type} [Field F] [DecidableEq F] (hf : F)

@[simp] theorem fieldOps_mul (a b : F) : (fieldOps hf).mul a b = a * b := rfl
@[simp] theorem fieldOps_inv (a : F) : (fieldOps hf).inv a = a⁻¹ := rfl

theorem invSimPrefix_eq : ∀ (xs : List F) (acc : F), invSimPrefix (fieldOps hf) acc xs = SimInv.prods (· * ·) acc xs
  | [], _ => rfl
  | x :: xs, acc => by rw [invSimPrefix, SimInv.prods, invSimPrefix_eq xs]; rfl

theorem invSimBack_eq {rcs ra : List F} (hr : SimInv.Rel (· * ·) rcs ra) (u : F) (acc : List F) :
    invSimBack (fieldOps hf) rcs ra u ++ acc = SimInv.back (· * ·) rcs.tail ra u acc := by
  induction hr generalizing u acc with
  | base a0 => rfl
  | step P a rc ra _ ih =>
    conv_rhs => rw [List.tail_cons, SimInv.back]
    rw [invSimBack, List.append_assoc, ih, List.tail_cons, fieldOps_mul, fieldOps_mul, mul_comm P,
      List.singleton_append]

end invsim

end Relic.Lemmas.Fpx
