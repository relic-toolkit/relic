/-
The Miller loops of Model/PpMiller.lean over an abstract "Miller algebra": values in a commutative monoid F, running points
in an additive commutative group T, line functions `L2 t p` (tangent at t, at p) and `L t q p` (chord through t and q) that
return the line value together with the doubled / added point, which is the interface of pp_dbl_k12 / pp_add_k12. The loops
as coded compute the canonical recurrence `fRecM`, whose lines are taken at the integer multiples [n]Q and not at whatever
the running point happens to be; the invariant is that every running point is [n]Q for the common index n (`atIndex`).
That f_{s,Q} has divisor s(Q) − ([s]Q) − (s−1)(O), the link to bilinearity, is divisor theory and not proved.
-/
import Mathlib.Algebra.BigOperators.Group.List.Basic
import Mathlib.Algebra.Group.Basic
import Mathlib.Algebra.Module.Defs
import Mathlib.Tactic.Ring
import RelicVerif.Model.PpMiller
import RelicVerif.Lemmas.MulAlg

namespace Relic.Lemmas.PpMiller
open Relic.Model.PpMiller
open Relic.Model.MulAlg (bitsVal_foldl bitsVal_testBits_top)

variable {F T P : Type} [CommMonoid F] [AddCommGroup T]
variable (L2 : T → P → F) (L : T → T → P → F)

def algOps : MilOps F T P where
  mul a b := a * b
  sqr a := a * a
  dbl t p := (L2 t p, t + t)
  add t q p := (L t q p, t + q)
  neg t := -t

/-- the lines one digit contributes for one pair at index n -/
def lp (q : T) (p : P) (d : ℤ) (n : ℤ) : F :=
  L2 (n • q) p * (if d > 0 then L ((2 * n) • q) q p else if d < 0 then L ((2 * n) • q) (-q) p else 1)

def nNext (d n : ℤ) : ℤ := 2 * n + (if d > 0 then 1 else if d < 0 then -1 else 0)

/-- the canonical recurrence for a list of pairs (one pair: the Miller function f_{·,Q}(P)), most significant digit first:
    f ← f² · l_{[n]Q,[n]Q}(P), n ← 2n;  digit ±1: f ← f · l_{[n]Q,±Q}(P), n ← n ± 1 -/
def fRecM (pairs : List (T × P)) (ds : List ℤ) (st : F × ℤ) : F × ℤ :=
  ds.foldl (fun st d => (st.1 * st.1 * (pairs.map fun qp => lp L2 L qp.1 qp.2 d st.2).prod, nNext d st.2)) st

def atIndex (pairs : List (T × P)) (n : ℤ) : List (Pair T P) := pairs.map fun qp => (qp.1, qp.2, n • qp.1)

theorem zsmul_add_self (n : ℤ) (q : T) : n • q + n • q = (2 * n) • q := by rw [← add_zsmul]; congr 1; ring

theorem pairStep_alg (d : ℤ) (q : T) (p : P) (r : F) (n : ℤ) :
    pairStep (algOps L2 L) d q p r (n • q) = (r * lp L2 L q p d n, nNext d n • q) := by
  unfold pairStep lp nNext algOps
  simp only [zsmul_add_self]
  by_cases h1 : d > 0
  · simp only [h1, if_true, mul_assoc]
    congr 1
    rw [add_zsmul, one_zsmul]
  · by_cases h3 : d < 0
    · simp only [h1, h3, if_true, if_false, mul_assoc]
      congr 1
      rw [add_zsmul, neg_one_zsmul]
    · simp only [h1, h3, if_false, mul_one, add_zero]

/-- A pass over the pairs that multiplies a value `g q p` into r for every pair and moves every running point from [n]q to
    [k]q: the three traversals of the loops are such passes. -/
theorem pass_alg {trav : List (Pair T P) → F → F × List (Pair T P)} (g : T → P → F) (n k : ℤ)
    (hnil : ∀ r, trav [] r = (r, []))
    (hcons : ∀ q p rest r, trav ((q, p, n • q) :: rest) r =
      ((trav rest (r * g q p)).1, (q, p, k • q) :: (trav rest (r * g q p)).2))
    (pairs : List (T × P)) (r : F) :
    trav (atIndex pairs n) r = (r * (pairs.map fun qp => g qp.1 qp.2).prod, atIndex pairs k) := by
  induction pairs generalizing r with
  | nil => simp [atIndex, hnil]
  | cons qp rest ih =>
    have ih' := ih (r * g qp.1 qp.2)
    unfold atIndex at ih' ⊢
    simp only [List.map_cons, hcons, ih', List.prod_cons, mul_assoc]

theorem digitStep_alg (d : ℤ) (pairs : List (T × P)) (r : F) (n : ℤ) :
    digitStep (algOps L2 L) d (r, atIndex pairs n)
      = (r * r * (pairs.map fun qp => lp L2 L qp.1 qp.2 d n).prod, atIndex pairs (nNext d n)) :=
  pass_alg (fun q p => lp L2 L q p d n) n _ (fun _ => rfl)
    (fun q p rest r => by simp only [pairsStep, pairStep_alg]) pairs (r * r)

theorem loop_alg (ds : List ℤ) (pairs : List (T × P)) (r : F) (n : ℤ) :
    ds.foldl (fun st d => digitStep (algOps L2 L) d st) (r, atIndex pairs n)
      = ((fRecM L2 L pairs ds (r, n)).1, atIndex pairs (fRecM L2 L pairs ds (r, n)).2) := by
  induction ds generalizing r n with
  | nil => rfl
  | cons d ds ih =>
    simp only [List.foldl_cons, digitStep_alg, ih, fRecM]

theorem dblAll_alg (pairs : List (T × P)) (r : F) (n : ℤ) :
    dblAll (algOps L2 L) (atIndex pairs n) r
      = (r * (pairs.map fun qp => L2 (n • qp.1) qp.2).prod, atIndex pairs (2 * n)) :=
  pass_alg (fun q p => L2 (n • q) p) n _ (fun _ => rfl)
    (fun q p rest r => by simp only [dblAll, algOps, zsmul_add_self]) pairs r

theorem addAll_alg (neg : Bool) (pairs : List (T × P)) (r : F) (m : ℤ) :
    addAll (algOps L2 L) neg (atIndex pairs m) r
      = (r * (pairs.map fun qp => L (m • qp.1) (if neg then -qp.1 else qp.1) qp.2).prod,
         atIndex pairs (m + (if neg then -1 else 1))) :=
  pass_alg (fun q p => L (m • q) (if neg then -q else q) p) m _ (fun _ => rfl)
    (fun q p rest r => by
      cases neg <;> simp only [addAll, algOps, Bool.false_eq_true, if_false, if_true, add_zsmul, one_zsmul, neg_one_zsmul])
    pairs r

/-- all doublings, then all additions for a non-zero digit: the digit step without the squaring -/
theorem peeled_alg (d : ℤ) (pairs : List (T × P)) (r : F) (n : ℤ) (s : F × List (Pair T P))
    (hs : s = dblAll (algOps L2 L) (atIndex pairs n) r) :
    (if d > 0 then addAll (algOps L2 L) false s.2 s.1 else if d < 0 then addAll (algOps L2 L) true s.2 s.1 else s)
      = (r * (pairs.map fun qp => lp L2 L qp.1 qp.2 d n).prod, atIndex pairs (nNext d n)) := by
  unfold lp nNext
  rw [hs, dblAll_alg, List.prod_map_mul, ← mul_assoc]
  by_cases hpos : d > 0
  · simp only [hpos, if_true, addAll_alg, Bool.false_eq_true, if_false]
  · by_cases hneg : d < 0
    · simp only [hpos, hneg, if_true, if_false, addAll_alg]
    · simp only [hpos, hneg, if_false, List.map_const', List.prod_replicate, one_pow, mul_one, add_zero]

theorem milK12_alg (pairs : List (T × P)) (hp : pairs ≠ []) (naf : List ℤ) (top d1 : ℤ) (ds : List ℤ)
    (hn : naf.reverse = top :: d1 :: ds) :
    milK12 (algOps L2 L) pairs naf
      = some ((fRecM L2 L pairs (d1 :: ds) (1, 1)).1, atIndex pairs (fRecM L2 L pairs (d1 :: ds) (1, 1)).2) := by
  obtain ⟨⟨q0, p0⟩, rest, rfl⟩ := List.exists_cons_of_ne_nil hp
  -- the first doubling overwrites r: the peeled iteration is the doubling pass over all pairs from r = 1
  have h0 : ((dblAll (algOps L2 L) (rest.map fun x => (x.1, x.2, x.1)) ((algOps L2 L).dbl q0 p0).1).1,
      (q0, p0, ((algOps L2 L).dbl q0 p0).2) :: (dblAll (algOps L2 L) (rest.map fun x => (x.1, x.2, x.1)) ((algOps L2 L).dbl q0 p0).1).2)
      = dblAll (algOps L2 L) (atIndex ((q0, p0) :: rest) 1) 1 := by
    simp only [atIndex, List.map_cons, dblAll, algOps, one_zsmul, one_mul]
  unfold milK12
  simp only [hn]
  refine congrArg some ?_
  refine Eq.trans (congrArg (fun st => List.foldl (fun st d => digitStep (algOps L2 L) d st) st ds)
    (peeled_alg L2 L d1 _ 1 1 _ h0)) ?_
  rw [loop_alg]
  simp only [fRecM, List.foldl_cons, one_mul]

theorem fRecM_index (pairs : List (T × P)) (ds : List ℤ) (h : ∀ d ∈ ds, d = -1 ∨ d = 0 ∨ d = 1) (r : F) (n : ℤ) :
    (fRecM L2 L pairs ds (r, n)).2 = ds.foldl (fun acc d => 2 * acc + d) n :=
  List.foldl_rel (r := fun (st : F × ℤ) acc => st.2 = acc) rfl fun d hd st acc e => by
    subst e
    show nNext d st.2 = _
    unfold nNext
    rcases h d hd with rfl | rfl | rfl <;> simp

theorem eval_reverse (naf : List ℤ) :
    naf.reverse.foldl (fun acc d => 2 * acc + d) 0 = Relic.Model.Rec.eval 1 naf := by
  rw [List.foldl_reverse]
  unfold Relic.Model.Rec.eval
  induction naf with
  | nil => rfl
  | cons d ds ih => simp only [List.foldr_cons, ih]; ring

/-- the multi-pairing loop is the product of the single loops; any start values `fs`, which the induction needs -/
theorem fRecM_prod (pairs : List (T × P)) (ds : List ℤ) (fs : T × P → F) (n : ℤ) :
    (fRecM L2 L pairs ds ((pairs.map fs).prod, n)).1
      = (pairs.map fun qp => (fRecM L2 L [qp] ds (fs qp, n)).1).prod ∧
    ∀ qp, (fRecM L2 L [qp] ds (fs qp, n)).2 = (fRecM L2 L pairs ds ((pairs.map fs).prod, n)).2 := by
  induction ds generalizing fs n with
  | nil => exact ⟨rfl, fun _ => rfl⟩
  | cons d ds ih =>
    have step : (pairs.map fs).prod * (pairs.map fs).prod * (pairs.map fun qp => lp L2 L qp.1 qp.2 d n).prod
        = (pairs.map fun qp => fs qp * fs qp * lp L2 L qp.1 qp.2 d n).prod := by
      rw [List.prod_map_mul, List.prod_map_mul]
    have := ih (fun qp => fs qp * fs qp * lp L2 L qp.1 qp.2 d n) (nNext d n)
    simp only [fRecM, List.foldl_cons, List.map_cons, List.map_nil, List.prod_cons, List.prod_nil, mul_one] at this ⊢
    rw [step]
    exact this

theorem milLit_alg (pairs : List (T × P)) (r : F) (a : ℕ) :
    milLit (algOps L2 L) pairs r a
      = ((fRecM L2 L pairs ((List.range (Relic.Model.Rec.bitLen a - 1)).reverse.map fun i => if a.testBit i then (1 : ℤ) else 0) (r, 1)).1,
         atIndex pairs (fRecM L2 L pairs ((List.range (Relic.Model.Rec.bitLen a - 1)).reverse.map fun i => if a.testBit i then (1 : ℤ) else 0) (r, 1)).2) := by
  have h1 : (pairs.map fun x => (x.1, x.2, x.1)) = atIndex pairs 1 := by
    unfold atIndex; simp only [one_zsmul]
  unfold milLit
  simp only [h1]
  exact loop_alg L2 L _ pairs r 1

theorem bits_index (a : ℕ) (ha : a ≠ 0) :
    ((List.range (Relic.Model.Rec.bitLen a - 1)).reverse.map fun i => if a.testBit i then (1 : ℤ) else 0).foldl
      (fun acc d => 2 * acc + d) 1 = (a : ℤ) := by
  have hlen : Relic.Model.Rec.bitLen a - 1 = a.log2 := by unfold Relic.Model.Rec.bitLen; simp [ha]
  -- the digits are the bits below the leading one, read as a bit string most significant first
  have h := bitsVal_foldl ((List.range a.log2).reverse.map fun i => a.testBit i) 1
  rw [List.foldl_map] at h
  rw [hlen, List.foldl_map, h, mul_one]
  exact bitsVal_testBits_top a.log2 a (Nat.log2_self_le ha) Nat.lt_log2_self

end Relic.Lemmas.PpMiller
