/-
The approximation loop of bn_smb_jac (`inner`).  While the cofactor entries are bounded by 2^k and k + (steps left) + 2 ≤ w, the
two's-complement reinterpretations `wrapS` are the identity, so an iteration is one of three moves in exact arithmetic: the swap, the
subtract-and-halve, the strip of z trailing zeros.  `inner_induction` carries any invariant that the three moves preserve through the
loop; the determinant law (det' = ± 2^i · det) is its first instance, the true-pair invariant (NtSmbTrue) the second.
-/
import Mathlib.Tactic.Ring
import Mathlib.Tactic.Linarith
import RelicVerif.Model.NtSmb

namespace Relic.Lemmas.NtSmb
open Relic.Model.NtSmb

def Bd (B : ℤ) (st : Inner) : Prop :=
  -B ≤ st.ai ∧ st.ai ≤ B ∧ -B ≤ st.bi ∧ st.bi ≤ B ∧ -B ≤ st.ci ∧ st.ci ≤ B ∧ -B ≤ st.di ∧ st.di ≤ B

def det (st : Inner) : ℤ := st.ai * st.di - st.bi * st.ci

theorem wrapS_id {w : ℕ} (hw : 0 < w) {x : ℤ} (h1 : -(2 : ℤ) ^ (w - 1) ≤ x) (h2 : x < (2 : ℤ) ^ (w - 1)) : wrapS w x = x := by
  have hM : (2 : ℤ) ^ w = 2 * 2 ^ (w - 1) := by
    rw [← pow_succ']; congr 1; omega
  unfold wrapS
  simp only []
  by_cases hx : 0 ≤ x
  · rw [Int.emod_eq_of_lt hx (by omega), if_neg (by omega)]
  · have : x % (2 : ℤ) ^ w = x + 2 ^ w := by
      rw [← Int.add_emod_right, Int.emod_eq_of_lt (by omega) (by omega)]
    rw [this, if_pos (by omega)]
    omega

theorem two_pow_tz_dvd (n : ℕ) : 2 ^ tz n ∣ n := by
  induction n using Nat.strong_induction_on with
  | _ n ih =>
    unfold tz
    split
    · simp
    · next h0 =>
      split
      · next he =>
        rw [pow_succ']
        exact Nat.mul_dvd_of_dvd_div (Nat.dvd_of_mod_eq_zero he) (ih (n / 2) (by omega))
      · simp

theorem tzcnt_pos {w n : ℕ} (hw : 0 < w) (he : n % 2 = 0) : 1 ≤ tzcnt w n := by
  unfold tzcnt
  split
  · exact hw
  · next h => exact tz_pos h he

/-- `SWAP(n, d); SWAP(ai, ci); SWAP(bi, di); t ^= n & d` -/
def swapSt (st : Inner) : Inner :=
  { st with ai := st.ci, ci := st.ai, bi := st.di, di := st.bi, n := st.d, d := st.n, t := st.t ^^^ (st.d &&& st.n), swapped := true }

/-- `n = (n - d) >> 1; ai -= ci; bi -= di; ci += ci; di += di; t ^= d ^ (d >> 1)` -/
def subSt (st : Inner) : Inner :=
  { st with n := (st.n - st.d) >>> 1, ai := st.ai - st.ci, bi := st.bi - st.di, ci := st.ci + st.ci, di := st.di + st.di,
            t := st.t ^^^ (st.d ^^^ (st.d >>> 1)) }

/-- `t ^= (d ^ (d >> 1)) & (z << 1); ci <<= z; di <<= z; n >>= z` -/
def shlSt (z : ℕ) (st : Inner) : Inner :=
  { st with t := st.t ^^^ ((st.d ^^^ (st.d >>> 1)) &&& (z <<< 1)), ci := st.ci * 2 ^ z, di := st.di * 2 ^ z, n := st.n >>> z }

def oddSt (st : Inner) : Inner := subSt (if st.n < st.d then swapSt st else st)

theorem Bd.identity (n d t : ℕ) : Bd (2 ^ 0) { n := n, d := d, t := t, ai := 1, bi := 0, ci := 0, di := 1, swapped := false } := by
  unfold Bd
  dsimp only
  omega

theorem Bd.swap {B : ℤ} {st : Inner} (h : Bd B st) : Bd B (swapSt st) := by
  obtain ⟨a1, a2, b1, b2, c1, c2, d1, d2⟩ := h
  exact ⟨c1, c2, d1, d2, a1, a2, b1, b2⟩

theorem Bd.sub {B : ℤ} {st : Inner} (h : Bd B st) : Bd (2 * B) (subSt st) := by
  unfold Bd subSt at *
  dsimp only
  omega

theorem Bd.odd {B : ℤ} {st : Inner} (h : Bd B st) : Bd (2 * B) (oddSt st) := by
  unfold oddSt
  split
  · exact h.swap.sub
  · exact h.sub

theorem Bd.shl {B : ℤ} {st : Inner} (h : Bd B st) (z : ℕ) : Bd (B * 2 ^ z) (shlSt z st) := by
  obtain ⟨a1, a2, b1, b2, c1, c2, d1, d2⟩ := h
  have hz : (1 : ℤ) ≤ 2 ^ z := one_le_pow₀ (by norm_num)
  have hm : B ≤ B * 2 ^ z := le_mul_of_one_le_right (neg_le_self_iff.mp (a1.trans a2)) hz
  have hz0 : (0 : ℤ) ≤ 2 ^ z := zero_le_one.trans hz
  have hc1 := mul_le_mul_of_nonneg_right c1 hz0
  have hd1 := mul_le_mul_of_nonneg_right d1 hz0
  rw [neg_mul] at hc1 hd1
  exact ⟨(neg_le_neg hm).trans a1, a2.trans hm, (neg_le_neg hm).trans b1, b2.trans hm,
    hc1, mul_le_mul_of_nonneg_right c2 hz0, hd1, mul_le_mul_of_nonneg_right d2 hz0⟩

theorem Bd.wrap {w k : ℕ} {st : Inner} (h : Bd (2 ^ k) st) (hw : k + 2 ≤ w) :
    wrapS w st.ai = st.ai ∧ wrapS w st.bi = st.bi ∧ wrapS w st.ci = st.ci ∧ wrapS w st.di = st.di := by
  have hlt : (2 : ℤ) ^ k < 2 ^ (w - 1) := pow_lt_pow_right₀ (by norm_num) (by omega)
  have hw0 : 0 < w := by omega
  obtain ⟨a1, a2, b1, b2, c1, c2, d1, d2⟩ := h
  have hneg := neg_le_neg hlt.le
  exact ⟨wrapS_id hw0 (hneg.trans a1) (a2.trans_lt hlt), wrapS_id hw0 (hneg.trans b1) (b2.trans_lt hlt),
    wrapS_id hw0 (hneg.trans c1) (c2.trans_lt hlt), wrapS_id hw0 (hneg.trans d1) (d2.trans_lt hlt)⟩

theorem inner_zero (w fuel : ℕ) (st : Inner) : inner w fuel 0 st = st := by
  cases fuel <;> simp [inner]

theorem inner_odd {w k i : ℕ} {st : Inner} (f : ℕ) (hi : i ≠ 0) (hn : st.n % 2 = 1) (hb : Bd (2 ^ k) st) (hw : k + 3 ≤ w) :
    inner w (f + 1) i st = inner w f (i - 1) (oddSt st) := by
  have hb1 := hb.odd
  rw [← pow_succ'] at hb1
  obtain ⟨e1, e2, e3, e4⟩ := hb1.wrap hw
  rw [inner, if_neg hi, if_pos hn]
  unfold oddSt subSt swapSt at e1 e2 e3 e4 ⊢
  dsimp only at e1 e2 e3 e4 ⊢
  rw [e1, e2, e3, e4]

theorem inner_even {w k i : ℕ} {st : Inner} (f : ℕ) (hi : i ≠ 0) (hn : ¬ st.n % 2 = 1) (hb : Bd (2 ^ k) st)
    (hw : k + min i (tzcnt w st.n) + 2 ≤ w) :
    inner w (f + 1) i st = inner w f (i - min i (tzcnt w st.n)) (shlSt (min i (tzcnt w st.n)) st) := by
  have hb1 := hb.shl (min i (tzcnt w st.n))
  rw [← pow_add] at hb1
  obtain ⟨-, -, e3, e4⟩ := hb1.wrap hw
  rw [inner, if_neg hi, if_neg hn]
  unfold shlSt at e3 e4 ⊢
  dsimp only at e3 e4 ⊢
  rw [e3, e4]

theorem dvd_of_le_tzcnt {w z n : ℕ} (hz : z ≤ tzcnt w n) : 2 ^ z ∣ n := by
  unfold tzcnt at hz
  split at hz
  · next h => subst h; exact Nat.dvd_zero _
  · exact Nat.dvd_trans (Nat.pow_dvd_pow 2 hz) (two_pow_tz_dvd n)

/-- An invariant `P k j st` (k = steps consumed so far, j = steps still to come) that the odd move and the strip of z ≤ j trailing
    zeros preserve holds, with j = 0, after the loop; the cofactor bound 2^k is carried along (it is what makes the moves exact). -/
theorem inner_induction (w : ℕ) (P : ℕ → ℕ → Inner → Prop)
    (odd : ∀ k j st, P k (j + 1) st → st.n % 2 = 1 → P (k + 1) j (oddSt st))
    (even : ∀ k j z st, P k (j + z) st → 2 ^ z ∣ st.n → P (k + z) j (shlSt z st)) :
    ∀ (fuel i k : ℕ) (st : Inner), i ≤ fuel → k + i + 2 ≤ w → Bd (2 ^ k) st → P k i st →
      Bd (2 ^ (k + i)) (inner w fuel i st) ∧ P (k + i) 0 (inner w fuel i st) := by
  intro fuel
  induction fuel with
  | zero =>
    intro i k st hi _ hb hp
    obtain rfl := Nat.le_zero.mp hi
    exact ⟨hb, hp⟩
  | succ f ih =>
    intro i k st hi hw hb hp
    by_cases h0 : i = 0
    · subst h0
      rw [inner_zero]
      exact ⟨hb, hp⟩
    by_cases hn : st.n % 2 = 1
    · obtain ⟨j, rfl⟩ : ∃ j, i = j + 1 := Nat.exists_eq_succ_of_ne_zero h0
      rw [inner_odd f h0 hn hb (by omega), Nat.add_sub_cancel, ← Nat.add_assoc, Nat.add_right_comm]
      have hb1 := hb.odd
      rw [← pow_succ'] at hb1
      exact ih j (k + 1) _ (Nat.le_of_succ_le_succ hi) (by omega) hb1 (odd k j st hp hn)
    · have hz1 : 1 ≤ min i (tzcnt w st.n) := Nat.le_min.mpr
        ⟨Nat.one_le_iff_ne_zero.mpr h0, tzcnt_pos (by omega) (Nat.mod_two_ne_one.mp hn)⟩
      have hzi : min i (tzcnt w st.n) ≤ i := Nat.min_le_left _ _
      have hdvd : 2 ^ min i (tzcnt w st.n) ∣ st.n := dvd_of_le_tzcnt (Nat.min_le_right _ _)
      rw [inner_even f h0 hn hb (by omega)]
      generalize min i (tzcnt w st.n) = z at hz1 hzi hdvd
      obtain ⟨j, rfl⟩ : ∃ j, i = j + z := ⟨i - z, (Nat.sub_add_cancel hzi).symm⟩
      rw [Nat.add_sub_cancel, Nat.add_comm j z, ← Nat.add_assoc]
      have hb1 := hb.shl z
      rw [← pow_add] at hb1
      exact ih j (k + z) _ (by omega) (by omega) hb1 (even k j z st hp hdvd)

theorem det_oddSt (st : Inner) : (det (oddSt st)).natAbs = 2 * (det st).natAbs := by
  have h : ∀ s, det (subSt s) = 2 * det s := fun s => by
    unfold det subSt
    dsimp only
    ring
  unfold oddSt
  rw [h, Int.natAbs_mul]
  split
  · have : det (swapSt st) = -det st := by
      unfold det swapSt
      dsimp only
      ring
    rw [this, Int.natAbs_neg]
    rfl
  · rfl

theorem det_shlSt (z : ℕ) (st : Inner) : (det (shlSt z st)).natAbs = 2 ^ z * (det st).natAbs := by
  have : det (shlSt z st) = 2 ^ z * det st := by
    unfold det shlSt
    dsimp only
    ring
  rw [this, Int.natAbs_mul, Int.natAbs_pow]
  rfl

theorem inner_bd_det (w : ℕ) (fuel i k : ℕ) (st : Inner) (hi : i ≤ fuel) (hw : k + i + 2 ≤ w) (hb : Bd (2 ^ k) st) :
    Bd (2 ^ (k + i)) (inner w fuel i st) ∧
      (det (inner w fuel i st) = 2 ^ i * det st ∨ det (inner w fuel i st) = -(2 ^ i * det st)) := by
  have h := inner_induction w (fun _ j s => 2 ^ j * (det s).natAbs = 2 ^ i * (det st).natAbs)
    (fun _ j s hp _ => by rw [det_oddSt, ← hp, pow_succ]; ring)
    (fun _ j z s hp _ => by rw [det_shlSt, ← hp, pow_add]; ring)
    fuel i k st hi hw hb rfl
  refine ⟨h.1, Int.natAbs_eq_natAbs_iff.mp ?_⟩
  rw [Int.natAbs_mul, Int.natAbs_pow, ← one_mul (det _).natAbs]
  exact h.2

end Relic.Lemmas.NtSmb
