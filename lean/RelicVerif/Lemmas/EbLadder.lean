/-
The x-only López-Dahab ladder step of eb_mul_lodah over a field of characteristic two:
 * Mdouble: for P = (x, y) on the curve, x ≠ 0, x(2P) = x² + b/x² = (X⁴ + b Z⁴)/(X² Z²);
 * Madd: x(P1 + P2) + x(P1 - P2) = x1 x2/(x1 + x2)² for any two affine points with x1 ≠ x2, hence with x = x(P2 - P1) the
   projective pair Z = (X1 Z2 + X2 Z1)², X = x·Z + (X1 Z2)(X2 Z1) denotes x(P1 + P2).
(The group-level ladder invariant (R, R + P) is `mulLadder_spec` in Lemmas/MulAlg.lean.)
-/
import RelicVerif.Lemmas.EbFormulas

namespace Relic.Lemmas.EbLadder
open Relic.Lemmas.EbFormulas

set_option linter.unusedSectionVars false

variable {F : Type} [Field F] [CharP F 2] [DecidableEq F]

theorem mdouble_affine (a b x y : F) (hx : x ≠ 0) (h : y ^ 2 + x * y = x ^ 3 + a * x ^ 2 + b) :
    tangX a x y = x ^ 2 + b / x ^ 2 := by
  have hl := tangL_mul hx y
  rw [tangX, show x ^ 2 + b / x ^ 2 = (x ^ 4 + b) / x ^ 2 by field_simp, eq_div_iff (pow_ne_zero 2 hx)]
  generalize tangL x y = l at hl ⊢
  obtain rfl : y = l * x - x ^ 2 := by linear_combination -hl
  linear_combination h + (a * x ^ 2 + l * x ^ 3 + x ^ 3 - x ^ 4) * (CharTwo.two_eq_zero : (2 : F) = 0)

/-- Mdouble, projective form used by the code: Z' = X² Z², X' = X⁴ + b Z⁴ -/
theorem mdouble_projective (a b X Z y : F) (hX : X ≠ 0) (hZ : Z ≠ 0)
    (h : y ^ 2 + (X / Z) * y = (X / Z) ^ 3 + a * (X / Z) ^ 2 + b) :
    tangX a (X / Z) y = (X ^ 4 + b * Z ^ 4) / (X ^ 2 * Z ^ 2) := by
  rw [mdouble_affine a b (X / Z) y (div_ne_zero hX hZ) h]
  field_simp

theorem madd_affine (a x1 y1 x2 y2 : F) (hx : x1 ≠ x2) :
    chordX a x1 y1 x2 y2 + chordX a x1 y1 x2 (x2 + y2) = x1 * x2 / (x1 + x2) ^ 2 := by
  have hs : x1 + x2 ≠ 0 := add_ne_zero2 hx
  have hl := chordL_mul hs y1 y2
  have hl' := chordL_mul hs y1 (x2 + y2)
  rw [chordX, chordX, eq_div_iff (pow_ne_zero 2 hs)]
  generalize chordL x1 y1 x2 y2 = l at hl ⊢
  generalize chordL x1 y1 x2 (x2 + y2) = l' at hl' ⊢
  -- the two slopes differ by x2/(x1 + x2); squares and sums of equal terms vanish
  linear_combination (l * (x1 + x2) + y1 + y2 + (x1 + x2)) * hl + (l' * (x1 + x2) + (y1 + x2 + y2) + (x1 + x2)) * hl' +
    (a * (x1 + x2) ^ 2 + (x1 + x2) ^ 3 + x2 ^ 2 + (y1 + y2) ^ 2 + (y1 + y2) * (x1 + 2 * x2)) *
      (CharTwo.two_eq_zero : (2 : F) = 0)

/-- Madd, projective form used by the code: with x = x(P1 - P2) (= x(P2 - P1)), Z' = (X1 Z2 + X2 Z1)², X' = x·Z' + X1 Z2·X2 Z1 -/
theorem madd_projective (a X1 Z1 y1 X2 Z2 y2 : F) (hZ1 : Z1 ≠ 0) (hZ2 : Z2 ≠ 0) (hx : X1 / Z1 ≠ X2 / Z2) :
    chordX a (X1 / Z1) y1 (X2 / Z2) y2 =
      (chordX a (X1 / Z1) y1 (X2 / Z2) (X2 / Z2 + y2) * (X1 * Z2 + X2 * Z1) ^ 2 + (X1 * Z2) * (X2 * Z1)) / (X1 * Z2 + X2 * Z1) ^ 2 := by
  have h := madd_affine a (X1 / Z1) y1 (X2 / Z2) y2 hx
  have hd : X1 * Z2 + X2 * Z1 ≠ 0 := by
    intro h0
    apply hx
    rw [div_eq_div_iff hZ1 hZ2]
    have : X1 * Z2 = X2 * Z1 := CharTwo.add_eq_zero.mp h0
    exact this
  have hxx : X1 / Z1 * (X2 / Z2) / (X1 / Z1 + X2 / Z2) ^ 2 = (X1 * Z2) * (X2 * Z1) / (X1 * Z2 + X2 * Z1) ^ 2 := by
    field_simp
  rw [hxx] at h
  generalize chordX a (X1 / Z1) y1 (X2 / Z2) y2 = s at h ⊢
  generalize chordX a (X1 / Z1) y1 (X2 / Z2) (X2 / Z2 + y2) = d at h ⊢
  have hs : s = d + (X1 * Z2) * (X2 * Z1) / (X1 * Z2 + X2 * Z1) ^ 2 := by
    linear_combination h - d * (CharTwo.two_eq_zero : (2 : F) = 0)
  rw [hs]
  field_simp

end Relic.Lemmas.EbLadder
