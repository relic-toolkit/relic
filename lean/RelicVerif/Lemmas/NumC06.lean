/-
Number theory shared by the RSA-type schemes of properties C05 and C06: Fermat's theorem for every residue (zero included),
exponent cancellation modulo a product of two distinct primes, the recombination step of the Chinese remainder theorem in
Garner's form, and the executable extended-Euclid inverse of Spec/Curve.lean (`invEuclid`).
-/
import Mathlib.Data.Nat.GCD.Basic
import Mathlib.Data.Int.GCD
import Mathlib.Data.ZMod.Basic
import Mathlib.FieldTheory.Finite.Basic
import Mathlib.Data.Nat.ChineseRemainder
import Mathlib.Tactic.Ring
import RelicVerif.Lemmas.PowMod
import RelicVerif.Lemmas.ZModCast

namespace Relic.Lemmas.NumC06
open Relic.Spec.Curve (powMod powMod_eq invEuclid)

theorem zmod_pow_congr (p : Nat) [Fact p.Prime] (x : ZMod p) {a b : Nat} (ha : 0 < a) (hb : 0 < b) (h : a ≡ b [MOD p - 1]) :
    x ^ a = x ^ b := by
  by_cases h0 : x = 0
  · rw [h0, zero_pow ha.ne', zero_pow hb.ne']
  · have red : ∀ k, x ^ k = x ^ (k % (p - 1)) := fun k => by
      conv_lhs => rw [← Nat.div_add_mod k (p - 1), pow_add, pow_mul, ZMod.pow_card_sub_one_eq_one h0, one_pow, one_mul]
    rw [red a, red b, h]

theorem pow_modEq_of_modEq_pred {p a b : Nat} (hp : p.Prime) (h : a ≡ b [MOD p - 1]) (ha : 0 < a) (hb : 0 < b) (m : Nat) :
    m ^ a ≡ m ^ b [MOD p] := by
  have : Fact p.Prime := ⟨hp⟩
  rw [← ZMod.natCast_eq_natCast_iff, Nat.cast_pow, Nat.cast_pow]
  exact zmod_pow_congr p _ ha hb h

/-- what makes bn_mxp_crt with dp ≡ d, dq ≡ d return a^d mod pq -/
theorem int_pow_congr (p : Nat) [Fact p.Prime] (a : Int) (n1 n2 : Nat) (h1 : 1 ≤ n1) (h2 : 1 ≤ n2)
    (hmod : n1 ≡ n2 [MOD p - 1]) : a ^ n1 ≡ a ^ n2 [ZMOD p] := by
  rw [← ZMod.intCast_eq_intCast_iff, Int.cast_pow, Int.cast_pow]
  exact zmod_pow_congr p _ h1 h2 hmod

/-- for dP = d mod (p − 1), dQ of the CRT path; they must be positive: for p ∣ c the power c^0 = 1 is not c^d -/
theorem pow_mod_pred {p d : Nat} (hp : p.Prime) (hd : 0 < d % (p - 1)) (c : Nat) : c ^ (d % (p - 1)) ≡ c ^ d [MOD p] :=
  pow_modEq_of_modEq_pred hp (Nat.mod_modEq d _) hd (Nat.pos_of_ne_zero (by rintro rfl; simp at hd)) c

theorem modEq_mul_of_primes {p q a b : Nat} (hp : p.Prime) (hq : q.Prime) (hpq : p ≠ q)
    (h1 : a ≡ b [MOD p]) (h2 : a ≡ b [MOD q]) : a ≡ b [MOD p * q] :=
  (Nat.modEq_and_modEq_iff_modEq_mul ((Nat.coprime_primes hp hq).mpr hpq)).mp ⟨h1, h2⟩

theorem pow_modEq_self {p q k : Nat} (hp : p.Prime) (hq : q.Prime) (hpq : p ≠ q)
    (hk : k ≡ 1 [MOD Nat.lcm (p - 1) (q - 1)]) (hk0 : 0 < k) (m : Nat) : m ^ k ≡ m [MOD p * q] := by
  have key : ∀ s : Nat, s.Prime → s - 1 ∣ Nat.lcm (p - 1) (q - 1) → m ^ k ≡ m [MOD s] := fun s hs hd => by
    simpa using pow_modEq_of_modEq_pred hs (hk.of_dvd hd) hk0 Nat.one_pos m
  exact modEq_mul_of_primes hp hq hpq (key p hp (Nat.dvd_lcm_left _ _)) (key q hq (Nat.dvd_lcm_right _ _))

/-- the key equation written with a literal 1 on the right (it excludes the modulus 1) -/
theorem modEq_one_of_mod_eq_one {k L : Nat} (h : k % L = 1) : k ≡ 1 [MOD L] ∧ 0 < k := by
  have hL : L ≠ 1 := by rintro rfl; simp [Nat.mod_one] at h
  exact ⟨by rw [Nat.ModEq, h, Nat.one_mod_eq_one.2 hL], Nat.pos_of_ne_zero (by rintro rfl; simp at h)⟩

theorem one_lt_mul_primes {p q : Nat} (hp : p.Prime) (hq : q.Prime) : 1 < p * q :=
  Nat.lt_of_lt_of_le (by decide : 1 < 2 * 2) (Nat.mul_le_mul hp.two_le hq.two_le)

theorem powMod_roundtrip {p q e d : Nat} (hp : p.Prime) (hq : q.Prime) (hpq : p ≠ q)
    (hed : e * d ≡ 1 [MOD Nat.lcm (p - 1) (q - 1)]) (hed0 : 0 < e * d) (m : Nat) :
    powMod (powMod m d (p * q)) e (p * q) = m % (p * q) ∧ powMod (powMod m e (p * q)) d (p * q) = m % (p * q) := by
  simp only [powMod_eq, ← Nat.pow_mod, ← pow_mul]
  exact ⟨by rw [Nat.mul_comm d e]; exact pow_modEq_self hp hq hpq hed hed0 m, pow_modEq_self hp hq hpq hed hed0 m⟩

/-- Garner's recombination; how s ≡ (x mod p) − (x mod q) is made non-negative differs between `bn_mxp_crt` and RFC 8017 and is
    left to the caller -/
theorem garner_recombine (p q qi x s : Nat) (hp : 1 < p) (hq : 0 < q) (hqi : qi * q % p = 1)
    (hs : (s : ZMod p) = ((x % p : Nat) : ZMod p) - ((x % q : Nat) : ZMod p)) :
    x % q + s * qi % p * q = x % (p * q) := by
  have hcop : Nat.Coprime p q := by
    have h1 : Nat.gcd p q ∣ qi * q % p :=
      (Nat.dvd_mod_iff (Nat.gcd_dvd_left p q)).2 (Dvd.dvd.mul_left (Nat.gcd_dvd_right p q) qi)
    rw [hqi] at h1
    exact Nat.dvd_one.1 h1
  have hlt : x % q + s * qi % p * q < p * q := by
    have h1 : s * qi % p * q ≤ (p - 1) * q := Nat.mul_le_mul_right q (Nat.le_pred_of_lt (Nat.mod_lt _ (by omega)))
    have h2 := Nat.mod_lt x hq
    have h3 : p * q = (p - 1) * q + q := by rw [← Nat.succ_mul, Nat.succ_eq_add_one, Nat.sub_add_cancel hp.le]
    omega
  have hmq : x % q + s * qi % p * q ≡ x [MOD q] := by
    rw [Nat.ModEq, Nat.add_mul_mod_self_right, Nat.mod_mod]
  have hmp : x % q + s * qi % p * q ≡ x [MOD p] := by
    rw [← ZMod.natCast_eq_natCast_iff]
    push_cast
    rw [ZMod.natCast_mod (s * qi), Nat.cast_mul, hs, mul_assoc, ZModCast.cast_mul_eq_one hqi, ZMod.natCast_mod x p]
    ring
  rw [← (Nat.modEq_and_modEq_iff_modEq_mul hcop).1 ⟨hmp, hmq⟩, Nat.mod_eq_of_lt hlt]

theorem invEuclid_go_stop (f r0 : Nat) (s0 s1 : Int) : invEuclid.go (f + 1) r0 0 s0 s1 = s0 := by
  simp [invEuclid.go]

theorem invEuclid_go_step (f r0 r1 : Nat) (s0 s1 : Int) (h : r1 ≠ 0) :
    invEuclid.go (f + 1) r0 r1 s0 s1 = invEuclid.go f r1 (r0 % r1) s1 (s0 - (r0 / r1 : Nat) * s1) := by
  simp [invEuclid.go, h]

theorem mod_halve (a b : Nat) (hb : 0 < b) (hba : b ≤ a) : 2 * (a % b) < a := by
  have h1 := Nat.div_add_mod a b
  have h2 := Nat.mod_lt a hb
  have h3 : 0 < a / b := Nat.div_pos hba hb
  have h4 : b ≤ b * (a / b) := Nat.le_mul_of_pos_right b h3
  omega

/-- invariant of the extended Euclidean loop, in Z/mZ: sᵢ·x = rᵢ; the fuel 2k + 1 suffices for r₁ < 2^k since the
    remainder at least halves every two steps -/
theorem invEuclid_go_inv (m x : Nat) : ∀ (k fuel r0 r1 : Nat) (s0 s1 : Int), r1 < 2 ^ k → 2 * k + 1 ≤ fuel →
    (s0 : ZMod m) * x = r0 → (s1 : ZMod m) * x = r1 →
    ((invEuclid.go fuel r0 r1 s0 s1 : Int) : ZMod m) * x = (Nat.gcd r0 r1 : Nat) := by
  have step : ∀ (r0 r1 : Nat) (s0 s1 : Int), (s0 : ZMod m) * x = r0 → (s1 : ZMod m) * x = r1 →
      ((s0 - (r0 / r1 : Nat) * s1 : Int) : ZMod m) * x = (r0 % r1 : Nat) := by
    intro r0 r1 s0 s1 h0 h1
    have e : (r0 : ZMod m) = (r1 : ZMod m) * (r0 / r1 : Nat) + (r0 % r1 : Nat) := by
      exact_mod_cast congrArg (Nat.cast (R := ZMod m)) (Nat.div_add_mod r0 r1).symm
    rw [Int.cast_sub, Int.cast_mul, Int.cast_natCast, sub_mul, mul_assoc, h0, h1, e]
    ring
  have hgcd : ∀ a b : Nat, Nat.gcd a b = Nat.gcd b (a % b) := fun a b => by
    rw [Nat.gcd_comm a b, Nat.gcd_rec b a, Nat.gcd_comm]
  intro k
  induction k with
  | zero =>
    intro fuel r0 r1 s0 s1 hr hf h0 _
    obtain ⟨f, rfl⟩ : ∃ f, fuel = f + 1 := ⟨fuel - 1, by omega⟩
    obtain rfl : r1 = 0 := by simpa using hr
    rw [invEuclid_go_stop, Nat.gcd_zero_right]; exact h0
  | succ k ih =>
    intro fuel r0 r1 s0 s1 hr hf h0 h1
    obtain ⟨f, rfl⟩ : ∃ f, fuel = f + 1 + 1 := ⟨fuel - 2, by omega⟩
    by_cases hr1 : r1 = 0
    · subst hr1
      rw [invEuclid_go_stop, Nat.gcd_zero_right]; exact h0
    have h2 := step r0 r1 s0 s1 h0 h1
    rw [invEuclid_go_step _ _ _ _ _ hr1, hgcd r0 r1]
    by_cases hr2 : r0 % r1 = 0
    · rw [hr2, invEuclid_go_stop, Nat.gcd_zero_right]; exact h1
    have hlt : r0 % r1 < r1 := Nat.mod_lt _ (Nat.pos_of_ne_zero hr1)
    have hh := mod_halve r1 (r0 % r1) (Nat.pos_of_ne_zero hr2) hlt.le
    rw [invEuclid_go_step _ _ _ _ _ hr2, hgcd r1]
    refine ih f _ _ _ _ ?_ (by omega) h2 (step r1 (r0 % r1) s1 _ h1 h2)
    rw [pow_succ] at hr; omega

theorem invEuclid_mul_mod (m x : Nat) (hm : 1 < m) (hg : Nat.Coprime x m) : invEuclid m x * x % m = 1 := by
  have : NeZero m := ⟨by omega⟩
  have hinv := invEuclid_go_inv m x (Nat.log2 m + 1) (2 * Nat.log2 m + 4) (x % m) m 1 0 Nat.lt_log2_self (by omega)
    (by rw [Int.cast_one, one_mul, ZMod.natCast_mod]) (by rw [Int.cast_zero, zero_mul, ZMod.natCast_self])
  rw [show Nat.gcd (x % m) m = 1 by rw [← Nat.gcd_rec, Nat.gcd_comm]; exact hg] at hinv
  rw [← Nat.mod_eq_of_lt hm, ← ZMod.natCast_eq_natCast_iff', Nat.cast_mul, invEuclid, ← Int.cast_natCast (R := ZMod m),
    Int.toNat_of_nonneg (Int.emod_nonneg _ (by omega)), ZMod.intCast_mod]
  exact hinv

theorem coprime_of_cast_ne_zero {p b : Nat} [hp : Fact p.Prime] (hb : (b : ZMod p) ≠ 0) : Nat.Coprime b p := by
  rw [Nat.coprime_comm, hp.out.coprime_iff_not_dvd]
  exact fun hd => hb ((ZMod.natCast_eq_zero_iff b p).2 hd)

theorem cast_invEuclid (q : Nat) [hq : Fact q.Prime] (b : Nat) (hb : (b : ZMod q) ≠ 0) :
    ((invEuclid q b : Nat) : ZMod q) = (b : ZMod q)⁻¹ :=
  eq_inv_of_mul_eq_one_left (ZModCast.cast_mul_eq_one (invEuclid_mul_mod q b hq.out.one_lt (coprime_of_cast_ne_zero hb)))

theorem invEuclid_lt (m x : Nat) (hm : 0 < m) : invEuclid m x < m := by
  unfold invEuclid
  have hmpos : (0 : Int) < m := by exact_mod_cast hm
  have h1 := Int.emod_lt_of_pos (invEuclid.go (2 * Nat.log2 m + 4) (x % m) m 1 0) hmpos
  have h2 := Int.emod_nonneg (invEuclid.go (2 * Nat.log2 m + 4) (x % m) m 1 0) (by omega : (m : Int) ≠ 0)
  omega

end Relic.Lemmas.NumC06
