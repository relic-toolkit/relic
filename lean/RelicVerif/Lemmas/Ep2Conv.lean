/-
The ep2 point-encoding model (Model/Ep2Conv.lean). The sign rule of ep2_upk gives y and −y different bits; the rule that looks at c1
only (`fallback = false`: ep2_pck in /repo before commit cf3db1e) agrees with it only off c1 = 0. The decoder is an instance of the
framing of Lemmas/EpConv.lean.
-/
import RelicVerif.Model.Ep2Conv
import RelicVerif.Lemmas.EpConv
import RelicVerif.Lemmas.Ret

namespace Relic.Lemmas.Ep2Conv
open Relic.Model.Ep2Conv Relic.Spec.CurveX Relic.Lemmas.Codec

theorem half_neg (p y : Nat) (hodd : p % 2 = 1) (hy : y < p) :
    (if p - y > (p - 1) / 2 then 1 else 0) = 1 - (if y > (p - 1) / 2 then 1 else 0) := by
  split <;> split <;> omega

theorem signUpk_neg (p y0 y1 : Nat) (hodd : p % 2 = 1) (h0 : y0 < p) (h1 : y1 < p) (hne : y0 ≠ 0 ∨ y1 ≠ 0) :
    signUpk p [(p - y0) % p, (p - y1) % p] = 1 - signUpk p [y0, y1] := by
  unfold signUpk
  simp only [List.getD_cons_zero, List.getD_cons_succ]
  by_cases hy1 : y1 = 0
  · subst hy1
    have hy0 : y0 ≠ 0 := by simpa using hne
    rw [Nat.sub_zero, Nat.mod_self, Nat.mod_eq_of_lt (show p - y0 < p by omega), if_pos rfl, if_pos rfl]
    exact half_neg p y0 hodd h0
  · rw [Nat.mod_eq_of_lt (show p - y1 < p by omega), if_neg (show p - y1 ≠ 0 by omega), if_neg hy1]
    exact half_neg p y1 hodd h1

theorem signPck_fallback (p : Nat) (y : List Nat) : signPck true p y = signUpk p y := by simp [signPck]

theorem signPck_agrees_off_c1_zero (p : Nat) (y0 y1 : Nat) (h : y1 ≠ 0) : signPck false p [y0, y1] = signUpk p [y0, y1] := by
  simp [signPck, signUpk, h]

theorem beBytes_length (n k : Nat) : (beBytes n k).length = k := by simp [beBytes]

theorem beBytes_succ (n k : Nat) : beBytes n (k + 1) = ((n / 256 ^ k) % 256) :: beBytes n k := by
  simp [beBytes, List.range_succ]

theorem beVal_cons (a : Nat) (l : Bytes) : beVal (a :: l) = a * 256 ^ l.length + beVal l := by
  simpa [beVal] using be_foldl id l (0 * 256 + a)

theorem beVal_beBytes_mod (k n : Nat) : beVal (beBytes n k) = n % 256 ^ k :=
  be_val id id (fun _ _ => rfl) k n

theorem beVal_beBytes (k n : Nat) (h : n < 256 ^ k) : beVal (beBytes n k) = n :=
  (beVal_beBytes_mod k n).trans (Nat.mod_eq_of_lt h)

theorem elBytes_length (x : Ctx) (e : List Nat) : (elBytes x e).length = 2 * x.nb := by
  simp [elBytes, beBytes_length]; omega

theorem elRead_elBytes (x : Ctx) (c0 c1 : Nat) (h0 : c0 < x.c.d.p) (h1 : c1 < x.c.d.p) (hp : x.c.d.p ≤ 256 ^ x.nb) :
    elRead x (elBytes x [c0, c1]) = some [c0, c1] := by
  have hl := beBytes_length c0 x.nb
  simp only [elRead, elBytes_length, ne_eq, not_true_eq_false, if_false]
  simp only [elBytes, List.getD_cons_zero, List.getD_cons_succ, List.take_left' hl, List.drop_left' hl]
  rw [beVal_beBytes _ _ (by omega), beVal_beBytes _ _ (by omega), if_pos ⟨h0, h1⟩]

theorem writeBin_length (x : Ctx) (fb : Bool) (len : Nat) (P : PointX) (pack : Bool) (out : Bytes)
    (h : writeBin x fb len P pack = some out) : out.length = len := by
  revert out h
  unfold writeBin
  split
  · exact Ret.guard fun _ => Ret.ok (by simp)
  · exact Ret.ite (fun _ => Ret.guard fun _ => Ret.ok (by simp [elBytes_length]; omega))
      fun _ => Ret.guard fun _ => Ret.ok (by simp [elBytes_length]; omega)

/-- the `match` is ep2_size_bin, which the model does not define -/
theorem writeBin_error_iff (x : Ctx) (fb : Bool) (len : Nat) (P : PointX) (pack : Bool) :
    writeBin x fb len P pack = none ↔ len < (match P with | none => 1 | some _ => if pack then 2 * x.nb + 1 else 4 * x.nb + 1) := by
  unfold writeBin
  rcases P with _ | ⟨px, py⟩
  · simp
  · cases pack <;> simp

-- up to the names of the auxiliary functions `match` is compiled to, which `rfl` unfolds only without smart unfolding
set_option smartUnfolding false in
theorem readBin_eq (x : Ctx) : readBin x = frame 0 4 id (2 * x.nb) (elRead x) none
    (fun px bit => (upk x px bit).bind fun py => Option.guard (onCurve x.c) (some (px, py)))
    (fun px py => Option.guard (onCurve x.c) (some (px, py))) := by
  funext bin
  rw [frame, show 2 * (2 * x.nb) + 1 = 4 * x.nb + 1 by omega]
  rfl

theorem readBin_valid (x : Ctx) (bin : Bytes) (P : PointX) (h : readBin x bin = some P) : onCurve x.c P = true := by
  rw [readBin_eq] at h
  rcases frame_cases h with ⟨_, rfl⟩ | ⟨_, _, _, _, _, _, _, hc⟩ | ⟨_, _, _, _, _, _, _, _, _, hc⟩
  · rfl
  · obtain ⟨_, _, hc⟩ := Option.bind_eq_some_iff.mp hc
    obtain ⟨rfl, hon⟩ := Option.guard_eq_some_iff.mp hc
    exact hon
  · obtain ⟨rfl, hon⟩ := Option.guard_eq_some_iff.mp hc
    exact hon

end Relic.Lemmas.Ep2Conv
