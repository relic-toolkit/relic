/-
bn_divn_low (Knuth algorithm D as written in relic_bn_div_low.c, with its normalisation to a top digit
of w-1 bits, the 3-by-2 quotient-estimate loop, multiply-subtract and add-back) computes the Euclidean
quotient and remainder, for every digit width w ≥ 1.
-/
import RelicVerif.Lemmas.KnuthDStep

namespace Relic.Model

/-- invariant of the main loop when the quotient digits from `m` up are written: the dividend `a` has
    been reduced below `B^m * val b`, and quotient and dividend together still represent `N` -/
structure DivInv (B : Nat) (b : List Nat) (sa L N m : Nat) (st : List Nat × List Nat × DivTrace) :
    Prop where
  alen : st.1.length = sa
  adig : ∀ d ∈ st.1, d < B
  alt : val B st.1 < B ^ m * val B b
  qlen : st.2.1.length = L
  qdig : ∀ d ∈ st.2.1, d < B
  qlow : ∀ j, j < m → st.2.1.getD j 0 = 0
  total : val B st.2.1 * val B b + val B st.1 = N

theorem DivInv.step {B : Nat} {b : List Nat} {sa L N m : Nat} {st : List Nat × List Nat × DivTrace}
    (hB : 1 < B) (hb : ∀ d ∈ b, d < B) (hbt : 0 < b.getD (b.length - 1) 0)
    (hm : m + b.length < sa) (hmL : m < L) (h : DivInv B b sa L N (m + 1) st) :
    DivInv B b sa L N m (divStepS B sa b st (m + (b.length - 1) + 1)) := by
  have hinv := h.alt
  rw [Nat.pow_succ', Nat.mul_assoc] at hinv
  obtain ⟨s1, s2, s3, s4⟩ := divStepS_spec B hB b st m h.adig hb hbt (by rw [h.alen]; exact hm) hinv
  rw [h.alen] at s1 s2 s3 s4
  have hWpos : 0 < B ^ m * val B b := Nat.pos_of_ne_zero (by intro h0; rw [h0] at hinv; omega)
  have hdB : val B st.1 / (B ^ m * val B b) < B :=
    (Nat.div_lt_iff_lt_mul hWpos).2 (Nat.mul_comm B _ ▸ hinv)
  refine ⟨s4, s3, s1 ▸ Nat.mod_lt _ hWpos, ?_, ?_, ?_, ?_⟩
  · rw [s2, setAt, List.length_set]; exact h.qlen
  · rw [s2]; exact digs_set h.qdig _ _ hdB
  · intro j hj
    rw [s2, setAt, getD_set_ne _ _ _ _ (by omega)]
    exact h.qlow j (by omega)
  · have hvs := val_set B st.2.1 m (val B st.1 / (B ^ m * val B b)) (by rw [h.qlen]; exact hmL)
    rw [h.qlow m (Nat.lt_succ_self m), Nat.zero_mul, Nat.add_zero] at hvs
    rw [s2, s1, setAt, hvs, Nat.add_mul, Nat.mul_assoc, Nat.add_assoc, Nat.mul_comm _ (B ^ m * val B b),
      Nat.div_add_mod]
    exact h.total

theorem idxsOf_succ (m t : Nat) : idxsOf (m + 1) t = (m + t + 1) :: idxsOf m t := by
  simp [idxsOf, List.range_succ]

theorem DivInv.fold {B : Nat} {b : List Nat} {sa L N : Nat} (hB : 1 < B) (hb : ∀ d ∈ b, d < B)
    (hbt : 0 < b.getD (b.length - 1) 0) :
    ∀ m st, m + b.length ≤ sa → m ≤ L → DivInv B b sa L N m st →
      DivInv B b sa L N 0 ((idxsOf m (b.length - 1)).foldl (divStepS B sa b) st) := by
  intro m
  induction m with
  | zero => intro st _ _ h; exact h
  | succ m ih =>
    intro st hm hmL h
    rw [idxsOf_succ, List.foldl_cons]
    exact ih _ (by omega) (by omega) (h.step hB hb hbt (by omega) (by omega))

/-- any base, any divisor with a non-zero top digit: the amount of the normalising shift does not matter for correctness,
    only for the number of corrections -/
theorem divMain_spec (B : Nat) (hB : 1 < B) (L : Nat) (a b : List Nat) (ha : ∀ d ∈ a, d < B)
    (hb : ∀ d ∈ b, d < B) (hbt : 0 < b.getD (b.length - 1) 0)
    (hge : val B b ≤ val B a) (hL : a.length - b.length < L) :
    DivInv B b a.length L (val B a) 0 (divMain B L a b) := by
  have hB0 : 0 < B := by omega
  have hbne := length_pos_of_top hbt
  have hVpos := pow_le_val B b hbt
  have hAlt := val_lt B a ha
  have hab : b.length ≤ a.length := by
    refine Nat.le_of_not_lt fun hcon => ?_
    have := Nat.pow_le_pow_right hB0 (show a.length ≤ b.length - 1 by omega)
    omega
  unfold divMain
  simp only []
  generalize hm : a.length - 1 - (b.length - 1) = m
  have hml : a.length = m + b.length := by omega
  have hmL : m < L := by rwa [hml, Nat.add_sub_cancel] at hL
  have hbshv := val_replicate_zero_append B m b
  -- `val a < B ^ a.length ≤ B * (B ^ m * val b)`: the first loop runs fewer than `B` times
  have hfuel : val B a < B * val B (List.replicate m 0 ++ b) := by
    have e : B ^ a.length = B ^ m * (B * B ^ (b.length - 1)) := by
      rw [← Nat.pow_succ', Nat.succ_eq_add_one, Nat.sub_add_cancel hbne, ← Nat.pow_add, ← hml]
    rw [hbshv, Nat.mul_left_comm]
    exact Nat.lt_of_lt_of_le (e ▸ hAlt) (Nat.mul_le_mul_left _ (Nat.mul_le_mul_left B hVpos))
  obtain ⟨mm, t1, t2, t3, t4, t5, t6⟩ := divTopLoop_spec B hB _
    (digs_append (digs_replicate_zero hB0 m) hb) B a 0
    (by rw [List.length_append, List.length_replicate]; exact hml) ha hfuel
    (Nat.le_of_eq (Nat.zero_add B))
  rw [hbshv] at t3 t4
  generalize divTopLoop B (List.replicate m 0 ++ b) B a 0 = top at t1 t2 t3 t4 t5 t6 ⊢
  rw [Nat.zero_add] at t1 t2
  have hq0 := val_set B (List.replicate L 0) m top.2 (by rw [List.length_replicate]; exact hmL)
  rw [val_replicate_zero, getD_replicate_zero, Nat.zero_mul, Nat.add_zero, Nat.zero_add] at hq0
  exact DivInv.fold hB hb hbt m _ (Nat.le_of_eq hml.symm) (Nat.le_of_lt hmL)
    ⟨t6, t5, t4, by rw [setAt, List.length_set, List.length_replicate],
      digs_set (digs_replicate_zero hB0 _) _ _ (t1 ▸ t2),
      fun j hj => by rw [setAt, getD_set_ne _ _ _ _ (Nat.ne_of_lt hj), getD_replicate_zero],
      by rw [setAt, hq0, t1, Nat.mul_assoc]; exact t3 ▸ Nat.add_comm _ _⟩

/-- what the proof needs of normalisation: both operands are scaled by the same power of two and the
    divisor keeps a non-zero top digit -/
structure Normed (w s : Nat) (a0 b0 an bn : List Nat) : Prop where
  lt : s < w
  vala : val (2 ^ w) an = 2 ^ s * val (2 ^ w) a0
  valb : val (2 ^ w) bn = 2 ^ s * val (2 ^ w) b0
  diga : ∀ d ∈ an, d < 2 ^ w
  digb : ∀ d ∈ bn, d < 2 ^ w
  lena : a0.length ≤ an.length ∧ an.length ≤ a0.length + 1
  lenb : b0.length ≤ bn.length ∧ bn.length ≤ b0.length + 1
  top : 0 < bn.getD (bn.length - 1) 0

theorem normAB_spec (w : Nat) (hw : 0 < w) (a0 b0 : List Nat) (hb0 : b0 ≠ [])
    (hbt : b0.getLast? ≠ some 0) (hda : ∀ d ∈ a0, d < 2 ^ w) (hdb : ∀ d ∈ b0, d < 2 ^ w) :
    Normed w (normOf w b0) a0 b0 (normAB w a0 b0).1 (normAB w a0 b0).2 := by
  have hl : 0 < b0.length := List.length_pos_iff.mpr hb0
  have hT0 := top_pos_of_getLast b0 hb0 hbt
  unfold normAB normOf
  by_cases h : nbOf w b0 < w - 1
  · rw [if_pos h, if_pos h]
    obtain ⟨sa1, sa2, sa3, sa4, _⟩ := shlN_spec w (w - 1 - nbOf w b0) (by omega) a0 hda
    obtain ⟨sb1, sb2, sb3, sb4, sb5⟩ := shlN_spec w (w - 1 - nbOf w b0) (by omega) b0 hdb
    exact ⟨by omega, sa1, sb1, sa2, sb2, ⟨sa3, sa4⟩, ⟨sb3, sb4⟩,
      top_pos_of_pow_le _ (Nat.two_pow_pos w) _ sb2 (Nat.lt_of_lt_of_le hl sb3) (sb5 (Nat.le_trans
        (pow_le_val _ b0 hT0) (sb1 ▸ Nat.le_mul_of_pos_left _ (Nat.two_pow_pos _))))⟩
  · rw [if_neg h, if_neg h]
    exact ⟨hw, (Nat.one_mul _).symm, (Nat.one_mul _).symm, hda, hdb,
      ⟨Nat.le_refl _, Nat.le_succ _⟩, ⟨Nat.le_refl _, Nat.le_succ _⟩, hT0⟩

theorem divnLow_core (w : Nat) (hw : 0 < w) (a b : List Nat)
    (hab : b.length ≤ a.length) (hb0 : b ≠ []) (hbt : b.getLast? ≠ some 0)
    (hda : ∀ d ∈ a, d < 2 ^ w) (hdb : ∀ d ∈ b, d < 2 ^ w)
    (hge : val (2 ^ w) b ≤ val (2 ^ w) a) :
    let r := divnLow w a b
    val (2 ^ w) r.1 * val (2 ^ w) b + val (2 ^ w) r.2.1 = val (2 ^ w) a ∧ val (2 ^ w) r.2.1 < val (2 ^ w) b
    ∧ (∀ d ∈ r.1, d < 2 ^ w) ∧ (∀ d ∈ r.2.1, d < 2 ^ w)
    ∧ r.1.length = a.length - b.length + 3 ∧ b.length ≤ r.2.1.length := by
  have hN := normAB_spec w hw a b hb0 hbt hda hdb
  rw [divnLow_eq_S]
  simp only [divnLowS]
  generalize (normAB w a b).1 = an at hN ⊢
  generalize (normAB w a b).2 = bn at hN ⊢
  generalize normOf w b = norm at hN ⊢
  obtain ⟨n1, n2, n3, n4, n5, ⟨n6, n7⟩, ⟨n8, n9⟩, n10⟩ := hN
  have hb0l : 0 < b.length := List.length_pos_iff.mpr hb0
  obtain ⟨f3, f4, f2, f5, f6, _, f1⟩ := divMain_spec (2 ^ w) (Nat.one_lt_two_pow (by omega))
    (a.length - b.length + 3) an bn n4 n5 n10
    (by rw [n2, n3]; exact Nat.mul_le_mul_left _ hge) (by omega)
  generalize divMain (2 ^ w) (a.length - b.length + 3) an bn = fin at f1 f2 f3 f4 f5 f6 ⊢
  rw [Nat.pow_zero, Nat.one_mul] at f2
  have hVlt := val_lt (2 ^ w) bn n5
  obtain ⟨R1, R2, R3⟩ := denorm_spec w norm n1 _ (digs_take f4 bn.length)
  rw [val_take_eq_of_lt (2 ^ w) _ _ (by omega)] at R1
  rw [List.length_take, f3] at R3
  generalize denorm w norm (fin.1.take bn.length) = R at R1 R2 R3 ⊢
  rw [n3, n2] at f1
  obtain ⟨z1, z2⟩ := scale_back (2 ^ norm) _ _ _ _ (Nat.two_pow_pos norm) f1 (n3 ▸ f2)
  exact ⟨R1 ▸ z1, R1 ▸ z2, f6, R2, f5, by omega⟩

/-- `hge` (|a| ≥ |b|, which bn_div_imp guarantees through its bn_cmp_abs guard) is needed:
    `divnLow 8 [1] [255] = ([1, 0, 0], [0], _)`, i.e. 1 / 255 = 1 rem 0. When the top digit of `b` has all `w` bits the normalising
    shift is `w - 1` and `b` grows by a digit; if `a` (same length, top digit ≤ 1) does not grow, then `sa < sb`, `n - t`
    underflows and the initial compare/subtract loop misfires. -/
theorem divnLow_spec (w : Nat) (hw : 0 < w) (a b : List Nat)
    (hab : b.length ≤ a.length) (hb0 : b ≠ []) (hbt : b.getLast? ≠ some 0)
    (hda : ∀ d ∈ a, d < 2 ^ w) (hdb : ∀ d ∈ b, d < 2 ^ w)
    (hge : val (2 ^ w) b ≤ val (2 ^ w) a) :
    let q := (divnLow w a b).1.take (a.length - b.length + 1)
    let r := (divnLow w a b).2.1.take b.length
    val (2 ^ w) q * val (2 ^ w) b + val (2 ^ w) r = val (2 ^ w) a
    ∧ val (2 ^ w) r < val (2 ^ w) b
    ∧ (∀ d ∈ q, d < 2 ^ w) ∧ (∀ d ∈ r, d < 2 ^ w)
    ∧ q.length = a.length - b.length + 1 ∧ r.length = b.length := by
  obtain ⟨c1, c2, c3, c4, c5, c6⟩ := divnLow_core w hw a b hab hb0 hbt hda hdb hge
  have hbl : 0 < b.length := List.length_pos_iff.mpr hb0
  have hVlt := val_lt (2 ^ w) b hdb
  have hAlt := val_lt (2 ^ w) a hda
  have hVge := pow_le_val (2 ^ w) b (top_pos_of_getLast b hb0 hbt)
  generalize (divnLow w a b).1 = Q at *
  generalize (divnLow w a b).2.1 = R at *
  have hQlt : val (2 ^ w) Q < (2 ^ w) ^ (a.length - b.length + 1) := by
    have e : (2 ^ w) ^ a.length = (2 ^ w) ^ (a.length - b.length + 1) * (2 ^ w) ^ (b.length - 1) := by
      rw [← Nat.pow_add]; congr 1; omega
    have h1 := Nat.mul_le_mul_left (val (2 ^ w) Q) hVge
    rw [e] at hAlt
    exact Nat.lt_of_mul_lt_mul_right (a := (2 ^ w) ^ (b.length - 1)) (by omega)
  have hq := val_take_eq_of_lt (2 ^ w) Q (a.length - b.length + 1) hQlt
  have hr := val_take_eq_of_lt (2 ^ w) R b.length (by omega)
  intro q r
  refine ⟨?_, ?_, digs_take c3 _, digs_take c4 _, ?_, ?_⟩
  · show val (2 ^ w) (Q.take _) * _ + val (2 ^ w) (R.take _) = _
    rw [hq, hr]; exact c1
  · show val (2 ^ w) (R.take _) < _
    rw [hr]; exact c2
  · show (Q.take _).length = _
    rw [List.length_take, c5]; omega
  · show (R.take _).length = _
    rw [List.length_take]; omega

end Relic.Model
