/-
bn_mxp_sim_few for general n (Model/NtMxp.lean: mxpSimFew): the 2^n table (entries whose index selects only bases with a non-zero
exponent are the products of the selected bases; the others are never read) and the simultaneous square-and-multiply loop;
then bn_mxp_sim_lot, which hands blocks of eight pairs to bn_mxp_sim_few while at least eight remain, a single leftover pair to
bn_mxp and several leftover pairs to bn_mxp_sim_few.
-/
import RelicVerif.Lemmas.NtMxp
import Mathlib.Data.List.GetD

namespace Relic.Model.NtMxp
open Relic.Model

/-- product of the bases selected by the bits of j (bit 0 = first base) -/
def prodSel : List Int → Nat → Int
  | [], _ => 1
  | a :: as, j => (if j % 2 = 1 then a else 1) * prodSel as (j / 2)

/-- the bits of j select only bases with a non-zero exponent -/
def Live : List Nat → Nat → Prop
  | [], _ => True
  | b :: bs, j => (j % 2 = 1 → b ≠ 0) ∧ Live bs (j / 2)

theorem prodSel_zero : ∀ (as : List Int), prodSel as 0 = 1
  | [] => rfl
  | a :: as => by simp [prodSel, prodSel_zero as]

theorem live_zero : ∀ (bs : List Nat), Live bs 0
  | [] => trivial
  | b :: bs => by simp [Live, live_zero bs]

theorem prodSel_append (a : Int) : ∀ (as : List Int) (j : Nat),
    prodSel (as ++ [a]) j = prodSel as (j % 2 ^ as.length) * if j / 2 ^ as.length % 2 = 1 then a else 1
  | [], j => by simp [prodSel]
  | x :: xs, j => by
    rw [List.cons_append, prodSel, prodSel_append a xs (j / 2), List.length_cons, pow_succ', prodSel, Nat.mod_mul_right_mod,
      Nat.mod_mul_right_div_self, ← Nat.div_div_eq_div_mul, mul_assoc]

theorem live_append (b : Nat) : ∀ (bs : List Nat) (j : Nat),
    Live (bs ++ [b]) j ↔ Live bs (j % 2 ^ bs.length) ∧ (j / 2 ^ bs.length % 2 = 1 → b ≠ 0)
  | [], j => by simp [Live]
  | x :: xs, j => by
    rw [List.cons_append, Live, live_append b xs (j / 2), List.length_cons, pow_succ', Live, Nat.mod_mul_right_mod,
      Nat.mod_mul_right_div_self, ← Nat.div_div_eq_div_mul, and_assoc]

/-- the table is right on every index that can be read -/
def TabOK (M : Mont) (as : List Int) (bs : List Nat) (tab : List Int) : Prop :=
  tab.length = 2 ^ as.length ∧ as.length = bs.length ∧
    ∀ j, j < 2 ^ as.length → Live bs j → Rep M (tab.getD j 0) (prodSel as j)

theorem fewBlock_length (M : Mont) (tab : List Int) (a : Int) (b : Nat) (h : 0 < tab.length) :
    (fewBlock M tab a b).length = tab.length := by
  unfold fewBlock
  split
  · rw [List.length_cons, List.length_map, List.length_drop]
    omega
  · exact List.length_replicate

theorem block_ok {M : Mont} (g : Good M) (as : List Int) (bs : List Nat) (tab : List Int) (a : Int) (b : Nat)
    (h : TabOK M as bs tab) : TabOK M (as ++ [a]) (bs ++ [b]) (tab ++ fewBlock M tab a b) := by
  obtain ⟨hl, hab, hent⟩ := h
  have hpos : 0 < tab.length := hl ▸ Nat.two_pow_pos _
  refine ⟨?_, by rw [List.length_append, List.length_append, hab]; rfl, ?_⟩
  · rw [List.length_append, fewBlock_length M tab a b hpos, hl, List.length_append, List.length_singleton, pow_succ]
    omega
  · intro j hj hs
    rw [List.length_append, List.length_singleton, pow_succ] at hj
    obtain ⟨hsub, hb⟩ := (live_append b bs j).1 hs
    rw [← hab] at hsub hb
    rw [prodSel_append]
    by_cases hlo : j < 2 ^ as.length
    · rw [Nat.mod_eq_of_lt hlo] at hsub ⊢
      rw [Nat.div_eq_of_lt hlo, if_neg (by decide), mul_one, List.getD_append _ _ _ _ (hl ▸ hlo)]
      exact hent j hlo hsub
    · -- the upper half: entry j - 2^n of the new block, which multiplies entry j - 2^n of the old table by a
      have hq : j / 2 ^ as.length = 1 := Nat.div_eq_of_lt_le (by omega) (by omega)
      have hr : j % 2 ^ as.length = j - tab.length := by
        rw [hl, Nat.mod_eq_sub_mod (by omega), Nat.mod_eq_of_lt (by omega)]
      rw [hq] at hb ⊢
      rw [hr] at hsub ⊢
      rw [if_pos rfl, List.getD_append_right _ _ _ _ (by omega), fewBlock, if_pos (hb rfl)]
      have hlt : j - tab.length < 2 ^ as.length := by omega
      generalize j - tab.length = s at hsub hlt ⊢
      cases s with
      | zero =>
        rw [List.getD_cons_zero, prodSel_zero, one_mul]
        exact rep_conv M a
      | succ s =>
        rw [List.getD_cons_succ, List.getD_eq_getElem?_getD, List.getElem?_map, List.getElem?_drop, Nat.add_comm 1 s,
          List.getElem?_eq_getElem (hl ▸ hlt), mul_comm]
        have := hent (s + 1) hlt hsub
        rw [List.getD_eq_getElem?_getD, List.getElem?_eq_getElem (hl ▸ hlt)] at this
        exact rep_mul g (rep_conv M a) this

theorem fewTab_ok {M : Mont} (g : Good M) : ∀ (ps : List (Int × Nat)) (as : List Int) (bs : List Nat) (tab : List Int),
    TabOK M as bs tab → TabOK M (as ++ ps.map (·.1)) (bs ++ ps.map (·.2)) (fewTab M tab ps)
  | [], as, bs, tab, h => by simpa [fewTab] using h
  | p :: ps, as, bs, tab, h => by
    have := fewTab_ok g ps _ _ _ (block_ok g as bs tab p.1 p.2 h)
    simpa [fewTab, List.append_assoc] using this

def PP : List (Int × Nat) → Nat → Int
  | [], _ => 1
  | p :: ps, i => p.1 ^ (p.2 >>> i) * PP ps i

theorem parity_lt : ∀ (bs : List Nat) (i : Nat), parity bs i < 2 ^ bs.length
  | [], i => Nat.one_pos
  | b :: bs, i => by
    have := parity_lt bs i
    rw [parity, List.length_cons, pow_succ]
    split <;> omega

theorem parity_cons_div (b : Nat) (bs : List Nat) (i : Nat) : parity (b :: bs) i / 2 = parity bs i := by
  rw [parity]
  split <;> omega

theorem parity_cons_mod (b : Nat) (bs : List Nat) (i : Nat) : parity (b :: bs) i % 2 = 1 ↔ bit b i = true := by
  rw [parity]
  split <;> simp [*]

theorem parity_live : ∀ (bs : List Nat) (i : Nat), Live bs (parity bs i)
  | [], i => trivial
  | b :: bs, i => by
    rw [Live, parity_cons_div, parity_cons_mod]
    exact ⟨bit_ne_zero, parity_live bs i⟩

theorem pp_step : ∀ (qs : List (Int × Nat)) (i : Nat),
    PP qs i = PP qs (i + 1) * PP qs (i + 1) * prodSel (qs.map (·.1)) (parity (qs.map (·.2)) i)
  | [], i => by simp [PP, prodSel]
  | q :: qs, i => by
    simp only [PP, List.map_cons, prodSel, parity_cons_div, parity_cons_mod, bit, decide_eq_true_eq]
    conv_lhs => rw [pp_step qs i, Relic.Lemmas.PowLoop.shr_step q.2 i, pow_add, two_mul, pow_add]
    split
    · next h => rw [h, pow_one]; ring
    · next h => rw [show (q.2 >>> i) % 2 = 0 by omega, pow_zero]; ring

theorem pp_top : ∀ (qs : List (Int × Nat)) (i : Nat), maxBits (qs.map (·.2)) ≤ i → PP qs i = 1
  | [], i, _ => rfl
  | q :: qs, i, h => by
    simp only [List.map_cons, maxBits] at h
    have h1 : Rec.bitLen q.2 ≤ i := le_trans (le_max_left _ _) h
    have h2 : maxBits (qs.map (·.2)) ≤ i := le_trans (le_max_right _ _) h
    simp [PP, shr_ge _ _ h1, pp_top qs i h2]

theorem fewLoop_spec {M : Mont} (g : Good M) (qs : List (Int × Nat)) (tab : List Int)
    (ht : TabOK M (qs.map (·.1)) (qs.map (·.2)) tab) :
    ∀ (i : Nat) (c : Int), Rep M c (PP qs i) → Rep M (fewLoop M tab (qs.map (·.2)) i c) (PP qs 0) := by
  intro i
  induction i with
  | zero => intro c hc; simpa [fewLoop] using hc
  | succ i ih =>
    intro c hc
    simp only [fewLoop]
    apply ih
    have hs := rep_sqr g hc
    rw [pp_step qs i]
    by_cases hp : parity (qs.map (·.2)) i = 0
    · rw [hp, prodSel_zero, mul_one]; simpa using hs
    · rw [if_pos hp]
      have hlt := parity_lt (qs.map (·.2)) i
      rw [← ht.2.1] at hlt
      exact rep_mul g hs (ht.2.2 _ hlt (parity_live _ i))

def prodPow : List (Int × Int) → Int
  | [] => 1
  | p :: ps => p.1 ^ p.2.natAbs * prodPow ps

theorem pp_zero : ∀ (ps : List (Int × Int)), PP (ps.map fun p => (p.1, p.2.natAbs)) 0 = prodPow ps
  | [] => rfl
  | p :: ps => by simp [PP, prodPow, pp_zero ps]

/-- the full behaviour of bn_mxp_sim_few on all integers (c0 = the value c holds before the call) -/
def FewSpec (c0 : Int) (ps : List (Int × Int)) (m : Int) (r : Option Int) : Prop :=
  if m = 1 then r = some 0
  else if ps.length = 0 then r = some c0
  else if ps.length > 8 then r = none
  else if m % 2 = 0 ∨ m ≤ 0 then r = none
  else r = some (prodPow ps % m)

theorem TabOK.one (M : Mont) : TabOK M [] [] [M.conv 1] := by
  refine ⟨rfl, rfl, fun j hj _ => ?_⟩
  obtain rfl : j = 0 := Nat.lt_one_iff.mp hj
  exact rep_conv M 1

theorem mxpSimFew_spec (w : Nat) (c0 : Int) (ps : List (Int × Int)) (m : Int) : FewSpec c0 ps m (mxpSimFew w c0 ps m) := by
  unfold FewSpec mxpSimFew
  by_cases h1 : m = 1
  · rw [if_pos h1, if_pos h1]
  rw [if_neg h1, if_neg h1]
  by_cases h2 : ps.length = 0
  · rw [if_pos h2, if_pos h2]
  rw [if_neg h2, if_neg h2]
  by_cases h3 : ps.length > 8
  · rw [if_pos h3, if_pos h3]
  rw [if_neg h3, if_neg h3]
  by_cases h4 : m % 2 = 0 ∨ m ≤ 0
  · rw [if_pos h4, if_pos h4]
  rw [if_neg h4, if_neg h4]
  obtain ⟨g, hmm⟩ := ofMod_good w m (by omega) (by omega)
  generalize Mont.ofMod w m = M at g hmm
  dsimp only
  generalize hqs : ps.map (fun p => (p.1, p.2.natAbs)) = qs
  have ht := fewTab_ok g qs [] [] _ (TabOK.one M)
  rw [List.nil_append, List.nil_append] at ht
  have hc : Rep M ((fewTab M [M.conv 1] qs).getD 0 0) (PP qs (maxBits (qs.map (·.2)))) := by
    have := ht.2.2 0 (Nat.two_pow_pos _) (live_zero _)
    rw [prodSel_zero] at this
    rwa [pp_top qs _ (le_refl _)]
  rw [back_eq g (fewLoop_spec g qs _ ht _ _ hc), hmm, ← hqs, pp_zero]

/-! ### bn_mxp_sim is bn_mxp_sim_few at n = 2 -/

theorem fewTab_two (M : Mont) (a d : Int) (b e : Nat) :
    fewTab M [M.conv 1] [(a, b), (d, e)] =
      [(simTab M a d b e).1, (simTab M a d b e).2.1, (simTab M a d b e).2.2.1, (simTab M a d b e).2.2.2] := by
  cases b <;> cases e <;> rfl

/-- parities = x | y << 1 selects among {1, a, d, d·a} as the nested tests of bn_mxp_sim do -/
theorem select_two (x y : Bool) (c t0 t1 t2 t3 : Int) (f : Int → Int → Int) :
    (if (if x then 1 else 0) + 2 * ((if y then 1 else 0) + 2 * 0) ≠ 0 then
      f c ([t0, t1, t2, t3].getD ((if x then 1 else 0) + 2 * ((if y then 1 else 0) + 2 * 0)) 0) else c) =
    if x then (if y then f c t3 else f c t1) else (if y then f c t2 else c) := by
  cases x <;> cases y <;> rfl

theorem fewLoop_two (M : Mont) (t0 t1 t2 t3 : Int) (b e : Nat) :
    ∀ (i : Nat) (c : Int), fewLoop M [t0, t1, t2, t3] [b, e] i c = simLoop M t1 t2 t3 b e i c
  | 0, _ => rfl
  | i + 1, c => by
    rw [fewLoop, simLoop, fewLoop_two M t0 t1 t2 t3 b e i]
    exact congrArg _ (select_two (bit b i) (bit e i) (M.sqr c) t0 t1 t2 t3 M.mul)

theorem mxpSim_eq_few (w : Nat) (a b d e m : Int) : mxpSim w a b d e m = mxpSimFew w 0 [(a, b), (d, e)] m := by
  unfold mxpSim mxpSimFew
  simp only [List.length_cons, List.length_nil, List.map_cons, List.map_nil, fewTab_two, fewLoop_two, maxBits,
    List.getD_cons_zero, Nat.max_zero]
  rfl

/-! ### the blocking loop of bn_mxp_sim_lot -/

theorem prodPow_append : ∀ (xs ys : List (Int × Int)), prodPow (xs ++ ys) = prodPow xs * prodPow ys
  | [], ys => by simp [prodPow]
  | x :: xs, ys => by simp [prodPow, prodPow_append xs ys, mul_assoc]

theorem modB_pos (x m : Int) (hm : 0 < m) : modB x m = some (x % m) := by
  unfold modB
  rw [if_neg (by omega), Int.fmod_eq_emod_of_nonneg _ (by omega)]

theorem few_val (w : Nat) (ps : List (Int × Int)) (m : Int) (hm : 1 < m) (hodd : m % 2 = 1) (h0 : ps.length ≠ 0) (h8 : ps.length ≤ 8) :
    mxpSimFew w 0 ps m = some (prodPow ps % m) := by
  have h := mxpSimFew_spec w 0 ps m
  unfold FewSpec at h
  rwa [if_neg (by omega), if_neg h0, if_neg (by omega), if_neg (by omega)] at h

theorem lotBlocks_spec (w : Nat) (m : Int) (hm : 1 < m) (hodd : m % 2 = 1) :
    ∀ (f : Nat) (ps : List (Int × Int)) (c : Int), ps.length < 8 * (f + 1) →
      ∃ c' rest, lotBlocks w m f ps c = some (c', rest) ∧ rest.length < 8 ∧ rest <:+ ps ∧
        c' * prodPow rest ≡ c * prodPow ps [ZMOD m] ∧ (0 ≤ c ∧ c < m → 0 ≤ c' ∧ c' < m) := by
  intro f
  induction f with
  | zero => intro ps c h; exact ⟨c, ps, rfl, by omega, List.suffix_refl _, Int.ModEq.refl _, id⟩
  | succ f ih =>
    intro ps c h
    rw [lotBlocks]
    by_cases h8 : 8 ≤ ps.length
    · have hl : (ps.take 8).length = 8 := by rw [List.length_take]; omega
      rw [if_pos h8, few_val w (ps.take 8) m hm hodd (by omega) (by omega), Option.bind_some, modB_pos _ _ (by omega), Option.bind_some]
      obtain ⟨c', rest, e, hr, hsuf, hc, hrange⟩ := ih (ps.drop 8) (c * (prodPow (ps.take 8) % m) % m)
        (by rw [List.length_drop]; omega)
      refine ⟨c', rest, e, hr, hsuf.trans (List.drop_suffix 8 ps), hc.trans ?_,
        fun _ => hrange ⟨Int.emod_nonneg _ (by omega), Int.emod_lt_of_pos _ (by omega)⟩⟩
      have h1 : c * (prodPow (ps.take 8) % m) % m ≡ c * prodPow (ps.take 8) [ZMOD m] :=
        (Int.mod_modEq _ _).trans ((Int.mod_modEq _ _).mul_left c)
      rw [← List.take_append_drop 8 ps, prodPow_append, ← mul_assoc, List.take_append_drop]
      exact h1.mul_right _
    · rw [if_neg h8]
      exact ⟨c, ps, rfl, by omega, List.suffix_refl _, Int.ModEq.refl _, id⟩

end Relic.Model.NtMxp
