/-
Final exponentiation of embedding degree 12 (property C04): the chains of Gen/PpExp.lean (translated from
src/pp/relic_pp_exp_k12.c on every run) and the hand model of fp12_exp_cyc_sps, over a commutative group G in which
`frb a i = a^(p^i)`, `invCyc a = a^(p^6)` (conjugation over the subfield of index 2) and a^(p^12) = a. Everything after
fp12_conv_cyc happens inside the powers of m = f^((p^6−1)(p^2+1)), for which conjugation is inversion; each operation of
`CycOps` maps powers of m to powers of m, so a chain evaluates to m^E for an integer polynomial expression E in x and p,
and E·r = c·(p^4−p^2+1) is a polynomial identity (`ring`).
-/
import Mathlib.Algebra.Group.Basic
import Mathlib.Algebra.Order.Ring.Abs
import Mathlib.Tactic.Ring
import RelicVerif.Gen.PpExp

namespace Relic.Lemmas.PpExp
open Relic.Model.PpExp Relic.Gen.PpExp

variable {G : Type} [CommGroup G]

def grpOps (G : Type) [CommGroup G] (p : ℕ) : CycOps G where
  one := 1
  mul a b := a * b
  sqrCyc a := a ^ 2
  sqrPck a := a ^ 2
  back a := a
  invCyc a := a ^ (p ^ 6)
  inv a := a⁻¹
  frb a i := a ^ (p ^ i)

section ops
variable (p : ℕ) (m : G)

theorem mul_zpow' (a b : ℤ) : (grpOps G p).mul (m ^ a) (m ^ b) = m ^ (a + b) := (zpow_add m a b).symm

theorem sqrCyc_zpow (a : ℤ) : (grpOps G p).sqrCyc (m ^ a) = m ^ (a * 2) := by
  show (m ^ a) ^ 2 = _
  rw [← zpow_natCast, ← zpow_mul]; rfl

theorem sqrPck_zpow (a : ℤ) : (grpOps G p).sqrPck (m ^ a) = m ^ (a * 2) := sqrCyc_zpow p m a

theorem frb_zpow (a : ℤ) (i : ℕ) : (grpOps G p).frb (m ^ a) i = m ^ (a * (p : ℤ) ^ i) := by
  show (m ^ a) ^ (p ^ i) = _
  rw [← zpow_natCast, ← zpow_mul]; push_cast; rfl

theorem inv_zpow'' (a : ℤ) : (grpOps G p).inv (m ^ a) = m ^ (-a) := (zpow_neg m a).symm

variable {p m}

theorem invCyc_zpow (hm : m ^ (p ^ 6) = m⁻¹) (a : ℤ) : (grpOps G p).invCyc (m ^ a) = m ^ (-a) := by
  show (m ^ a) ^ (p ^ 6) = _
  rw [← zpow_natCast, ← zpow_mul, mul_comm, zpow_mul, zpow_natCast, hm, inv_zpow, zpow_neg]

theorem sqrN_zpow (a : ℤ) (n : ℕ) : sqrN (grpOps G p) (m ^ a) n = m ^ (a * 2 ^ n) := by
  induction n generalizing a with
  | zero => simp [sqrN]
  | succ n ih => rw [sqrN, sqrPck_zpow, ih]; congr 1; ring

theorem spsLoop_foldl (hm : m ^ (p ^ 6) = m⁻¹) (k : ℤ) (bs : List ℤ) (j : ℕ) (c : G) :
    ((spsLoop (grpOps G p) (m ^ (k * 2 ^ j)) j bs).map (grpOps G p).back).foldl (grpOps G p).mul c
      = c * m ^ (k * spsTerms j bs) := by
  induction bs generalizing j c with
  | nil => simp [spsLoop, spsTerms]
  | cons bi bs ih =>
    have hj : (k * 2 ^ j) * 2 ^ (bi.natAbs - j) = k * 2 ^ (if j < bi.natAbs then bi.natAbs else j) := by
      rw [mul_assoc, ← pow_add]
      congr 2
      split <;> omega
    simp only [spsLoop, spsTerms, List.map_cons, List.foldl_cons, sqrN_zpow, hj]
    rw [ih]
    by_cases hb : bi < 0 <;> simp only [hb, if_true, if_false, invCyc_zpow hm] <;>
    (show c * (m ^ _) * _ = _) <;> rw [mul_assoc, ← zpow_add] <;> congr 2 <;> ring

/-- `hm`: negative digits and a negative sign go through the conjugation `invCyc` -/
theorem expCycSps_zpow (hm : m ^ (p ^ 6) = m⁻¹) (k : ℤ) (b : List ℤ) (neg : Bool) :
    expCycSps (grpOps G p) (m ^ k) b neg = m ^ (k * (if neg then -spsVal b else spsVal b)) := by
  cases b with
  | nil => cases neg <;> simp [expCycSps, spsVal, spsTerms, grpOps]
  | cons b0 bs =>
    have h0 : m ^ k = m ^ (k * 2 ^ 0) := by simp
    have hneg : ∀ c : G, c = m ^ (k * spsVal (b0 :: bs)) →
        (if neg = true then (grpOps G p).invCyc c else c)
          = m ^ (k * (if neg = true then -spsVal (b0 :: bs) else spsVal (b0 :: bs))) := by
      intro c hc; subst hc; cases neg
      · simp
      · simp only [if_true, invCyc_zpow hm]; congr 1; ring
    simp only [expCycSps]
    apply hneg
    by_cases hb : b0 = 0
    · subst hb
      simp only [beq_self_eq_true, if_true]
      conv_lhs => rw [h0]
      rw [spsLoop_foldl hm, ← h0]
      simp only [spsVal, spsTerms, Int.natAbs_zero, lt_self_iff_false, if_false, pow_zero]
      rw [← zpow_add]
      congr 1; ring
    · have hb' : (b0 == 0) = false := by simpa using hb
      simp only [hb', Bool.false_eq_true, if_false]
      have := spsLoop_foldl (p := p) hm k (b0 :: bs) 0 1
      rw [← h0, one_mul] at this
      unfold spsVal
      rw [← this]
      simp only [spsLoop, List.map_cons, List.foldl_cons]
      congr 1
      show _ = 1 * _
      rw [one_mul]

end ops

/-- the `_b` array of pp_exp_b12: the sparse form with every position lowered by one -/
abbrev decAbs (bi : ℤ) : ℤ := if bi > 0 then bi - 1 else bi + 1

theorem spsTerms_dec (bs : List ℤ) (j : ℕ) (h : ∀ bi ∈ bs, 1 ≤ bi ∨ bi ≤ -2) :
    2 * spsTerms j (bs.map decAbs) = spsTerms (j + 1) bs := by
  induction bs generalizing j with
  | nil => simp [spsTerms]
  | cons bi bs ih =>
    have hbi := h bi (by simp)
    have ih' := fun j => ih j (fun c hc => h c (by simp [hc]))
    simp only [List.map_cons, spsTerms]
    have hk : bi.natAbs = (decAbs bi).natAbs + 1 := by unfold decAbs; split <;> omega
    have hs : (decAbs bi < 0) ↔ (bi < 0) := by unfold decAbs; split <;> omega
    have hj : (if j + 1 < bi.natAbs then bi.natAbs else j + 1)
        = (if j < (decAbs bi).natAbs then (decAbs bi).natAbs else j) + 1 := by
      rw [hk]; split <;> split <;> omega
    rw [hj, ← ih', mul_add]
    congr 1
    by_cases hn : bi < 0
    · simp only [hn, hs.mpr hn, if_true]; ring
    · simp only [hn, mt hs.mp hn, if_false]; ring

theorem spsVal_dec (b : List ℤ) (h : ∀ bi ∈ b, 1 ≤ bi ∨ bi ≤ -2) : 2 * spsVal (b.map decAbs) = spsVal b := by
  unfold spsVal
  rw [spsTerms_dec b 0 h]
  -- no entry has position 0, so reading the form from j = 1 or from j = 0 is the same
  cases b with
  | nil => rfl
  | cons bi bs =>
    have hbi := h bi (by simp)
    simp only [spsTerms]
    rw [show (if 1 < bi.natAbs then bi.natAbs else 1) = (if 0 < bi.natAbs then bi.natAbs else 0) by
      split <;> split <;> omega]

section exponents
variable {p : ℕ}

theorem invCyc_zpow_gen (m : G) (a : ℤ) : (grpOps G p).invCyc (m ^ a) = m ^ (a * (p : ℤ) ^ 6) :=
  frb_zpow p m a 6

def easyExp (p : ℕ) : ℤ := ((p : ℤ) ^ 6 - 1) * ((p : ℤ) ^ 2 + 1)

theorem conv_cyc_eq (f : G) : fp12_conv_cyc (grpOps G p) f = f ^ easyExp p := by
  obtain ⟨g, rfl⟩ : ∃ g : G, g ^ (1 : ℤ) = f := ⟨f, zpow_one f⟩
  simp only [fp12_conv_cyc, inv_zpow'', invCyc_zpow_gen, mul_zpow', frb_zpow, easyExp, ← zpow_mul]
  congr 1; ring

theorem zpow_frob12 {f : G} (hf : f ^ (p ^ 12) = f) : f ^ ((p : ℤ) ^ 12 - 1) = 1 := by
  have : f ^ ((p : ℤ) ^ 12) = f := by exact_mod_cast hf
  rw [zpow_sub, zpow_one, this, mul_inv_cancel]

theorem easy_cyclotomic (f : G) (hf : f ^ (p ^ 12) = f) : (f ^ easyExp p) ^ (p ^ 6) = (f ^ easyExp p)⁻¹ := by
  rw [eq_inv_iff_mul_eq_one, ← zpow_natCast, ← zpow_mul, ← zpow_add]
  have : easyExp p * ((p ^ 6 : ℕ) : ℤ) + easyExp p = ((p : ℤ) ^ 12 - 1) * ((p : ℤ) ^ 2 + 1) := by
    unfold easyExp; push_cast; ring
  rw [this, zpow_mul, zpow_frob12 hf, one_zpow]

theorem easy_phi12 (f : G) (hf : f ^ (p ^ 12) = f) : (f ^ easyExp p) ^ ((p : ℤ) ^ 4 - (p : ℤ) ^ 2 + 1) = 1 := by
  have : easyExp p * ((p : ℤ) ^ 4 - (p : ℤ) ^ 2 + 1) = (p : ℤ) ^ 12 - 1 := by unfold easyExp; ring
  rw [← zpow_mul, this, zpow_frob12 hf]

/-- the easy part written m^1, so that every value of a chain is syntactically a power of m -/
theorem easy_part_power (f : G) (hf : f ^ (p ^ 12) = f) :
    ∃ m : G, m ^ (1 : ℤ) = f ^ easyExp p ∧ m ^ (p ^ 6) = m⁻¹ :=
  ⟨f ^ easyExp p, zpow_one _, easy_cyclotomic f hf⟩

/-- `h` is meant as the cofactor of r in p^4 − p^2 + 1, so that `hE` is a polynomial identity in x at each use -/
theorem hard_part {f m : G} (hm : m ^ (1 : ℤ) = f ^ easyExp p) {r h : ℤ} (hr0 : r ≠ 0) (c E : ℤ)
    (hE : E * r = c * (h * r)) : m ^ E = f ^ (c * (easyExp p * h)) := by
  have hEc : E = c * h := mul_right_cancel₀ hr0 (by rw [hE]; ring)
  rw [zpow_one] at hm
  rw [hm, ← zpow_mul, hEc]
  congr 1; ring

theorem sign_cases (x : ℤ) : (decide (x < 0) = true ∧ |x| = -x) ∨ (decide (x < 0) = false ∧ |x| = x) := by
  rcases lt_or_ge x 0 with hx | hx
  · exact Or.inl ⟨decide_eq_true hx, abs_of_neg hx⟩
  · exact Or.inr ⟨decide_eq_false (not_lt.mpr hx), abs_of_nonneg hx⟩

theorem signed_abs (x : ℤ) : (if decide (x < 0) = true then -|x| else |x|) = x := by
  rcases sign_cases x with ⟨hd, ha⟩ | ⟨hd, ha⟩ <;> simp [hd, ha]

theorem bn_r_ne_zero {x r : ℤ} (hr : r = 36 * x ^ 4 + 36 * x ^ 3 + 18 * x ^ 2 + 6 * x + 1) : r ≠ 0 := by
  have : r = 2 * (18 * x ^ 4 + 18 * x ^ 3 + 9 * x ^ 2 + 3 * x) + 1 := by rw [hr]; ring
  omega

end exponents

end Relic.Lemmas.PpExp
