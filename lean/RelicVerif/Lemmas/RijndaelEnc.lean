/-
The table-driven encryption of src/bc/rijndael-alg-fst.c (Model/Rijndael.lean `encrypt`: GETU32 ^ rk, the loop
`r = Nr >> 1; for (;;) { s→t; rk += 8; if (--r == 0) break; t→s; }`, the last round through Te4 and the masks, PUTU32)
computes the FIPS-197 Cipher of Spec/Aes.lean for every expanded key held big-endian in `rk` (RkOK), every 16-byte
block and Nr = 10, 12, 14 (`encrypt_eq`; `encrypt_eq_even` for every even Nr ≥ 2).
-/
import RelicVerif.Lemmas.RijndaelBase

namespace Relic.Lemmas.Rijndael
open Relic.Spec.Aes Relic.Gen.AesTables
open Relic.Lemmas.Aes (exists_sixteen shiftRows_sixteen mixColumns_sixteen mixColumn_four getD_length16 addRoundKey_length16
  mixColumns_length)
open Relic.Lemmas.AesTables (X specRound half_word lastRound_word b3_X b2_X b1_X b0_X X_xor Te0_col Te1_col Te2_col Te3_col Te4_col)
open Relic.Model.Rijndael (getu32 putu32 tab b0 b1 b2 b3 rd W4 encHalf encLoop encrypt)

def wordsOf (s : Bytes) : W4 := (getu32 s 0, getu32 s 4, getu32 s 8, getu32 s 12)

/-- `s_c = GETU32(pt + 4c) ^ rk[c]`, in rijndaelEncrypt and in rijndaelDecrypt -/
def initW (rk : Array UInt32) (pt : Bytes) : W4 :=
  (getu32 pt 0 ^^^ rk.getD 0 0, getu32 pt 4 ^^^ rk.getD 1 0, getu32 pt 8 ^^^ rk.getD 2 0, getu32 pt 12 ^^^ rk.getD 3 0)

/-- the text of rijndaelEncrypt after the loop: the last round (Te4 and the byte masks) and the four PUTU32 -/
def lastRound (rk : Array UInt32) (off : Nat) (t : W4) : List UInt8 :=
  let (t0, t1, t2, t3) := t
  putu32 ((tab Te4 (b3 t0) &&& 0xff000000) ^^^ (tab Te4 (b2 t1) &&& 0x00ff0000) ^^^
      (tab Te4 (b1 t2) &&& 0x0000ff00) ^^^ (tab Te4 (b0 t3) &&& 0x000000ff) ^^^ rd rk off 0)
  ++ putu32 ((tab Te4 (b3 t1) &&& 0xff000000) ^^^ (tab Te4 (b2 t2) &&& 0x00ff0000) ^^^
      (tab Te4 (b1 t3) &&& 0x0000ff00) ^^^ (tab Te4 (b0 t0) &&& 0x000000ff) ^^^ rd rk off 1)
  ++ putu32 ((tab Te4 (b3 t2) &&& 0xff000000) ^^^ (tab Te4 (b2 t3) &&& 0x00ff0000) ^^^
      (tab Te4 (b1 t0) &&& 0x0000ff00) ^^^ (tab Te4 (b0 t1) &&& 0x000000ff) ^^^ rd rk off 2)
  ++ putu32 ((tab Te4 (b3 t3) &&& 0xff000000) ^^^ (tab Te4 (b2 t0) &&& 0x00ff0000) ^^^
      (tab Te4 (b1 t1) &&& 0x0000ff00) ^^^ (tab Te4 (b0 t2) &&& 0x000000ff) ^^^ rd rk off 3)

theorem encrypt_def (rk : Array UInt32) (nr : Nat) (pt : Bytes) :
    encrypt rk nr pt = lastRound rk (encLoop rk (nr >>> 1) 0 (initW rk pt)).1 (encLoop rk (nr >>> 1) 0 (initW rk pt)).2 := rfl

theorem wordsOf_sixteen (a0 a1 a2 a3 a4 a5 a6 a7 a8 a9 a10 a11 a12 a13 a14 a15 : UInt8) :
    wordsOf [a0, a1, a2, a3, a4, a5, a6, a7, a8, a9, a10, a11, a12, a13, a14, a15] = (X a0 a1 a2 a3, X a4 a5 a6 a7, X a8 a9 a10 a11, X a12 a13 a14 a15) := rfl

theorem encHalf_round (rk : Array UInt32) (o : Nat) (s k : Bytes) (hs : s.length = 16) (hk : k.length = 16)
    (h : ∀ c, c < 4 → rk.getD (o + c) 0 = getu32 k (4 * c)) :
    encHalf rk o (wordsOf s) = wordsOf (specRound s k) := by
  obtain ⟨x0, x1, x2, x3, x4, x5, x6, x7, x8, x9, x10, x11, x12, x13, x14, x15, rfl⟩ := exists_sixteen s hs
  obtain ⟨k0, k1, k2, k3, k4, k5, k6, k7, k8, k9, k10, k11, k12, k13, k14, k15, rfl⟩ := exists_sixteen k hk
  simp only [specRound, subBytes, List.map_cons, List.map_nil, shiftRows_sixteen, mixColumns, mixColumns_sixteen,
    mixColumn_four, List.cons_append, List.nil_append, addRoundKey, List.zipWith_cons_cons, List.zipWith_nil_left,
    wordsOf_sixteen]
  exact Prod.ext (half_word Te0_col Te1_col Te2_col Te3_col (b3_X ..) (b2_X ..) (b1_X ..) (b0_X ..) (h 0 (by decide)))
    (Prod.ext (half_word Te0_col Te1_col Te2_col Te3_col (b3_X ..) (b2_X ..) (b1_X ..) (b0_X ..) (h 1 (by decide)))
      (Prod.ext (half_word Te0_col Te1_col Te2_col Te3_col (b3_X ..) (b2_X ..) (b1_X ..) (b0_X ..) (h 2 (by decide)))
        (half_word Te0_col Te1_col Te2_col Te3_col (b3_X ..) (b2_X ..) (b1_X ..) (b0_X ..) (h 3 (by decide)))))

theorem initW_eq (rk : Array UInt32) (pt k : Bytes) (hpt : pt.length = 16) (hk : k.length = 16)
    (h : ∀ c, c < 4 → rk.getD (0 + c) 0 = getu32 k (4 * c)) :
    initW rk pt = wordsOf (addRoundKey pt k) := by
  obtain ⟨p0, p1, p2, p3, p4, p5, p6, p7, p8, p9, p10, p11, p12, p13, p14, p15, rfl⟩ := exists_sixteen pt hpt
  obtain ⟨k0, k1, k2, k3, k4, k5, k6, k7, k8, k9, k10, k11, k12, k13, k14, k15, rfl⟩ := exists_sixteen k hk
  have e : ∀ c, c < 4 → rk.getD c 0 = getu32 [k0, k1, k2, k3, k4, k5, k6, k7, k8, k9, k10, k11, k12, k13, k14, k15] (4 * c) :=
    fun c hc => by simpa using h c hc
  simp only [initW, e 0 (by decide), e 1 (by decide), e 2 (by decide), e 3 (by decide), addRoundKey,
    List.zipWith_cons_cons, List.zipWith_nil_left, wordsOf_sixteen, ← X_xor]
  rfl

theorem lastRound_eq (rk : Array UInt32) (o : Nat) (t k : Bytes) (ht : t.length = 16) (hk : k.length = 16)
    (h : ∀ c, c < 4 → rk.getD (o + c) 0 = getu32 k (4 * c)) :
    lastRound rk o (wordsOf t) = addRoundKey (shiftRows (subBytes t)) k := by
  obtain ⟨t0, t1, t2, t3, t4, t5, t6, t7, t8, t9, t10, t11, t12, t13, t14, t15, rfl⟩ := exists_sixteen t ht
  obtain ⟨k0, k1, k2, k3, k4, k5, k6, k7, k8, k9, k10, k11, k12, k13, k14, k15, rfl⟩ := exists_sixteen k hk
  simp only [wordsOf_sixteen, lastRound, rd, subBytes, List.map_cons, List.map_nil, shiftRows_sixteen, addRoundKey,
    List.zipWith_cons_cons, List.zipWith_nil_left]
  rw [lastRound_word Te4_col.diag (b3_X ..) (b2_X ..) (b1_X ..) (b0_X ..) (h 0 (by decide)),
    lastRound_word Te4_col.diag (b3_X ..) (b2_X ..) (b1_X ..) (b0_X ..) (h 1 (by decide)),
    lastRound_word Te4_col.diag (b3_X ..) (b2_X ..) (b1_X ..) (b0_X ..) (h 2 (by decide)),
    lastRound_word Te4_col.diag (b3_X ..) (b2_X ..) (b1_X ..) (b0_X ..) (h 3 (by decide))]
  rfl

theorem rk_at {rk : Array UInt32} {ks : List Bytes} (hok : RkOK rk ks) (r : Nat) (hr : r < ks.length) (o : Nat)
    (ho : o = 4 * r) : ∀ c, c < 4 → rk.getD (o + c) 0 = getu32 (ks.getD r []) (4 * c) := by
  subst ho; exact hok r hr

theorem foldl_range'_length16 (F : Bytes → Nat → Bytes) (n : Nat)
    (hL : ∀ S i, S.length = 16 → i < n → (F S i).length = 16) (len : Nat) :
    ∀ (j : Nat) (S : Bytes), S.length = 16 → j + len ≤ n → ((List.range' j len).foldl F S).length = 16 := by
  induction len with
  | zero => exact fun _ _ hS _ => hS
  | succ len ih => exact fun j S hS hj => ih (j + 1) _ (hL S j hS (by omega)) (by omega)

/-- the loop of rijndaelEncrypt and of rijndaelDecrypt, `for (;;) { t = half(s, rk + 4); rk += 8; if (--r == 0) break;
s = half(t, rk); }`, where half round `i` (at rk[4(i+1)..]) is `F · i` through `wordsOf` -/
theorem loop_spec {loop : Nat → Nat → W4 → Nat × W4} {half : Nat → W4 → W4}
    (h1 : ∀ off s, loop 1 off s = (off + 8, half (off + 4) s))
    (h2 : ∀ r off s, loop (r + 2) off s = loop (r + 1) (off + 8) (half (off + 8) (half (off + 4) s)))
    (F : Bytes → Nat → Bytes) (n : Nat) (hL : ∀ S i, S.length = 16 → i < n → (F S i).length = 16)
    (hH : ∀ S i, S.length = 16 → i < n → half (4 * (i + 1)) (wordsOf S) = wordsOf (F S i)) (R : Nat) :
    ∀ (j : Nat) (S : Bytes), S.length = 16 → j + 2 * R + 1 ≤ n →
      loop (R + 1) (4 * j) (wordsOf S) = (4 * j + 8 * (R + 1), wordsOf ((List.range' j (2 * R + 1)).foldl F S)) := by
  induction R with
  | zero =>
    intro j S hS hj
    rw [h1, show 4 * j + 4 = 4 * (j + 1) by omega, hH S j hS (by omega)]
    rfl
  | succ R ih =>
    intro j S hS hj
    have hS1 := hL S j hS (by omega)
    rw [h2, show 4 * j + 4 = 4 * (j + 1) by omega, hH S j hS (by omega), show 4 * j + 8 = 4 * (j + 1 + 1) by omega,
      hH _ (j + 1) hS1 (by omega), ih (j + 1 + 1) _ (hL _ (j + 1) hS1 (by omega)) (by omega),
      show 2 * (R + 1) + 1 = (2 * R + 1) + 2 by omega]
    congr 1
    omega

/-- `r = Nr >> 1` -/
theorem two_mul_shiftRight_one (m : Nat) : (2 * m) >>> 1 = m := by
  rw [Nat.shiftRight_eq_div_pow]
  omega

theorem encrypt_eq_even (rk : Array UInt32) (ks : List Bytes) (m : Nat) (hok : RkOK rk ks)
    (hlen : ks.length = 2 * (m + 1) + 1) (hk : ∀ k ∈ ks, k.length = 16) (pt : Bytes) (hpt : pt.length = 16) :
    encrypt rk (2 * (m + 1)) pt = cipher ks pt := by
  have h0len : (ks.getD 0 []).length = 16 := getD_length16 ks hk 0 (by omega)
  have hs0 : (addRoundKey pt (ks.getD 0 [])).length = 16 := addRoundKey_length16 _ _ hpt h0len
  have hL : ∀ (S : Bytes) i, S.length = 16 → i < 2 * m + 1 → (specRound S (ks.getD (i + 1) [])).length = 16 :=
    fun S i _ hi => addRoundKey_length16 _ _ (mixColumns_length _) (getD_length16 ks hk _ (by omega))
  have hloop := loop_spec (loop := encLoop rk) (half := encHalf rk) (fun _ _ => rfl) (fun _ _ _ => rfl) _ _ hL
    (fun S i hS hi => encHalf_round rk _ S _ hS (getD_length16 ks hk _ (by omega)) (rk_at hok (i + 1) (by omega) _ rfl))
    m 0 _ hs0 (by omega)
  rw [encrypt_def, two_mul_shiftRight_one, initW_eq rk pt _ hpt h0len (rk_at hok 0 (by omega) _ rfl), hloop]
  simp only [cipher, hlen, Nat.add_sub_cancel, List.range_eq_range']
  exact lastRound_eq rk _ _ _ (foldl_range'_length16 _ _ hL _ 0 _ hs0 (by omega)) (getD_length16 ks hk _ (by omega)) (rk_at hok (2 * (m + 1)) (by omega) _ (by omega))

theorem encrypt_eq (rk : Array UInt32) (ks : List Bytes) (nr : Nat) (hok : RkOK rk ks) (hlen : ks.length = nr + 1)
    (hnr : nr = 10 ∨ nr = 12 ∨ nr = 14) (hk : ∀ k ∈ ks, k.length = 16) (pt : Bytes) (hpt : pt.length = 16) :
    encrypt rk nr pt = cipher ks pt := by
  rcases hnr with rfl | rfl | rfl
  · exact encrypt_eq_even rk ks 4 hok hlen hk pt hpt
  · exact encrypt_eq_even rk ks 5 hok hlen hk pt hpt
  · exact encrypt_eq_even rk ks 6 hok hlen hk pt hpt

end Relic.Lemmas.Rijndael
