/-
bn_mul1_low, bn_mula_low, Comba multiplication/squaring (bn_muln_low, bn_muld_low, bn_sqrn_low)
compute ℕ products on digit vectors, for every base B > 1.
-/
import RelicVerif.Lemmas.BnLowAdd

namespace Relic.Model

namespace LowMul

theorem mul_le_sq (B x y : Nat) (hx : x < B) (hy : y < B) : x * y + 2 * B ≤ B * B + 1 := by
  have h1 : x * y ≤ (B - 1) * (B - 1) := Nat.mul_le_mul (by omega) (by omega)
  obtain ⟨k, rfl⟩ : ∃ k, B = k + 1 := ⟨B - 1, by omega⟩
  simp only [Nat.add_sub_cancel] at h1
  grind

theorem mul_split (B x y : Nat) (hB : 1 < B) (hx : x < B) (hy : y < B) :
    ∃ p1 p0, x * y / B = p1 ∧ x * y % B = p0 ∧ p0 < B ∧ p1 + 2 ≤ B ∧ x * y = p1 * B + p0 := by
  have h1 : x * y ≤ (B - 1) * (B - 1) := Nat.mul_le_mul (by omega) (by omega)
  have h2 : (B - 1) * (B - 1) < (B - 1) * B := Nat.mul_lt_mul_of_pos_left (by omega) (by omega)
  have h3 : x * y / B < B - 1 := (Nat.div_lt_iff_lt_mul (by omega)).2 (by omega)
  have := Nat.div_add_mod (x * y) B
  rw [Nat.mul_comm] at this
  exact ⟨_, _, rfl, rfl, Nat.mod_lt _ (by omega), by omega, this.symm⟩

theorem mul1Low_step (B : Nat) (hB : 1 < B) (a digit carry : Nat) (as : List Nat)
    (ha : a < B) (hd : digit < B) (hc : carry < B) :
    ∃ c carry', c < B ∧ carry' < B ∧ c + carry' * B = a * digit + carry ∧
      mul1Low B (a :: as) digit carry
        = (c :: (mul1Low B as digit carry').1, (mul1Low B as digit carry').2) := by
  obtain ⟨p1, p0, e1, e0, h0, h1, hp⟩ := mul_split B a digit hB ha hd
  obtain ⟨s, k, es, ek, hs, hk, hsum⟩ := add_carry_r B p0 carry h0 hc
  refine ⟨s, p1 + k, hs, by omega, by grind, ?_⟩
  simp only [mul1Low, e1, e0, es, ek]
  rw [Nat.mod_eq_of_lt (show p1 + k < B by omega)]

theorem chain_step {B vs cout n total : Nat} (d : Nat) (ih : vs + cout * B ^ n = total) :
    d + B * vs + cout * B ^ (n + 1) = d + B * total := by
  subst ih; rw [Nat.pow_succ]; grind

end LowMul

open LowMul

@[simp]
theorem mul1Low_length (B : Nat) : ∀ (a : List Nat) (d c : Nat), (mul1Low B a d c).1.length = a.length := by
  intro a
  induction a with
  | nil => intro d c; simp [mul1Low]
  | cons x xs ih => intro d c; simp only [mul1Low, List.length_cons, ih]

@[simp]
theorem mulaLow_length (B : Nat) : ∀ (c a : List Nat) (d cy : Nat),
    (mulaLow B c a d cy).1.length = min c.length a.length := by
  intro c
  induction c with
  | nil => intro a d cy; simp [mulaLow]
  | cons x xs ih =>
    intro a d cy
    cases a with
    | nil => simp [mulaLow]
    | cons y ys => simp only [mulaLow, List.length_cons, ih]; omega

theorem mul1Low_spec (B : Nat) (hB : 1 < B) :
    ∀ (a : List Nat) (digit carry : Nat), digit < B → carry < B → (∀ d ∈ a, d < B) →
      val B (mul1Low B a digit carry).1 + (mul1Low B a digit carry).2 * B ^ a.length
        = val B a * digit + carry
      ∧ (mul1Low B a digit carry).2 < B
      ∧ (∀ d ∈ (mul1Low B a digit carry).1, d < B) ∧ (mul1Low B a digit carry).1.length = a.length := by
  intro a
  induction a with
  | nil => intro digit carry _ hc _; simp [mul1Low, val, hc]
  | cons x xs ih =>
    intro digit carry hd hc ha
    obtain ⟨hx, ha'⟩ := List.forall_mem_cons.1 ha
    obtain ⟨c, carry', hc1, hc2, hsum, heq⟩ := mul1Low_step B hB x digit carry xs hx hd hc
    obtain ⟨ih1, ih2, ih3, _⟩ := ih digit carry' hd hc2 ha'
    rw [heq]
    refine ⟨?_, ih2, digs_cons hc1 ih3, by simp⟩
    simp only [val, List.length_cons]
    rw [chain_step c ih1]
    grind

namespace LowMul

theorem mulaLow_step (B : Nat) (hB : 1 < B) (c a digit carry : Nat) (cs as : List Nat)
    (hc0 : c < B) (ha : a < B) (hd : digit < B) (hc : carry < B) :
    ∃ c' carry', c' < B ∧ carry' < B ∧ c' + carry' * B = c + a * digit + carry ∧
      mulaLow B (c :: cs) (a :: as) digit carry
        = (c' :: (mulaLow B cs as digit carry').1, (mulaLow B cs as digit carry').2) := by
  obtain ⟨p1, p0, e1, e0, h0, h1, hp⟩ := mul_split B a digit hB ha hd
  have hsq := mul_le_sq B a digit ha hd
  obtain ⟨s, k, es, ek, hs, hk, hsum⟩ := add_carry_r B p0 carry h0 hc
  obtain ⟨s', k', es', ek', hs', hk', hsum'⟩ := add_carry_r B c s hc0 hs
  have htot : s' + (p1 + k + k') * B = c + a * digit + carry := by grind
  have hT : p1 + k + k' < B := by
    apply Nat.lt_of_not_le
    intro hge
    have : B * B ≤ (p1 + k + k') * B := Nat.mul_le_mul_right B hge
    omega
  refine ⟨s', p1 + k + k', hs', hT, htot, ?_⟩
  simp only [mulaLow, e1, e0, es, ek, es', ek']
  rw [Nat.mod_eq_of_lt (show p1 + k < B by omega), Nat.mod_eq_of_lt hT]

end LowMul

theorem mulaLow_spec (B : Nat) (hB : 1 < B) :
    ∀ (c a : List Nat) (digit carry : Nat), c.length = a.length → digit < B → carry < B →
      (∀ d ∈ c, d < B) → (∀ d ∈ a, d < B) →
      val B (mulaLow B c a digit carry).1 + (mulaLow B c a digit carry).2 * B ^ a.length
        = val B c + val B a * digit + carry
      ∧ (mulaLow B c a digit carry).2 < B
      ∧ (∀ d ∈ (mulaLow B c a digit carry).1, d < B) ∧ (mulaLow B c a digit carry).1.length = a.length := by
  intro c
  induction c with
  | nil =>
    intro a digit carry hl _ hc _ _
    cases a with
    | nil => simp [mulaLow, val, hc]
    | cons _ _ => simp at hl
  | cons y ys ih =>
    intro a digit carry hl hd hc hcs ha
    cases a with
    | nil => simp at hl
    | cons x xs =>
      simp only [List.length_cons, Nat.add_right_cancel_iff] at hl
      obtain ⟨hx, ha'⟩ := List.forall_mem_cons.1 ha
      obtain ⟨hy, hc'⟩ := List.forall_mem_cons.1 hcs
      obtain ⟨c', carry', hc1, hc2, hsum, heq⟩ := mulaLow_step B hB y x digit carry ys xs hy hx hd hc
      obtain ⟨ih1, ih2, ih3, _⟩ := ih xs digit carry' hl hd hc2 hc' ha'
      rw [heq]
      refine ⟨?_, ih2, digs_cons hc1 ih3, by simp [hl]⟩
      simp only [val, List.length_cons]
      rw [chain_step c' ih1]
      grind

def regVal (B : Nat) (r : Nat × Nat × Nat) : Nat := r.2.2 + B * r.2.1 + B * B * r.1

theorem regVal_eq (B : Nat) (r : Nat × Nat × Nat) : regVal B r = r.2.2 + B * (r.2.1 + B * r.1) := by
  simp only [regVal]; grind

theorem combaStepMul_spec (B : Nat) (hB : 1 < B) (r : Nat × Nat × Nat) (x y : Nat)
    (hr2 : r.1 < B) (hr1 : r.2.1 < B) (hr0 : r.2.2 < B) (hx : x < B) (hy : y < B)
    (hfit : regVal B r + x * y < B * B * B) :
    regVal B (combaStepMul B r x y) = regVal B r + x * y
    ∧ (combaStepMul B r x y).1 < B ∧ (combaStepMul B r x y).2.1 < B ∧ (combaStepMul B r x y).2.2 < B := by
  obtain ⟨r2, r1, r0⟩ := r
  simp only [regVal] at *
  obtain ⟨p1, p0, e1, e0, h0, h1, hp⟩ := mul_split B x y hB hx hy
  obtain ⟨s0, k0, es0, ek0, hs0, hk0, hsum0⟩ := add_carry_r B r0 p0 hr0 h0
  obtain ⟨s1, k1, es1, ek1, hs1, hk1, hsum1⟩ := add_carry_l B r1 k0 hr1 (by omega)
  obtain ⟨s2, k2, es2, ek2, hs2, hk2, hsum2⟩ := add_carry_r B s1 p1 hs1 (by omega)
  have htot : s0 + B * s2 + B * B * (r2 + k1 + k2) = r0 + B * r1 + B * B * r2 + x * y := by grind
  have hT : r2 + k1 + k2 < B := by
    have : B * B * (r2 + k1 + k2) < B * B * B := by omega
    exact Nat.lt_of_mul_lt_mul_left this
  simp only [combaStepMul, e1, e0, es0, ek0, es1, ek1, es2, ek2]
  rw [Nat.mod_eq_of_lt (Nat.lt_of_le_of_lt (Nat.le_add_right _ _) hT), Nat.mod_eq_of_lt hT]
  exact ⟨htot, hT, hs2, hs0⟩

namespace LowMul

/-- the high half of the doubled product in RLC_COMBA_STEP_SQR; its C overflow test is `s1 < p1` -/
theorem add_carry_dbl (B p1 k : Nat) (h1 : p1 + 2 ≤ B) (hk : k ≤ 1) :
    ∃ s k', (p1 + p1 + k) % B = s ∧ (if s < p1 then 1 else 0) = k' ∧ s < B ∧ k' ≤ 1
      ∧ p1 + p1 + k = s + k' * B := by
  by_cases h : p1 + p1 + k < B
  · exact ⟨p1 + p1 + k, 0, Nat.mod_eq_of_lt h, if_neg (by omega), h, by omega, by omega⟩
  · have e := mod_sub_once (p1 + p1 + k) B (by omega) (by omega)
    exact ⟨p1 + p1 + k - B, 1, e, if_pos (by omega), by omega, by omega, by omega⟩

end LowMul

theorem combaStepSqr_spec (B : Nat) (hB : 1 < B) (r : Nat × Nat × Nat) (x y : Nat)
    (hr2 : r.1 < B) (hr1 : r.2.1 < B) (hr0 : r.2.2 < B) (hx : x < B) (hy : y < B)
    (hfit : regVal B r + 2 * (x * y) < B * B * B) :
    regVal B (combaStepSqr B r x y) = regVal B r + 2 * (x * y)
    ∧ (combaStepSqr B r x y).1 < B ∧ (combaStepSqr B r x y).2.1 < B ∧ (combaStepSqr B r x y).2.2 < B := by
  obtain ⟨r2, r1, r0⟩ := r
  simp only [regVal] at *
  obtain ⟨p1, p0, e1, e0, h0, h1, hp⟩ := mul_split B x y hB hx hy
  obtain ⟨d0, c0, ed0, ec0, hd0, hc0, hdsum0⟩ := add_carry_r B p0 p0 h0 h0
  obtain ⟨d1, c1, ed1, ec1, hd1, hc1, hdsum1⟩ := add_carry_dbl B p1 c0 h1 hc0
  obtain ⟨s0, k0, es0, ek0, hs0, hk0, hsum0⟩ := add_carry_r B r0 d0 hr0 hd0
  obtain ⟨s1, k1, es1, ek1, hs1, hk1, hsum1⟩ := add_carry_l B r1 k0 hr1 (by omega)
  obtain ⟨s2, k2, es2, ek2, hs2, hk2, hsum2⟩ := add_carry_r B s1 d1 hs1 hd1
  have htot : s0 + B * s2 + B * B * (r2 + k1 + k2 + c1)
      = r0 + B * r1 + B * B * r2 + 2 * (x * y) := by grind
  have hT : r2 + k1 + k2 + c1 < B := by
    have : B * B * (r2 + k1 + k2 + c1) < B * B * B := by omega
    exact Nat.lt_of_mul_lt_mul_left this
  simp only [combaStepSqr, e1, e0, ed0, ec0, ed1, ec1, es0, ek0, es1, ek1, es2, ek2]
  have hT' : r2 + k1 + k2 < B := Nat.lt_of_le_of_lt (Nat.le_add_right _ _) hT
  rw [Nat.mod_eq_of_lt (Nat.lt_of_le_of_lt (Nat.le_add_right _ _) hT'), Nat.mod_eq_of_lt hT',
    Nat.mod_eq_of_lt hT]
  exact ⟨htot, hT, hs2, hs0⟩

namespace LowMul

/-- the `step` of mulnLow, muldLow and sqrnLow (Model/BnLow.lean) with the column processor left open -/
def colStep {γ : Type} (proc : γ → Nat × Nat × Nat → Nat × Nat × Nat)
    (st : List Nat × (Nat × Nat × Nat)) (c : γ) : List Nat × (Nat × Nat × Nat) :=
  ((proc c st.2).2.2 :: st.1, (0, (proc c st.2).1, (proc c st.2).2.1))

theorem colFold_length {γ : Type} (proc : γ → Nat × Nat × Nat → Nat × Nat × Nat) : ∀ (cols : List γ)
    (st : List Nat × (Nat × Nat × Nat)),
    (cols.foldl (colStep proc) st).1.length = st.1.length + cols.length := by
  intro cols
  induction cols with
  | nil => intro st; rfl
  | cons c cs ih =>
    intro st
    rw [List.foldl_cons, ih]
    simp only [colStep, List.length_cons]; omega

theorem fold_arith {P B d r1 r2 R vc V X : Nat} (h : d + B * r1 + B * B * r2 = R + vc) :
    X + P * d + P * B * (r1 + B * r2 + V) = X + P * (R + (vc + B * V)) := by
  grind

theorem colFold_spec (B : Nat) {γ : Type} (proc : γ → Nat × Nat × Nat → Nat × Nat × Nat)
    (v : γ → Nat) (cols : List γ)
    (hproc : ∀ c ∈ cols, ∀ r : Nat × Nat × Nat, r.1 = 0 → r.2.1 < B → r.2.2 < B →
      regVal B (proc c r) = regVal B r + v c
      ∧ (proc c r).1 < B ∧ (proc c r).2.1 < B ∧ (proc c r).2.2 < B) :
    ∀ st : List Nat × (Nat × Nat × Nat), st.2.1 = 0 → st.2.2.1 < B → st.2.2.2 < B →
      (∀ d ∈ st.1, d < B) →
      val B (cols.foldl (colStep proc) st).1.reverse
          + B ^ (cols.foldl (colStep proc) st).1.length * regVal B (cols.foldl (colStep proc) st).2
        = val B st.1.reverse + B ^ st.1.length * (regVal B st.2 + val B (cols.map v))
      ∧ (∀ d ∈ (cols.foldl (colStep proc) st).1, d < B)
      ∧ (cols.foldl (colStep proc) st).2.1 = 0 := by
  induction cols with
  | nil =>
    intro st h1 _ _ hd
    simp only [List.foldl_nil, List.map_nil, val, Nat.add_zero]
    exact ⟨trivial, hd, h1⟩
  | cons c cs ih =>
    intro st h1 h2 h3 hd
    obtain ⟨p1, p2, p3, p4⟩ := hproc c (by simp) st.2 h1 h2 h3
    have ih' := ih (fun c' hc' => hproc c' (by simp [hc'])) (colStep proc st c) rfl p2 p3
      (by
        intro d hd'
        simp only [colStep, List.mem_cons] at hd'
        rcases hd' with rfl | hd'
        · exact p4
        · exact hd d hd')
    obtain ⟨q1, q3, q4⟩ := ih'
    simp only [List.foldl_cons]
    refine ⟨?_, q3, q4⟩
    rw [q1]
    simp only [colStep, List.reverse_cons, val_append, List.length_reverse, List.length_cons,
      List.map_cons, val, regVal, Nat.pow_succ, Nat.mul_zero, Nat.add_zero] at p1 ⊢
    exact fold_arith p1

def colVal (a b : List Nat) : List (Nat × Nat) → Nat
  | [] => 0
  | ij :: ps => a.getD ij.1 0 * b.getD ij.2 0 + colVal a b ps

/-- the inner loop of `combaColumn` -/
def mulProc (B : Nat) (a b : List Nat) (pairs : List (Nat × Nat)) (r : Nat × Nat × Nat) :
    Nat × Nat × Nat :=
  pairs.foldl (fun acc ij => combaStepMul B acc (a.getD ij.1 0) (b.getD ij.2 0)) r

/-- the inner loop of a Comba column, for any register step; `T` is the sum of what the pairs add, `E` the room left for
    what follows the loop (the middle square of a squaring column) -/
theorem regFold (B : Nat) (step : Nat × Nat × Nat → Nat → Nat → Nat × Nat × Nat) (v : Nat → Nat → Nat) (K : Nat)
    (hv : ∀ x y, x < B → y < B → v x y < K)
    (hstep : ∀ r x y, r.1 < B → r.2.1 < B → r.2.2 < B → x < B → y < B → regVal B r + v x y < B * B * B →
      regVal B (step r x y) = regVal B r + v x y
      ∧ (step r x y).1 < B ∧ (step r x y).2.1 < B ∧ (step r x y).2.2 < B)
    (a b : List Nat) (hda : ∀ d ∈ a, d < B) (hdb : ∀ d ∈ b, d < B) (T : List (Nat × Nat) → Nat) (hT0 : T [] = 0)
    (hT : ∀ ij ps, T (ij :: ps) = v (a.getD ij.1 0) (b.getD ij.2 0) + T ps) (E : Nat) :
    ∀ (pairs : List (Nat × Nat)) (acc : Nat × Nat × Nat),
      acc.1 < B → acc.2.1 < B → acc.2.2 < B → regVal B acc + pairs.length * K + E ≤ B * B * B →
      regVal B (pairs.foldl (fun acc ij => step acc (a.getD ij.1 0) (b.getD ij.2 0)) acc) = regVal B acc + T pairs
      ∧ regVal B (pairs.foldl (fun acc ij => step acc (a.getD ij.1 0) (b.getD ij.2 0)) acc) + E ≤ B * B * B
      ∧ (pairs.foldl (fun acc ij => step acc (a.getD ij.1 0) (b.getD ij.2 0)) acc).1 < B
      ∧ (pairs.foldl (fun acc ij => step acc (a.getD ij.1 0) (b.getD ij.2 0)) acc).2.1 < B
      ∧ (pairs.foldl (fun acc ij => step acc (a.getD ij.1 0) (b.getD ij.2 0)) acc).2.2 < B := by
  intro pairs
  induction pairs with
  | nil =>
    intro acc h1 h2 h3 hfit
    simp only [List.length_nil, Nat.zero_mul, Nat.add_zero] at hfit
    exact ⟨by rw [hT0]; rfl, hfit, h1, h2, h3⟩
  | cons ij ps ih =>
    intro acc h1 h2 h3 hfit
    have hB0 : 0 < B := Nat.zero_lt_of_lt h1
    have hx := getD_lt B hB0 a hda ij.1
    have hy := getD_lt B hB0 b hdb ij.2
    have hxy := hv _ _ hx hy
    simp only [List.length_cons, Nat.add_mul, Nat.one_mul] at hfit
    obtain ⟨e, g1, g2, g3⟩ := hstep acc _ _ h1 h2 h3 hx hy (by omega)
    obtain ⟨e', f', g'⟩ := ih (step acc (a.getD ij.1 0) (b.getD ij.2 0)) g1 g2 g3 (by omega)
    exact ⟨by rw [List.foldl_cons, e', e, hT]; omega, f', g'⟩

theorem reg_le (B : Nat) (r : Nat × Nat × Nat) (h0 : r.1 = 0) (h1 : r.2.1 < B) (h2 : r.2.2 < B) :
    regVal B r + 1 ≤ B * B := by
  have e1 : B * r.2.1 + B ≤ B * B := by
    have := Nat.mul_le_mul_left B (show r.2.1 + 1 ≤ B from h1)
    rwa [Nat.mul_succ] at this
  simp only [regVal, h0, Nat.mul_zero, Nat.add_zero]
  omega

theorem reg_small (B : Nat) (r : Nat × Nat × Nat) (n : Nat) (h0 : r.1 = 0) (h1 : r.2.1 < B)
    (h2 : r.2.2 < B) (hn : n < B) : regVal B r + n * (B * B) ≤ B * B * B := by
  have e1 := reg_le B r h0 h1 h2
  have e2 : n * (B * B) + B * B ≤ B * B * B := by
    have := Nat.mul_le_mul_right (B * B) (show n + 1 ≤ B from hn)
    rwa [Nat.succ_mul, ← Nat.mul_assoc B B B] at this
  omega

theorem mulProc_spec (B : Nat) (hB : 1 < B) (a b : List Nat)
    (hda : ∀ d ∈ a, d < B) (hdb : ∀ d ∈ b, d < B) (pairs : List (Nat × Nat))
    (hlen : pairs.length < B) (r : Nat × Nat × Nat) (h0 : r.1 = 0) (h1 : r.2.1 < B)
    (h2 : r.2.2 < B) :
    regVal B (mulProc B a b pairs r) = regVal B r + colVal a b pairs
    ∧ (mulProc B a b pairs r).1 < B ∧ (mulProc B a b pairs r).2.1 < B
    ∧ (mulProc B a b pairs r).2.2 < B := by
  obtain ⟨e, _, g⟩ := regFold B (combaStepMul B) (· * ·) (B * B) (fun _ _ hx hy => Nat.mul_lt_mul'' hx hy)
    (combaStepMul_spec B hB) a b hda hdb (colVal a b) rfl (fun _ _ => rfl) 0 pairs r (by omega) h1 h2
    (reg_small B r _ h0 h1 h2 hlen)
  exact ⟨e, g⟩

def sumTo (f : Nat → Nat) : Nat → Nat
  | 0 => 0
  | n + 1 => sumTo f n + f n

theorem sumTo_congr {f g : Nat → Nat} : ∀ n, (∀ i, i < n → f i = g i) → sumTo f n = sumTo g n
  | 0, _ => rfl
  | n + 1, h => by
    simp only [sumTo]
    rw [sumTo_congr n (fun i hi => h i (by omega)), h n (by omega)]

theorem sumTo_zero {f : Nat → Nat} : ∀ n, (∀ i, i < n → f i = 0) → sumTo f n = 0
  | 0, _ => rfl
  | n + 1, h => by
    simp only [sumTo]
    rw [sumTo_zero n (fun i hi => h i (by omega)), h n (by omega)]

theorem sumTo_add (f : Nat → Nat) (m : Nat) :
    ∀ n, sumTo f (m + n) = sumTo f m + sumTo (fun i => f (m + i)) n
  | 0 => rfl
  | n + 1 => by
    show sumTo f (m + n) + f (m + n) = _
    rw [sumTo_add f m n]; simp only [sumTo]; omega

theorem sumTo_succ_front (f : Nat → Nat) :
    ∀ n, sumTo f (n + 1) = f 0 + sumTo (fun i => f (i + 1)) n
  | 0 => by simp [sumTo]
  | n + 1 => by
    show sumTo f (n + 1) + f (n + 1) = _
    rw [sumTo_succ_front f n]; simp only [sumTo]; omega

theorem colVal_append (a b : List Nat) (p q : List (Nat × Nat)) :
    colVal a b (p ++ q) = colVal a b p + colVal a b q := by
  induction p with
  | nil => simp [colVal]
  | cons x xs ih => simp only [List.cons_append, colVal, ih]; omega

theorem colVal_map_range (a b : List Nat) (g : Nat → Nat × Nat) :
    ∀ n, colVal a b ((List.range n).map g) = sumTo (fun j => a.getD (g j).1 0 * b.getD (g j).2 0) n
  | 0 => rfl
  | n + 1 => by
    rw [List.range_succ, List.map_append, colVal_append, colVal_map_range a b g n]
    simp [colVal, sumTo]

/-- the k-th coefficient of the product of the digit polynomials -/
def colSum (a b : List Nat) (k : Nat) : Nat :=
  sumTo (fun i => a.getD i 0 * b.getD (k - i) 0) (k + 1)

theorem colSum_nil (b : List Nat) (k : Nat) : colSum [] b k = 0 :=
  sumTo_zero _ (fun i _ => by simp)

theorem colSum_cons_zero (x : Nat) (xs b : List Nat) : colSum (x :: xs) b 0 = x * b.getD 0 0 := by
  simp [colSum, sumTo]

theorem colSum_cons_succ (x : Nat) (xs b : List Nat) (k : Nat) :
    colSum (x :: xs) b (k + 1) = x * b.getD (k + 1) 0 + colSum xs b k := by
  unfold colSum
  rw [sumTo_succ_front]
  simp only [List.getD_cons_zero, Nat.sub_zero, List.getD_cons_succ, Nat.add_sub_add_right]

theorem val_map_range_succ (B : Nat) (F : Nat → Nat) (m : Nat) :
    val B ((List.range (m + 1)).map F)
      = F 0 + B * val B ((List.range m).map (fun k => F (k + 1))) := by
  rw [List.range_succ_eq_map, List.map_cons, List.map_map, val]
  rfl

theorem val_map_zero (B : Nat) (l : List Nat) : val B (l.map (fun _ => 0)) = 0 := by
  induction l with
  | nil => rfl
  | cons x xs ih => simp [val, ih]

theorem val_map_add (B : Nat) (F G : Nat → Nat) (l : List Nat) :
    val B (l.map (fun k => F k + G k)) = val B (l.map F) + val B (l.map G) := by
  induction l with
  | nil => rfl
  | cons x xs ih => simp only [List.map_cons, val, ih]; grind

theorem val_map_mul (B c : Nat) (F : Nat → Nat) (l : List Nat) :
    val B (l.map (fun k => c * F k)) = c * val B (l.map F) := by
  induction l with
  | nil => rfl
  | cons x xs ih => simp only [List.map_cons, val, ih]; grind

theorem val_getD_range (B : Nat) : ∀ (b : List Nat) (m : Nat), b.length ≤ m →
    val B ((List.range m).map (fun k => b.getD k 0)) = val B b
  | [], m, _ => by simp [val_map_zero, val]
  | y :: ys, 0, h => by simp at h
  | y :: ys, m + 1, h => by
    rw [val_map_range_succ]
    simp only [List.getD_cons_zero, List.getD_cons_succ, val]
    rw [val_getD_range B ys m (by simpa using h)]

theorem val_colSum (B : Nat) (b : List Nat) : ∀ (a : List Nat) (m : Nat), a.length + b.length ≤ m →
    val B ((List.range m).map (colSum a b)) = val B a * val B b
  | [], m, _ => by
    have : colSum [] b = fun _ => 0 := funext (colSum_nil b)
    rw [this, val_map_zero]; simp [val]
  | x :: xs, 0, h => by simp at h
  | x :: xs, m + 1, h => by
    have hl : xs.length + b.length ≤ m := by simp at h; omega
    have hb : b.length ≤ m + 1 := by omega
    rw [val_map_range_succ]
    simp only [colSum_cons_zero, colSum_cons_succ]
    rw [val_map_add, val_map_mul, val_colSum B b xs m hl]
    have e := val_getD_range B b (m + 1) hb
    rw [val_map_range_succ] at e
    simp only [val]
    rw [← e]
    grind

/-- a diagonal segment of index pairs covers the whole k-th column when everything outside it
    is out of range -/
theorem seg_eq_colSum (a b : List Nat) (s t cnt : Nat) (h1 : cnt ≤ t + 1)
    (hstart : s = 0 ∨ b.length ≤ t + 1) (hend : a.length ≤ s + cnt ∨ cnt = t + 1) :
    sumTo (fun j => a.getD (s + j) 0 * b.getD (t - j) 0) cnt = colSum a b (s + t) := by
  unfold colSum
  have e : s + t + 1 = s + (cnt + (t + 1 - cnt)) := by omega
  rw [e, sumTo_add, sumTo_add]
  have z1 : sumTo (fun i => a.getD i 0 * b.getD (s + t - i) 0) s = 0 := by
    apply sumTo_zero; intro i hi
    rcases hstart with h | h
    · omega
    · show a.getD i 0 * b.getD (s + t - i) 0 = 0
      rw [getD_ge b _ (by omega)]; simp
  have z3 : sumTo (fun i => a.getD (s + (cnt + i)) 0 * b.getD (s + t - (s + (cnt + i))) 0)
      (t + 1 - cnt) = 0 := by
    apply sumTo_zero; intro i hi
    rcases hend with h | h
    · show a.getD (s + (cnt + i)) 0 * _ = 0
      rw [getD_ge a _ (by omega)]; simp
    · omega
  rw [z1, z3]
  simp only [Nat.zero_add, Nat.add_zero]
  apply sumTo_congr; intro j hj
  show _ = a.getD (s + j) 0 * b.getD (s + t - (s + j)) 0
  have : s + t - (s + j) = t - j := by omega
  rw [this]

theorem seg_high (a b : List Nat) (n k : Nat) (ha : a.length ≤ n) (hb : b.length ≤ n) (hk : k < n) :
    sumTo (fun j => a.getD (k + 1 + j) 0 * b.getD (n - 1 - j) 0) (n - (k + 1)) = colSum a b (n + k) := by
  have := seg_eq_colSum a b (k + 1) (n - 1) (n - (k + 1)) (by omega) (Or.inr (by omega)) (Or.inl (by omega))
  rwa [show k + 1 + (n - 1) = n + k by omega] at this

theorem sumTo_sym : ∀ (L : Nat) (f : Nat → Nat), (∀ j, j < L → f j = f (L - 1 - j)) →
    sumTo f L = 2 * sumTo f (L / 2) + (if L % 2 = 1 then f (L / 2) else 0)
  | 0, f, _ => rfl
  | 1, f, _ => by simp [sumTo]
  | L + 2, f, h => by
    have ih := sumTo_sym L (fun i => f (i + 1)) (by
      intro j hj
      have := h (j + 1) (by omega)
      show f (j + 1) = f (L - 1 - j + 1)
      rw [this]; congr 1; omega)
    have e0 : f (L + 1) = f 0 := by
      have := h 0 (by omega)
      rw [this]; rfl
    show sumTo f (L + 1) + f (L + 1) = _
    rw [sumTo_succ_front f L, ih, e0]
    have e1 : (L + 2) / 2 = L / 2 + 1 := by omega
    have e2 : (L + 2) % 2 = L % 2 := by omega
    rw [e1, e2, sumTo_succ_front f (L / 2)]
    split <;> omega

theorem cols_seg (a b : List Nat) (s t cnt k : Nat) (h1 : cnt ≤ t + 1)
    (hstart : s = 0 ∨ b.length ≤ t + 1) (hend : a.length ≤ s + cnt ∨ cnt = t + 1)
    (hk : s + t = k) :
    colVal a b ((List.range cnt).map fun j => (s + j, t - j)) = colSum a b k := by
  rw [colVal_map_range, ← hk]
  exact seg_eq_colSum a b s t cnt h1 hstart hend

theorem comba_generic (B : Nat) (hB : 1 < B) {γ : Type}
    (proc : γ → Nat × Nat × Nat → Nat × Nat × Nat) (v : γ → Nat) (cols : List γ)
    (hproc : ∀ c ∈ cols, ∀ r : Nat × Nat × Nat, r.1 = 0 → r.2.1 < B → r.2.2 < B →
      regVal B (proc c r) = regVal B r + v c
      ∧ (proc c r).1 < B ∧ (proc c r).2.1 < B ∧ (proc c r).2.2 < B)
    (a b : List Nat) (hda : ∀ d ∈ a, d < B) (hdb : ∀ d ∈ b, d < B) (n : Nat)
    (hcols : cols.map v = (List.range n).map (colSum a b)) (hn : a.length + b.length = n) :
    val B (cols.foldl (colStep proc) ([], (0, 0, 0))).1.reverse = val B a * val B b
    ∧ (cols.foldl (colStep proc) ([], (0, 0, 0))).1.reverse.length = n
    ∧ (∀ d ∈ (cols.foldl (colStep proc) ([], (0, 0, 0))).1.reverse, d < B) := by
  obtain ⟨q1, q3, _⟩ := colFold_spec B proc v cols hproc ([], (0, 0, 0)) rfl
    (show 0 < B by omega) (show 0 < B by omega) (by simp)
  have q2 := colFold_length proc cols ([], (0, 0, 0))
  have hlen : cols.length = n := by
    have := congrArg List.length hcols
    simpa using this
  rw [hcols, val_colSum B b a n (by omega)] at q1
  simp only [List.length_nil, Nat.zero_add] at q2
  have hz : regVal B (0, 0, 0) = 0 := by simp [regVal]
  simp only [List.reverse_nil, val, List.length_nil, Nat.pow_zero, hz, Nat.zero_add,
    Nat.one_mul] at q1
  rw [q2, hlen] at q1
  have hlt : val B a * val B b < B ^ n := by
    rw [← hn, Nat.pow_add]
    exact Nat.mul_lt_mul'' (val_lt B a hda) (val_lt B b hdb)
  refine ⟨?_, by rw [List.length_reverse, q2, hlen], fun d hd => q3 d (List.mem_reverse.1 hd)⟩
  generalize regVal B (List.foldl (colStep proc) ([], 0, 0, 0) cols).2 = R at q1
  cases R with
  | zero => simpa using q1
  | succ R => rw [Nat.mul_succ] at q1; omega

theorem muldLow_eq (B : Nat) (a : List Nat) (sa : Nat) (b : List Nat) (sb : Nat) :
    muldLow B a sa b sb =
      ((((List.range sb).map fun i => (List.range (i + 1)).map fun j => (j, i - j)) ++
        ((List.range (sa - sb)).map fun k =>
          (List.range sb).map fun j => (k + 1 + j, sb - 1 - j)) ++
        ((List.range sb).map fun k =>
          (List.range (sa - ((sa - sb) + k + 1))).map fun j =>
            ((sa - sb) + k + 1 + j, sb - 1 - j))).foldl
        (colStep (mulProc B a b)) ([], (0, 0, 0))).1.reverse := rfl

end LowMul

theorem muldLow_spec (B : Nat) (hB : 1 < B) (a b : List Nat) (sa sb : Nat)
    (ha : a.length = sa) (hb : b.length = sb) (hab : sb ≤ sa) (hsb : 0 < sb) (hs : sb < B)
    (hda : ∀ d ∈ a, d < B) (hdb : ∀ d ∈ b, d < B) :
    val B (muldLow B a sa b sb) = val B a * val B b
    ∧ (muldLow B a sa b sb).length = sa + sb ∧ (∀ d ∈ muldLow B a sa b sb, d < B) := by
  rw [muldLow_eq]
  apply comba_generic B hB (mulProc B a b) (colVal a b) _ _ a b hda hdb (sa + sb) _ (by omega)
  · intro c hc
    apply mulProc_spec B hB a b hda hdb c
    simp only [List.mem_append, List.mem_map, List.mem_range] at hc
    rcases hc with (⟨i, hi, rfl⟩ | ⟨i, hi, rfl⟩) | ⟨i, hi, rfl⟩
    · simp; omega
    · simp; omega
    · simp; omega
  · have e : sa + sb = sb + (sa - sb) + sb := by omega
    rw [e, List.range_add, List.range_add]
    simp only [List.map_append, List.map_map]
    congr 1
    congr 1
    · apply List.map_congr_left
      intro i _
      exact colVal_map_range a b _ (i + 1)
    · apply List.map_congr_left
      intro k hk
      have hk := List.mem_range.1 hk
      exact cols_seg a b (k + 1) (sb - 1) sb (sb + k) (by omega)
        (Or.inr (by omega)) (Or.inr (by omega)) (by omega)
    · apply List.map_congr_left
      intro k hk
      have hk := List.mem_range.1 hk
      exact cols_seg a b ((sa - sb) + k + 1) (sb - 1) (sa - ((sa - sb) + k + 1))
        (sb + (sa - sb) + k) (by omega) (Or.inr (by omega)) (Or.inl (by omega)) (by omega)

theorem mulnLow_eq_muld (B : Nat) (a b : List Nat) (size : Nat) :
    mulnLow B a b size = muldLow B a size b size := by
  unfold mulnLow muldLow
  simp only [Nat.sub_self, List.range_zero, List.map_nil, List.append_nil, Nat.zero_add]

theorem muldLow_length (B : Nat) (a b : List Nat) (sa sb : Nat) (h : sb ≤ sa) :
    (muldLow B a sa b sb).length = sa + sb := by
  rw [LowMul.muldLow_eq, List.length_reverse, LowMul.colFold_length]
  simp only [List.length_nil, List.length_append, List.length_map, List.length_range]; omega

@[simp]
theorem mulnLow_length (B : Nat) (a b : List Nat) (size : Nat) : (mulnLow B a b size).length = 2 * size := by
  rw [mulnLow_eq_muld, muldLow_length _ _ _ _ _ (Nat.le_refl _), Nat.two_mul]

/-- `size < B` keeps every column sum inside the three-digit accumulator (true for every buildable precision,
    including the 8-bit digit build) -/
theorem mulnLow_spec (B : Nat) (hB : 1 < B) (a b : List Nat) (size : Nat)
    (ha : a.length = size) (hb : b.length = size) (hs : size < B)
    (hda : ∀ d ∈ a, d < B) (hdb : ∀ d ∈ b, d < B) :
    val B (mulnLow B a b size) = val B a * val B b
    ∧ (mulnLow B a b size).length = 2 * size ∧ (∀ d ∈ mulnLow B a b size, d < B) := by
  rw [Nat.two_mul]
  by_cases h0 : size = 0
  · subst h0
    rw [List.length_eq_zero_iff.1 ha, List.length_eq_zero_iff.1 hb]
    simp [mulnLow, val]
  · rw [mulnLow_eq_muld]
    exact muldLow_spec B hB a b size size ha hb (Nat.le_refl _) (Nat.pos_of_ne_zero h0) hs hda hdb

namespace LowMul

/-- the register part of `sqrColumn` -/
def sqrProc (B : Nat) (a : List Nat) (col : List (Nat × Nat) × Option Nat) (r : Nat × Nat × Nat) :
    Nat × Nat × Nat :=
  match col.2 with
  | some m =>
    combaStepMul B
      (col.1.foldl (fun acc ij => combaStepSqr B acc (a.getD ij.1 0) (a.getD ij.2 0)) r)
      (a.getD m 0) (a.getD m 0)
  | none => col.1.foldl (fun acc ij => combaStepSqr B acc (a.getD ij.1 0) (a.getD ij.2 0)) r

def sqrColVal (a : List Nat) (col : List (Nat × Nat) × Option Nat) : Nat :=
  2 * colVal a a col.1 + (match col.2 with | some m => a.getD m 0 * a.getD m 0 | none => 0)

theorem sqrnLow_eq (B : Nat) (a : List Nat) (size : Nat) :
    sqrnLow B a size =
      ((((List.range size).map fun i =>
          (((List.range ((i + 1) / 2)).map fun j => (j, i - j)),
            if i % 2 = 0 then some ((i + 1) / 2) else none)) ++
        ((List.range size).map fun i =>
          (((List.range ((size - 1 - i) / 2)).map fun j => (i + 1 + j, size - 1 - j)),
            if (size - i) % 2 = 0 then some (i + 1 + (size - 1 - i) / 2) else none))).foldl
        (colStep (sqrProc B a)) ([], (0, 0, 0))).1.reverse := by
  rfl

theorem sqrProc_spec (B : Nat) (hB : 1 < B) (a : List Nat) (hda : ∀ d ∈ a, d < B)
    (col : List (Nat × Nat) × Option Nat)
    (hlen : 2 * col.1.length + (match col.2 with | some _ => 1 | none => 0) < B)
    (r : Nat × Nat × Nat) (h0 : r.1 = 0) (h1 : r.2.1 < B) (h2 : r.2.2 < B) :
    regVal B (sqrProc B a col r) = regVal B r + sqrColVal a col
    ∧ (sqrProc B a col r).1 < B ∧ (sqrProc B a col r).2.1 < B
    ∧ (sqrProc B a col r).2.2 < B := by
  obtain ⟨pairs, mid⟩ := col
  have hs := reg_small B r _ h0 h1 h2 hlen
  have F := fun E => regFold B (combaStepSqr B) (fun x y => 2 * (x * y)) (2 * (B * B))
    (fun _ _ hx hy => Nat.mul_lt_mul_of_pos_left (Nat.mul_lt_mul'' hx hy) Nat.two_pos) (combaStepSqr_spec B hB) a a hda hda
    (fun ps => 2 * colVal a a ps) rfl (fun _ _ => Nat.mul_add ..) E pairs r (by omega) h1 h2
  cases mid with
  | none =>
    simp only [Nat.add_zero] at hs
    have hs' : regVal B r + pairs.length * (2 * (B * B)) + 0 ≤ B * B * B := by
      have : 2 * pairs.length * (B * B) = pairs.length * (2 * (B * B)) := by grind
      omega
    obtain ⟨e, _, g1, g2, g3⟩ := F 0 hs'
    simp only [sqrProc, sqrColVal, Nat.add_zero]
    exact ⟨e, g1, g2, g3⟩
  | some m =>
    have hs' : regVal B r + pairs.length * (2 * (B * B)) + B * B ≤ B * B * B := by
      have : (2 * pairs.length + 1) * (B * B) = pairs.length * (2 * (B * B)) + B * B := by grind
      simp only at hs
      omega
    obtain ⟨e, f, g1, g2, g3⟩ := F (B * B) hs'
    have hx := getD_lt B (by omega) a hda m
    have hxx : a.getD m 0 * a.getD m 0 < B * B := Nat.mul_lt_mul'' hx hx
    obtain ⟨e', k1, k2, k3⟩ := combaStepMul_spec B hB _ _ _ g1 g2 g3 hx hx (by omega)
    simp only [sqrProc, sqrColVal]
    refine ⟨?_, k1, k2, k3⟩
    rw [e', e]; omega

/-- a_i·a_j = a_j·a_i: the doubled first half of a column and its middle square make the whole segment -/
theorem sqr_col (a : List Nat) (s t L : Nat) (mid : Option Nat)
    (hL : L = 0 ∨ s + L = t + 1)
    (hmid : mid = if L % 2 = 1 then some (s + L / 2) else none) :
    sqrColVal a ((List.range (L / 2)).map (fun j => (s + j, t - j)), mid)
      = sumTo (fun j => a.getD (s + j) 0 * a.getD (t - j) 0) L := by
  have hsym : ∀ j, j < L → (fun j => a.getD (s + j) 0 * a.getD (t - j) 0) j
      = (fun j => a.getD (s + j) 0 * a.getD (t - j) 0) (L - 1 - j) := by
    intro j hj
    show a.getD (s + j) 0 * a.getD (t - j) 0
      = a.getD (s + (L - 1 - j)) 0 * a.getD (t - (L - 1 - j)) 0
    have e1 : s + (L - 1 - j) = t - j := by omega
    have e2 : t - (L - 1 - j) = s + j := by omega
    rw [e1, e2, Nat.mul_comm]
  rw [sumTo_sym L _ hsym]
  simp only [sqrColVal]
  rw [colVal_map_range, hmid]
  by_cases h : L % 2 = 1
  · rw [if_pos h, if_pos h]
    have : t - L / 2 = s + L / 2 := by omega
    simp only [this]
  · rw [if_neg h, if_neg h]

end LowMul

theorem sqrnLow_spec (B : Nat) (hB : 1 < B) (a : List Nat) (size : Nat)
    (ha : a.length = size) (hs : size < B) (hda : ∀ d ∈ a, d < B) :
    val B (sqrnLow B a size) = val B a * val B a
    ∧ (sqrnLow B a size).length = 2 * size ∧ (∀ d ∈ sqrnLow B a size, d < B) := by
  rw [sqrnLow_eq]
  apply comba_generic B hB (sqrProc B a) (sqrColVal a) _ _ a a hda hda (2 * size) _ (by omega)
  · intro c hc
    apply sqrProc_spec B hB a hda c
    simp only [List.mem_append, List.mem_map, List.mem_range] at hc
    rcases hc with ⟨i, hi, rfl⟩ | ⟨i, hi, rfl⟩
    · by_cases h : i % 2 = 0
      · simp [h]; omega
      · simp [h]; omega
    · by_cases h : (size - i) % 2 = 0
      · simp [h]; omega
      · simp [h]; omega
  · rw [Nat.two_mul, List.range_add, List.map_append, List.map_append, List.map_map, List.map_map,
      List.map_map]
    congr 1
    · apply List.map_congr_left
      intro i _
      have e : (fun j => (j, i - j)) = (fun j => (0 + j, i - j)) := by funext j; simp
      show sqrColVal a ((List.range ((i + 1) / 2)).map (fun j => (j, i - j)), _) = colSum a a i
      rw [e, sqr_col a 0 i (i + 1) _ (Or.inr (by omega))
        (by by_cases h : i % 2 = 0
            · rw [if_pos h, if_pos (by omega), Nat.zero_add]
            · rw [if_neg h, if_neg (by omega)])]
      have := seg_eq_colSum a a 0 i (i + 1) (Nat.le_refl _) (Or.inl rfl) (Or.inr rfl)
      rwa [Nat.zero_add] at this
    · apply List.map_congr_left
      intro i hi
      have hi := List.mem_range.1 hi
      show sqrColVal a ((List.range ((size - 1 - i) / 2)).map (fun j => (i + 1 + j, size - 1 - j)), _)
        = colSum a a (size + i)
      rw [sqr_col a (i + 1) (size - 1) (size - 1 - i) _ (Or.inr (by omega))
        (by by_cases h : (size - i) % 2 = 0
            · rw [if_pos h, if_pos (by omega)]
            · rw [if_neg h, if_neg (by omega)])]
      rw [Nat.sub_sub, Nat.add_comm 1 i]
      exact seg_high a a size i (Nat.le_of_eq ha) (Nat.le_of_eq ha) hi

end Relic.Model
