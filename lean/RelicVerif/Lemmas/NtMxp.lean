/-
Modular exponentiation (Model/NtMxp.lean): every algorithm returns a^|b| mod m (canonical), the early exits, the reported
errors and the inversion for negative exponents are exactly as specified by `MxpSpec`.
-/
import RelicVerif.Lemmas.PowLoop
import RelicVerif.Model.NtMxp
import RelicVerif.Lemmas.NtGcd
import Mathlib.Data.Int.ModEq
import Mathlib.RingTheory.Coprime.Lemmas
import Mathlib.Tactic.Ring

namespace Relic.Model.NtMxp
open Relic.Model Relic.Lemmas.PowLoop

theorem half_spec (m x : Int) (hodd : m % 2 = 1) (h0 : 0 ≤ x) (hx : x < m) :
    0 ≤ half m x ∧ half m x < m ∧ 2 * half m x ≡ x [ZMOD m] := by
  unfold half
  split
  · have h : 0 ≤ x / 2 ∧ x / 2 < m ∧ 2 * (x / 2) = x := by omega
    exact ⟨h.1, h.2.1, by rw [h.2.2]⟩
  · have h : 0 ≤ (x + m) / 2 ∧ (x + m) / 2 < m ∧ 2 * ((x + m) / 2) = x + m := by omega
    exact ⟨h.1, h.2.1, by rw [h.2.2]; exact Int.add_emod_right x m⟩

theorem halfIter_spec (m : Int) (hodd : m % 2 = 1) : ∀ (k : Nat) (x : Int), 0 ≤ x → x < m →
    0 ≤ halfIter m k x ∧ halfIter m k x < m ∧ 2 ^ k * halfIter m k x ≡ x [ZMOD m] := by
  intro k
  induction k with
  | zero => intro x h0 hx; simp [halfIter, h0, hx]
  | succ k ih =>
    intro x h0 hx
    obtain ⟨a0, a1, a2⟩ := half_spec m x hodd h0 hx
    obtain ⟨b0, b1, b2⟩ := ih (half m x) a0 a1
    refine ⟨b0, b1, ?_⟩
    show 2 ^ (k + 1) * halfIter m k (half m x) ≡ x [ZMOD m]
    have : (2 : Int) ^ (k + 1) * halfIter m k (half m x) = 2 * (2 ^ k * halfIter m k (half m x)) := by ring
    rw [this]
    exact (b2.mul_left 2).trans a2

structure Good (M : Mont) : Prop where
  inv : M.R * M.ri ≡ 1 [ZMOD M.m]

theorem ofMod_good (w : Nat) (m : Int) (hm : 1 < m) (hodd : m % 2 = 1) : Good (Mont.ofMod w m) ∧ (Mont.ofMod w m).m = m := by
  refine ⟨⟨?_⟩, rfl⟩
  exact (halfIter_spec m hodd _ 1 zero_le_one hm).2.2

def Rep (M : Mont) (x v : Int) : Prop := x ≡ v * M.R [ZMOD M.m]

theorem rep_conv (M : Mont) (a : Int) : Rep M (M.conv a) a :=
  (Int.mod_modEq _ _).trans ((Int.mod_modEq a M.m).mul_right M.R)

theorem rep_pow_zero (M : Mont) (a : Int) : Rep M (M.conv 1) (a ^ 0) := by rw [pow_zero]; exact rep_conv M 1

theorem rep_pow_one (M : Mont) (a : Int) : Rep M (M.conv a) (a ^ 1) := by rw [pow_one]; exact rep_conv M a

theorem redc_eq {M : Mont} (g : Good M) {x v : Int} (h : x ≡ v * M.R [ZMOD M.m]) : M.redc x = v % M.m := by
  have h1 := h.mul_right M.ri
  rw [mul_assoc v] at h1
  have h2 := h1.trans (g.inv.mul_left v)
  rwa [mul_one] at h2

theorem rep_mul {M : Mont} (g : Good M) {x y u v : Int} (hx : Rep M x u) (hy : Rep M y v) : Rep M (M.mul x y) (u * v) := by
  have h := hx.mul hy
  rw [mul_mul_mul_comm, ← mul_assoc] at h
  unfold Rep Mont.mul
  rw [redc_eq g h]
  exact Int.mod_modEq _ _

theorem rep_sqr {M : Mont} (g : Good M) {x u : Int} (hx : Rep M x u) : Rep M (M.sqr x) (u * u) := rep_mul g hx hx

theorem back_eq {M : Mont} (g : Good M) {x v : Int} (hx : Rep M x v) : M.back x = v % M.m := redc_eq g hx

theorem eq_emod_of_modEq {p r v : Int} (h0 : 0 ≤ r) (h1 : r < p) (h : r ≡ v [ZMOD p]) : r = v % p :=
  (Int.emod_eq_of_lt h0 h1).symm.trans h

theorem shr_ge (b i : Nat) (h : Rec.bitLen b ≤ i) : b >>> i = 0 :=
  Nat.shiftRight_eq_zero b i ((Lemmas.NatBits.bl_le_iff b i).1 h)

theorem carries {M : Mont} (g : Good M) (a : Int) : Carries M.mul M.sqr (fun t n => Rep M t (a ^ n)) :=
  ⟨fun hx hy => by rw [pow_add]; exact rep_mul g hx hy, fun hx => by rw [two_mul, pow_add]; exact rep_sqr g hx⟩

theorem sqmLoop_spec {M : Mont} (g : Good M) (a t : Int) (b : Nat) (ht : Rep M t a) :
    ∀ (i : Nat) (c : Int), Rep M c (a ^ (b >>> i)) → Rep M (sqmLoop M t b i c) (a ^ b)
  | 0, _, hc => hc
  | i + 1, _, hc => sqmLoop_spec g a t b ht i _
    (by simpa only [bit, decide_eq_true_eq] using (carries g a).bit_step (t := t) (by rwa [pow_one]) b i hc)

theorem basicCore_eq (w : Nat) (a : Int) (b : Nat) (m : Int) (hm : 1 < m) (hodd : m % 2 = 1) (hb : 0 < b) :
    basicCore w a b m = a ^ b % m := by
  obtain ⟨g, hmm⟩ := ofMod_good w m hm hodd
  unfold basicCore
  have ht := rep_conv (Mont.ofMod w m) a
  have h := sqmLoop_spec g a _ b ht (Rec.bitLen b - 1) _ (by rw [Rec.shr_top b hb, pow_one]; exact ht)
  simpa [hmm] using back_eq g h

theorem ladder_spec {M : Mont} (g : Good M) (a : Int) (b : Nat) :
    ∀ (i : Nat) (s : Int × Int), Rep M s.1 (a ^ (b >>> i)) → Rep M s.2 (a ^ (b >>> i + 1)) →
      Rep M (ladder M b i s).1 (a ^ b)
  | 0, _, h1, _ => h1
  | i + 1, s, h1, h2 => by
    have hs := (carries g a).ladder_step b i h1 h2
    rw [ladder]
    simp only [bit, decide_eq_true_eq]
    by_cases hb : (b >>> i) % 2 = 1
    · rw [if_pos hb] at hs ⊢; exact ladder_spec g a b i _ hs.1 hs.2
    · rw [if_neg hb] at hs ⊢; exact ladder_spec g a b i _ hs.1 hs.2.1

theorem montyCore_eq (w : Nat) (a : Int) (b : Nat) (m : Int) (hm : 1 < m) (hodd : m % 2 = 1) :
    montyCore w a b m = a ^ b % m := by
  obtain ⟨g, hmm⟩ := ofMod_good w m hm hodd
  unfold montyCore
  have h := ladder_spec g a b (Rec.bitLen b) ((Mont.ofMod w m).conv 1, (Mont.ofMod w m).conv a)
    (by rw [shr_ge b _ (Nat.le_refl _)]; exact rep_pow_zero _ a)
    (by rw [shr_ge b _ (Nat.le_refl _), Nat.zero_add]; exact rep_pow_one _ a)
  simpa [hmm] using back_eq g h

theorem winWidth_pos (l : Nat) : 0 < winWidth l := by
  unfold winWidth
  split_ifs <;> decide

theorem mkTab_spec {M : Mont} (g : Good M) (a t2 : Int) (h2 : Rep M t2 (a ^ 2)) :
    ∀ (n : Nat) (t0 : Int) (s i : Nat), Rep M t0 (a ^ s) → i < n → Rep M ((mkTab M t2 n t0).getD i 0) (a ^ (s + 2 * i))
  | n + 1, _, _, 0, h0, _ => h0
  | n + 1, _, s, i + 1, h0, hi => by
    have := mkTab_spec g a t2 h2 n _ (s + 2) i ((carries g a).mul h0 h2) (by omega)
    rwa [show s + 2 + 2 * i = s + 2 * (i + 1) by ring] at this

theorem sqrN_rep {M : Mont} (g : Good M) : ∀ (j : Nat) (t u : Int), Rep M t u → Rep M (sqrN M j t) (u ^ 2 ^ j)
  | 0, _, _, h => by rwa [pow_zero, pow_one]
  | j + 1, _, u, h => by
    have := sqrN_rep g j _ (u * u) (rep_sqr g h)
    rwa [← pow_two, ← pow_mul, ← pow_succ'] at this

theorem slideCore_eq (w : Nat) (a : Int) (b : Nat) (m : Int) (hm : 1 < m) (hodd : m % 2 = 1) :
    slideCore w a b m = some (a ^ b % m) := by
  obtain ⟨g, hmm⟩ := ofMod_good w m hm hodd
  unfold slideCore
  have hwp := winWidth_pos (Rec.bitLen b)
  -- the recoding never reports ERR_NO_BUFFER: the capacity handed over is the bit length
  have hds := (Rec.recSlw_eq_some (w := winWidth (Rec.bitLen b))).2 ⟨le_refl (Rec.bitLen b), rfl⟩
  simp only [hds, Option.map_some, Option.some.injEq]
  set M := Mont.ofMod w m
  have ht0 := rep_pow_one M a
  have hr := slw_loop (fun t n => Rep M t (a ^ n)) (scanStep M (mkTab M (M.sqr (M.conv a)) _ (M.conv a))) _ b _ hwp
    (fun t n h => by rw [scanStep, if_pos rfl]; exact (carries g a).sqr h)
    (fun t n d _ hlt h => by
      rw [scanStep, if_neg (by omega), Int.toNat_natCast]
      have h2 := mkTab_spec g a _ ((carries g a).sqr ht0) _ (M.conv a) 1 (d / 2) ht0 (window_half_lt hwp hlt)
      exact (carries g a).mul_eq (by rw [pow_mul]; exact sqrN_rep g _ t _ h) h2 (by omega))
    _ hds (M.conv 1) (rep_pow_zero M a)
  rw [← hmm]
  exact back_eq g hr

theorem extBasicLoop_egcd (f u v : Nat) (d x1 e y1 : Int) (hf : v < f) :
    (NtGcd.extBasicLoop f u v d x1 e y1).1 = ((egcdLoop u v d x1).1 : Int) ∧
    (NtGcd.extBasicLoop f u v d x1 e y1).2.1 = (egcdLoop u v d x1).2 := by
  induction f generalizing u v d x1 e y1 with
  | zero => omega
  | succ f ih =>
    rw [egcdLoop]
    split
    · next h => subst h; rw [Nat.cast_zero, Relic.Lemmas.NtGcd.extBasicLoop_zero]; exact ⟨rfl, rfl⟩
    · next h =>
      rw [Relic.Lemmas.NtGcd.extBasicLoop_succ _ _ _ _ _ _ _ (by omega), ← Int.natCast_mod, ← Int.natCast_div]
      exact ih _ _ _ _ _ _ (by have := Nat.mod_lt u (Nat.pos_of_ne_zero h); omega)

theorem gcdExtD_eq (a b : Int) : gcdExtD a b = ((NtGcd.gcdExtBasic a b).1, (NtGcd.gcdExtBasic a b).2.1) := by
  unfold gcdExtD NtGcd.gcdExtBasic NtGcd.gcdExtBasicImp NtGcd.extSign
  split
  · next h => subst h; rfl
  · split
    · rfl
    · obtain ⟨h1, h2⟩ := extBasicLoop_egcd (b.natAbs + 1) a.natAbs b.natAbs 1 0 0 1 (Nat.lt_succ_self _)
      dsimp only
      rw [h1, h2]

theorem modInv_eq (a b : Int) : modInv a b = NtGcd.modInv a b := by
  unfold modInv NtGcd.modInv
  rw [gcdExtD_eq]

theorem modInv_spec (r m : Int) (hm : 1 < m) :
    (Int.gcd r m = 1 → ∃ x, modInv r m = some x ∧ 0 ≤ x ∧ x < m ∧ x * r ≡ 1 [ZMOD m]) ∧
    (Int.gcd r m ≠ 1 → modInv r m = none) := by
  obtain ⟨h1, h2⟩ := Relic.Lemmas.NtGcd.modInv_spec r m hm
  rw [modInv_eq]
  refine ⟨fun hg => ?_, h2.2⟩
  cases hx : NtGcd.modInv r m with
  | none => exact absurd hg (h2.1 hx)
  | some x =>
    obtain ⟨a1, a2, a3⟩ := h1 x hx
    exact ⟨x, rfl, a1, a2, by rw [mul_comm, Int.ModEq, a3, Int.emod_eq_of_lt zero_le_one hm]⟩

/-- the full input/output specification of bn_mxp_basic / slide / monty (BN_MOD = MONTY) on all integers -/
def MxpSpec (a b m : Int) (r : Option Int) : Prop :=
  if m = 1 then r = some 0
  else if b = 0 then r = some 1
  else if m % 2 = 0 ∨ m ≤ 0 then r = none
  else if 0 < b then r = some (a ^ b.natAbs % m)
  else if Int.gcd a m = 1 then ∃ x, r = some x ∧ 0 ≤ x ∧ x < m ∧ x * a ^ b.natAbs % m = 1
  else r = none

theorem gcd_pow_mod (a m : Int) (n : Nat) (hn : 0 < n) : Int.gcd (a ^ n % m) m = 1 ↔ Int.gcd a m = 1 := by
  rw [Int.gcd_emod, ← Int.isCoprime_iff_gcd_eq_one, ← Int.isCoprime_iff_gcd_eq_one, IsCoprime.pow_left_iff hn]

theorem frame_spec (a b m : Int) (core : Option Int)
    (hcore : 1 < m → m % 2 = 1 → b ≠ 0 → core = some (a ^ b.natAbs % m)) :
    MxpSpec a b m (guard b m fun _ => core.bind (finish b m)) := by
  unfold MxpSpec guard
  by_cases h1 : m = 1
  · rw [if_pos h1, if_pos h1]
  rw [if_neg h1, if_neg h1]
  by_cases h2 : b = 0
  · rw [if_pos h2, if_pos h2]
  rw [if_neg h2, if_neg h2]
  by_cases h3 : m % 2 = 0 ∨ m ≤ 0
  · rw [if_pos h3, if_pos h3]
  have hm : 1 < m := by omega
  rw [if_neg h3, if_neg h3, hcore hm (by omega) h2, Option.bind_some, finish]
  by_cases h4 : 0 < b
  · rw [if_pos h4, if_neg h4.le.not_gt]
  rw [if_neg h4, if_pos (show b < 0 by omega)]
  have hn : 0 < b.natAbs := Int.natAbs_pos.mpr h2
  obtain ⟨hs, hn'⟩ := modInv_spec (a ^ b.natAbs % m) m hm
  rw [Ne, gcd_pow_mod a m _ hn] at hn'
  rw [gcd_pow_mod a m _ hn] at hs
  by_cases h5 : Int.gcd a m = 1
  · rw [if_pos h5]
    obtain ⟨x, hx, x0, x1, x2⟩ := hs h5
    refine ⟨x, hx, x0, x1, ?_⟩
    rw [← Int.emod_eq_of_lt zero_le_one hm]
    exact ((Int.mod_modEq _ _).mul_left x).symm.trans x2
  · rw [if_neg h5]
    exact hn' h5

theorem mxpSlide_spec (w : Nat) (a b m : Int) : MxpSpec a b m (mxpSlide w a b m) :=
  frame_spec a b m (slideCore w a b.natAbs m) (fun hm hodd _ => slideCore_eq w a _ m hm hodd)

/-- bn_mxp_dig: unsigned digit exponent -/
def MxpDigSpec (a : Int) (b : Nat) (m : Int) (r : Option Int) : Prop :=
  if m = 1 then r = some 0
  else if b = 0 then r = some 1
  else if m % 2 = 0 ∨ m ≤ 0 then r = none
  else r = some (a ^ b % m)

theorem mxpDig_eq_basic (w : Nat) (a : Int) (b : Nat) (m : Int) : mxpDig w a b m = mxpBasic w a b m := by
  simp only [mxpDig, mxpBasic, finish, Int.natAbs_natCast, if_neg (Int.natCast_nonneg b).not_gt]

theorem mxpDigSpec_iff (a : Int) (b : Nat) (m : Int) (r : Option Int) : MxpDigSpec a b m r ↔ MxpSpec a b m r := by
  unfold MxpDigSpec MxpSpec
  simp only [Nat.cast_eq_zero, Int.natAbs_natCast]
  by_cases hb : b = 0
  · simp only [hb, if_true]
  · simp only [hb, if_false, if_pos (show (0 : Int) < b by omega)]

theorem mxpSlide_nonneg (w : Nat) (a b m : Int) (hm : 1 < m) (hodd : m % 2 = 1) (hb : 0 ≤ b) :
    mxpSlide w a b m = some (a ^ b.toNat % m) := by
  have h := mxpSlide_spec w a b m
  unfold MxpSpec at h
  rw [if_neg (by omega)] at h
  by_cases h2 : b = 0
  · rw [if_pos h2] at h
    rw [h, h2, Int.toNat_zero, pow_zero, Int.emod_eq_of_lt zero_le_one hm]
  · rw [if_neg h2, if_neg (by omega), if_pos (by omega)] at h
    rw [h, show b.toNat = b.natAbs by omega]

theorem addLoop_modEq (p : Int) : ∀ (f : Nat) (d : Int), addLoop p f d ≡ d [ZMOD p] := by
  intro f
  induction f with
  | zero => intro d; simp [addLoop]
  | succ f ih =>
    intro d
    simp only [addLoop]
    split
    · exact (ih (d + p)).trans (by simp [Int.ModEq])
    · rfl

/-- the fuel handed to the loop is enough: it ends with a non-negative value -/
theorem addLoop_nonneg (p : Int) (hp : 0 < p) : ∀ (f : Nat) (d : Int), -(f : Int) ≤ d → 0 ≤ addLoop p f d := by
  intro f
  induction f with
  | zero => intro d h; simp only [addLoop]; omega
  | succ f ih =>
    intro d h
    simp only [addLoop]
    split
    · exact ih _ (by push_cast at h; omega)
    · omega

theorem crtTail_spec (p q qi t u : Int) (hp : 0 < p) (hq : 0 < q) (hqi : qi * q ≡ 1 [ZMOD p]) (hu0 : 0 ≤ u) (hu1 : u < q) :
    0 ≤ crtTail p q qi t u ∧ crtTail p q qi t u < p * q ∧ crtTail p q qi t u ≡ t [ZMOD p] ∧ crtTail p q qi t u ≡ u [ZMOD q] := by
  unfold crtTail
  dsimp only
  have h1 : addLoop p (t - u).natAbs (t - u) ≡ t - u [ZMOD p] := addLoop_modEq p _ _
  generalize addLoop p (t - u).natAbs (t - u) = d1 at h1
  have a1 : d1 * qi % p ≡ d1 * qi [ZMOD p] := Int.mod_modEq _ _
  have h20 : 0 ≤ d1 * qi % p := Int.emod_nonneg _ hp.ne'
  have h21 : d1 * qi % p < p := Int.emod_lt_of_pos _ hp
  generalize d1 * qi % p = d2 at a1 h20 h21
  have hle : (d2 + 1) * q ≤ p * q := mul_le_mul_of_nonneg_right h21 hq.le
  refine ⟨add_nonneg (mul_nonneg h20 hq.le) hu0, by rw [add_mul, one_mul] at hle; omega, ?_, Int.mul_add_emod_self_right _ _ _⟩
  -- d2·q + u ≡ (t − u)·(qi·q) + u ≡ t
  have a2 : d2 * q ≡ (t - u) * (qi * q) [ZMOD p] := by
    rw [← mul_assoc]
    exact (a1.trans (h1.mul_right qi)).mul_right q
  have a5 := (a2.trans (hqi.mul_left _)).add_right u
  rwa [mul_one, sub_add_cancel] at a5

/-- L(x) = (x − 1)/p with floor division, times dp, mod p — what the sqr branch computes from a^b mod p² -/
def crtHalf (a b p dp : Int) : Int := (((a ^ b.toNat % (p * p) - 1) / p) * dp) % p

theorem one_lt_mul_self {p : Int} (hp : 1 < p) : 1 < p * p :=
  hp.trans (lt_mul_of_one_lt_left (zero_lt_one.trans hp) hp)

/-! ### for bn_mxp_sim, bn_mxp_sim_few and bn_mxp_sim_lot -/

theorem bit_ne_zero {b i : Nat} (h : bit b i = true) : b ≠ 0 := by
  rintro rfl
  simp [bit] at h

/-- the full behaviour of bn_mxp_sim on all integers: the signs of the exponents are ignored -/
def SimSpec (a b d e m : Int) (r : Option Int) : Prop :=
  if m = 1 then r = some 0
  else if m % 2 = 0 ∨ m ≤ 0 then r = none
  else r = some (a ^ b.natAbs * d ^ e.natAbs % m)

end Relic.Model.NtMxp
