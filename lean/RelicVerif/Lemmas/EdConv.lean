/-
The Edwards point codec (Model/EdConv.lean; ed_read_bin / ed_write_bin / ed_size_bin / ed_pck / ed_upk) over Z/pZ for a prime p, with
the square root and the inversion of the field as parameters with their contracts, and a toy curve on which the contracts hold. The
round trips themselves are in Props/C17.lean.
-/
import Mathlib.Data.ZMod.Basic
import Mathlib.Tactic.Ring
import Mathlib.Tactic.LinearCombination
import RelicVerif.Model.EdConv
import RelicVerif.Lemmas.EpConv

namespace Relic.Model.EdConv
open Relic.Spec.Edwards Relic.Lemmas.Codec
open Relic.Model.EpConv (beBytes beVal beBytes_length length_comp length_unc sq_eq pick_root pick_sign parity_neg bf_sound
  bf_complete)

/-- contract of fp_srt: soundness -/
def SrtSound (x : Ctx) : Prop := ∀ a r, x.srt a = some r → r < x.c.p ∧ r * r % x.c.p = a % x.c.p
/-- … and completeness -/
def SrtComplete (x : Ctx) : Prop := ∀ a y, y < x.c.p → y * y % x.c.p = a % x.c.p → (x.srt a).isSome
/-- contract of fp_inv -/
def InvSound (x : Ctx) : Prop := ∀ a, a % x.c.p ≠ 0 → a * x.inv a % x.c.p = 1
/-- the Montgomery radix is a unit modulo p (it is a power of two and p is odd) -/
def RUnit (x : Ctx) : Prop := ∀ v, v < x.c.p → v * x.R % x.c.p = 0 → v = 0
/-- d·y² ≠ a for every y: holds when a/d is not a square (a a square, d not: the completeness condition) -/
def DenNonzero (x : Ctx) : Prop := ∀ y, y < x.c.p → fsub x.c (x.c.d * (y * y % x.c.p)) x.c.a ≠ 0

theorem signBit_le_one (x : Ctx) (v : Nat) : signBit x v ≤ 1 := by
  unfold signBit; omega

theorem signBit_zero (x : Ctx) : signBit x 0 = 0 := by
  simp [signBit]

theorem signBit_neg (x : Ctx) (hodd : x.c.p % 2 = 1) (hR : RUnit x) (v : Nat) (h0 : 0 < v) (hv : v < x.c.p) :
    signBit x v ≠ signBit x (x.c.p - v) :=
  parity_neg hodd hR v h0 hv

theorem onCurve_pair {c : Curve} {px py : Nat} (h : onCurve c (px, py) = true) :
    px < c.p ∧ py < c.p ∧
      (c.a * (px * px % c.p) + py * py) % c.p = (1 + c.d * (px * px % c.p) % c.p * (py * py % c.p)) % c.p := by
  simpa [onCurve, and_assoc] using h

theorem neutral_onCurve (c : Curve) (hp : 1 < c.p) : onCurve c (neutral c) = true := by
  have h1 : 1 % c.p = 1 := Nat.mod_eq_of_lt hp
  simp [onCurve, neutral, h1]
  omega

theorem isNeutral_iff (x : Ctx) (P : Point) : isNeutral x P = true ↔ P = neutral x.c := by
  rcases P with ⟨px, py⟩
  simp [isNeutral, neutral]

theorem fsub_cast (c : Curve) (hp : 0 < c.p) (a b : Nat) : ((fsub c a b : Nat) : ZMod c.p) = (a : ZMod c.p) - b := by
  unfold fsub
  have hle : b % c.p ≤ a + c.p := by
    have := Nat.mod_lt b hp
    omega
  rw [ZMod.natCast_mod, Nat.cast_sub hle, Nat.cast_add, ZMod.natCast_self, ZMod.natCast_mod]
  ring

theorem upk_eq_some {x : Ctx} {py bit : Nat} {P : Point} : upk x py bit = some P ↔
    fsub x.c (x.c.d * (py * py % x.c.p)) x.c.a ≠ 0 ∧ ∃ r, x.srt (upkRhs x py) = some r ∧
      ((if signBit x r ≠ bit then (x.c.p - r) % x.c.p else r), py) = P := by
  unfold upk
  dsimp only
  split
  · simp [*]
  · cases x.srt _ with
    | none => simp [*]
    | some r => simp only [Option.some.injEq, exists_eq_left', ne_eq, not_false_eq_true, true_and, *]; split <;> simp

/-- on a curve point, x² is the quantity whose square root `upk` takes: a·x² + y² = 1 + d·x²·y² gives
    x²·(d·y² − a) = y² − 1, and the denominator is invertible -/
theorem upkRhs_eq {x : Ctx} (hprime : Nat.Prime x.c.p) (hi : InvSound x) (hden : DenNonzero x) {px py : Nat}
    (hon : onCurve x.c (px, py) = true) : px * px % x.c.p = upkRhs x py % x.c.p := by
  obtain ⟨hpx, hpy, heq⟩ := onCurve_pair hon
  have : Fact x.c.p.Prime := Fact.mk hprime
  have hp0 : 0 < x.c.p := hprime.pos
  have hd0 : fsub x.c (x.c.d * (py * py % x.c.p)) x.c.a % x.c.p ≠ 0 := by
    rw [Nat.mod_eq_of_lt (show fsub _ _ _ < _ from Nat.mod_lt _ hp0)]; exact hden py hpy
  have hinv := hi _ hd0
  unfold upkRhs
  dsimp only
  obtain ⟨iv, hiv⟩ : ∃ iv, iv = x.inv (fsub x.c (x.c.d * (py * py % x.c.p)) x.c.a) := ⟨_, rfl⟩
  rw [← hiv] at hinv ⊢
  have e1 := (ZMod.natCast_eq_natCast_iff' _ _ _).mpr (hinv.trans (Nat.mod_eq_of_lt hprime.one_lt).symm)
  have e2 := (ZMod.natCast_eq_natCast_iff' _ _ _).mpr heq
  apply (ZMod.natCast_eq_natCast_iff' _ _ _).mp
  push_cast [ZMod.natCast_mod, fsub_cast _ hp0] at e1 e2 ⊢
  linear_combination (-(px : ZMod x.c.p) * px) * e1 + (-(iv : ZMod x.c.p)) * e2

theorem upk_pck (x : Ctx) (hprime : Nat.Prime x.c.p) (hodd : x.c.p % 2 = 1) (hs : SrtSound x) (hc : SrtComplete x)
    (hi : InvSound x) (hR : RUnit x) (hden : DenNonzero x) (P : Point) (hP : onCurve x.c P = true) :
    upk x (pck x P).2 (pck x P).1 = some P := by
  rcases P with ⟨px, py⟩
  obtain ⟨hpx, hpy, _⟩ := onCurve_pair hP
  have hX := upkRhs_eq hprime hi hden hP
  obtain ⟨r, hr⟩ := Option.isSome_iff_exists.mp (hc (upkRhs x py) px hpx hX)
  obtain ⟨hrp, hrr⟩ := hs _ _ hr
  show upk x py (signBit x px) = some (px, py)
  exact upk_eq_some.mpr ⟨hden py hpy, r, hr,
    by rw [pick_root hprime.eq_one_or_self_of_dvd (signBit_neg x hodd hR) hrp hpx (hrr.trans hX.symm)]⟩

theorem upk_x0 {x : Ctx} (hprime : Nat.Prime x.c.p) (hs : SrtSound x) (hc : SrtComplete x) (hden : DenNonzero x)
    {py : Nat} (hon : onCurve x.c (0, py) = true) (bit : Nat) : upk x py bit = some (0, py) := by
  obtain ⟨_, hpy, heq⟩ := onCurve_pair hon
  have hp0 : 0 < x.c.p := hprime.pos
  have h1 : 1 % x.c.p = 1 := Nat.mod_eq_of_lt hprime.one_lt
  simp only [Nat.mul_zero, Nat.zero_mod, Nat.zero_add, Nat.zero_mul, Nat.add_zero, h1] at heq
  have hf : fsub x.c (py * py) 1 = 0 := by
    unfold fsub
    rw [h1]
    exact Nat.sub_mod_eq_zero_of_mod_eq (by rw [Nat.add_mod_right, heq, h1])
  have hrhs : upkRhs x py = 0 := by
    unfold upkRhs
    dsimp only
    rw [hf, Nat.zero_mul, Nat.zero_mod]
  obtain ⟨r, hr⟩ := Option.isSome_iff_exists.mp (hc 0 0 hp0 rfl)
  obtain ⟨hrp, hrr⟩ := hs _ _ hr
  have hr0 : r = 0 := by
    rcases sq_eq hprime.eq_one_or_self_of_dvd hrp hp0 hrr with h | h <;> omega
  subst hr0
  exact upk_eq_some.mpr ⟨hden py hpy, 0, hrhs ▸ hr, by split <;> simp⟩

theorem writeBin_error_iff (x : Ctx) (len : Nat) (P : Point) (pack : Bool) :
    writeBin x len P pack = none ↔ len < sizeBin x P pack := by
  unfold writeBin sizeBin
  cases isNeutral x P
  · cases pack <;> simp
  · simp

theorem writeBin_neutral (x : Ctx) (P : Point) (pack : Bool) (hn : isNeutral x P = true) :
    writeBin x 1 P pack = some [0] := by
  simp [writeBin, hn]

theorem writeBin_pack (x : Ctx) (P : Point) (hn : isNeutral x P = false) :
    writeBin x (x.nb + 1) P true = some (UInt8.ofNat (2 + signBit x P.1) :: beBytes P.2 x.nb) := by
  simp [writeBin, hn]

theorem writeBin_unpack (x : Ctx) (P : Point) (hn : isNeutral x P = false) :
    writeBin x (2 * x.nb + 1) P false = some (4 :: (beBytes P.2 x.nb ++ beBytes P.1 x.nb)) := by
  simp [writeBin, hn]

-- the two sides differ only in the names of the auxiliary functions `match` is compiled to, which `rfl` unfolds
-- only without smart unfolding
set_option smartUnfolding false in
theorem readBin_eq (x : Ctx) : readBin x = frame 0 4 UInt8.toNat x.nb (fpRd x.nb x.c.p) (neutral x.c)
    (fun py bit => (upk x py bit).bind (Option.guard (onCurve x.c))) (fun py px => Option.guard (onCurve x.c) (px, py)) := rfl

theorem readBin_cases {x : Ctx} {bin : Bytes} {P : Point} (h : readBin x bin = some P) :
    (bin = [0] ∧ P = neutral x.c) ∨
    (x.nb ≠ 0 ∧ ∃ tag py, bin = tag :: beBytes py x.nb ∧ (tag.toNat = 2 ∨ tag.toNat = 3) ∧
      upk x py (tag.toNat - 2) = some P ∧ onCurve x.c P = true) ∨
    (x.nb ≠ 0 ∧ ∃ px py, bin = 4 :: (beBytes py x.nb ++ beBytes px x.nb) ∧ onCurve x.c (px, py) = true ∧ P = (px, py)) := by
  rw [readBin_eq] at h
  rcases frame_cases h with h | ⟨hn, tag, r, py, rfl, hpy, ht, hc⟩ | ⟨hn, r, s, py, px, rfl, -, hpy, hpx, hc⟩
  · exact .inl h
  · obtain ⟨Q, hQ, hc⟩ := Option.bind_eq_some_iff.mp hc
    obtain ⟨rfl, hon⟩ := Option.guard_eq_some_iff.mp hc
    exact .inr (.inl ⟨hn, tag, py, by rw [fpRd_bytes hpy], ht, hQ, hon⟩)
  · obtain ⟨rfl, hon⟩ := Option.guard_eq_some_iff.mp hc
    exact .inr (.inr ⟨hn, px, py, by rw [fpRd_bytes hpy, fpRd_bytes hpx], hon, rfl⟩)

theorem readBin_tag (x : Ctx) (hnb : x.c.p ≤ 256 ^ x.nb) (hnb0 : 0 < x.nb) (py bit : Nat) (P : Point) (hbit : bit ≤ 1)
    (hpy : py < x.c.p) (hupk : upk x py bit = some P) (hon : onCurve x.c P = true) :
    readBin x (UInt8.ofNat (2 + bit) :: beBytes py x.nb) = some P := by
  rw [readBin_eq, frame_comp (by omega) _ _ (beBytes_length py x.nb), fpRd_beBytes hnb hpy,
    Option.bind_some, tag_toNat hbit, if_neg (by omega), Nat.add_sub_cancel_left, hupk]
  exact if_pos hon

theorem readBin_rejects_unreduced (x : Ctx) (tag : UInt8) (by_ bx : Bytes) (hl : by_.length = x.nb)
    (hy : x.c.p ≤ beVal by_) (h1 : x.nb ≠ 0) :
    readBin x (tag :: by_) = none ∧ (bx.length = x.nb → readBin x (tag :: by_ ++ bx) = none) := by
  have hf : fpRd x.nb x.c.p by_ = none := by
    simp [fpRd, hl, Nat.not_lt.mpr hy]
  constructor
  · rw [readBin_eq, frame_comp h1 _ _ hl, hf]
    rfl
  · intro hbx
    rw [readBin_eq, List.cons_append, frame_unc h1 _ _ _ hl hbx, hf]
    split <;> rfl

/-- malleability: a curve point (0, y), i.e. y = ±1, the neutral element and the point of order 2, is accepted under both tags `02`
    and `03`: the negation of the root 0 is 0. What ed_write_bin emits for them (`02 ‖ y` for (0, −1), the single byte 0 for (0, 1))
    is evaluated for the toy curve below. -/
theorem readBin_x0_malleable (x : Ctx) (hprime : Nat.Prime x.c.p) (hnb : x.c.p ≤ 256 ^ x.nb) (hnb0 : 0 < x.nb)
    (hs : SrtSound x) (hc : SrtComplete x) (hden : DenNonzero x) (py : Nat) (hon : onCurve x.c (0, py) = true) :
    readBin x (2 :: beBytes py x.nb) = some (0, py) ∧ readBin x (3 :: beBytes py x.nb) = some (0, py) := by
  obtain ⟨_, hpy, _⟩ := onCurve_pair hon
  exact ⟨readBin_tag x hnb hnb0 py 0 (0, py) (by omega) hpy (upk_x0 hprime hs hc hden hon 0) hon,
    readBin_tag x hnb hnb0 py 1 (0, py) (by omega) hpy (upk_x0 hprime hs hc hden hon 1) hon⟩

/-! ### a toy curve over F₁₃ -/

section Toy

def bfSrt (p : Nat) : Nat → Option Nat := fun a => (List.range p).find? fun r => r * r % p = a % p
def bfInv (p : Nat) : Nat → Nat := fun a => ((List.range p).find? fun i => a % p * i % p = 1).getD 0

/-- −x² + y² = 1 + 2·x²·y² over F₁₃ (−1 = 5² a square, 2 a non-square: the complete case), 1-byte field elements,
    Montgomery radix 2⁸ -/
def toy : Ctx := { c := { p := 13, a := 12, d := 2 }, nb := 1, R := 256, srt := bfSrt 13, inv := bfInv 13 }

theorem bfSrt_sound (x : Ctx) (h : x.srt = bfSrt x.c.p) : SrtSound x :=
  fun _ _ hr => bf_sound (by rw [h] at hr; exact hr)

theorem bfSrt_complete (x : Ctx) (h : x.srt = bfSrt x.c.p) : SrtComplete x :=
  fun _ _ hy hyy => by rw [h]; exact bf_complete hy hyy

theorem toy_inv : InvSound toy := by
  intro a ha
  have hlt : a % 13 < 13 := Nat.mod_lt _ (by decide)
  have key : ∀ b, b < 13 → b ≠ 0 → b * bfInv 13 b % 13 = 1 := by decide
  have e : bfInv 13 a = bfInv 13 (a % 13) := by simp [bfInv]
  show a * bfInv 13 a % 13 = 1
  rw [e, Nat.mul_mod, Nat.mul_mod_mod]
  exact key _ hlt ha

/-- every hypothesis of the theorems above and of the round trips of Props/C17.lean holds for the toy context -/
example : Nat.Prime toy.c.p ∧ toy.c.p % 2 = 1 ∧ toy.c.p ≤ 256 ^ toy.nb ∧ 0 < toy.nb ∧ SrtSound toy ∧ SrtComplete toy ∧
    InvSound toy ∧ RUnit toy ∧ DenNonzero toy := by
  refine ⟨by decide, by decide, by decide, by decide, bfSrt_sound _ rfl, bfSrt_complete _ rfl, toy_inv, ?_, ?_⟩
  · have : ∀ v, v < 13 → v * 256 % 13 = 0 → v = 0 := by decide
    exact this
  · have : ∀ y, y < 13 → fsub toy.c (toy.c.d * (y * y % toy.c.p)) toy.c.a ≠ 0 := by decide
    exact this

/-- the functions compute: 3·256 mod 13 = 1 is odd, so (3, 2) is written `03 02` and its negative `02 02`; (0, 12) is the point of
    order 2 of `readBin_x0_malleable`; the last three strings are an unreduced coordinate, a y without x and a point off the curve -/
example : onCurve toy.c (3, 2) = true ∧
    writeBin toy 3 (3, 2) false = some [4, 2, 3] ∧ writeBin toy 2 (3, 2) true = some [3, 2] ∧
    writeBin toy 2 (10, 2) true = some [2, 2] ∧
    readBin toy [4, 2, 3] = some (3, 2) ∧ readBin toy [3, 2] = some (3, 2) ∧ readBin toy [2, 2] = some (10, 2) ∧
    writeBin toy 1 (neutral toy.c) true = some [0] ∧ readBin toy [0] = some (0, 1) ∧
    readBin toy [2, 12] = some (0, 12) ∧ readBin toy [3, 12] = some (0, 12) ∧ writeBin toy 2 (0, 12) true = some [2, 12] ∧
    readBin toy [2, 13] = none ∧ readBin toy [2, 5] = none ∧ readBin toy [4, 2, 4] = none := by decide

/-- DECODE ∘ ENCODE on every point of the toy curve (16 points), both formats, by evaluation -/
example : ∀ px, px < 13 → ∀ py, py < 13 → onCurve toy.c (px, py) = true → ∀ pack : Bool,
    (writeBin toy (sizeBin toy (px, py) pack) (px, py) pack).bind (readBin toy) = some (px, py) := by decide +kernel

end Toy

end Relic.Model.EdConv
