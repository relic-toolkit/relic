/-
Exponentiation loops of Model/FpAlg.lean (fp_exp_basic, fp_exp_dig, fp_exp_monty, fp_exp_slide) compute a^e mod p
for every exponent: no primality, only a < p.  Instances of Lemmas/PowLoop for the canonical residues (`Res`).
-/
import RelicVerif.Model.FpAlg
import RelicVerif.Lemmas.PowLoop

namespace Relic.Model.FpAlg
open Relic.Model.Rec Relic.Lemmas.PowLoop

def Res (p a x n : Nat) : Prop := x = a ^ n % p

theorem carries (p a : Nat) : Carries (fmul p) (fsqr p) (Res p a) :=
  ⟨fun hx hy => by subst hx hy; rw [Res, Nat.pow_add]; exact (Nat.mul_mod ..).symm,
    fun hx => by subst hx; rw [Res, Nat.two_mul, Nat.pow_add]; exact (Nat.mul_mod ..).symm⟩

theorem res_one {p a : Nat} (ha : a < p) : Res p a a 1 := by rw [Res, Nat.pow_one, Nat.mod_eq_of_lt ha]

theorem res_zero (p a : Nat) : Res p a (1 % p) 0 := by rw [Res, Nat.pow_zero]

theorem expBasicLoop_inv (p a e : Nat) (ha : a < p) :
    ∀ i r, Res p a r (e >>> i) → Res p a (expBasicLoop p a e i r) e
  | 0, _, hr => hr
  | i + 1, _, hr => expBasicLoop_inv p a e ha i _ ((carries p a).bit_step (res_one ha) e i hr)

theorem ladderStep_eq (p : Nat) (j : Bool) (t : Nat × Nat) :
    ladderStep p j t = if j then (fmul p t.1 t.2, fsqr p t.2) else (fsqr p t.1, fmul p t.2 t.1) := by
  cases j <;> rfl

theorem ladderLoop_inv (p a e : Nat) :
    ∀ i t, Res p a t.1 (e >>> i) → Res p a t.2 (e >>> i + 1) → Res p a (ladderLoop p e i t).1 e
  | 0, _, h0, _ => h0
  | i + 1, t, h0, h1 => by
    have hs := (carries p a).ladder_step e i h0 h1
    rw [ladderLoop, ladderStep_eq]
    simp only [decide_eq_true_eq]
    by_cases hb : (e >>> i) % 2 = 1
    · rw [if_pos hb] at hs ⊢; exact ladderLoop_inv p a e i _ hs.1 hs.2
    · rw [if_neg hb] at hs ⊢; exact ladderLoop_inv p a e i _ hs.1 hs.2.2

theorem sqrN_res (p a : Nat) : ∀ j x n, Res p a x n → Res p a (sqrN p j x) (n * 2 ^ j)
  | 0, _, _, h => by rwa [Nat.pow_zero, Nat.mul_one]
  | j + 1, _, n, h => by
    have := sqrN_res p a j _ (2 * n) ((carries p a).sqr h)
    rwa [Nat.pow_succ', ← Nat.mul_assoc, Nat.mul_comm n]

theorem tabFrom_res (p a r : Nat) (hr : Res p a r 2) :
    ∀ n x s i, Res p a x s → i < n → Res p a ((tabFrom p r n x).getD i 0) (s + 2 * i)
  | n + 1, _, _, 0, hx, _ => hx
  | n + 1, _, s, i + 1, hx, hi => by
    have := tabFrom_res p a r hr n _ (s + 2) i ((carries p a).mul hx hr) (by omega)
    rwa [show s + 2 + 2 * i = s + 2 * (i + 1) by omega] at this

theorem slideTab_res (p a w i : Nat) (ha : a < p) (hi : i < 2 ^ (w - 1)) :
    Res p a ((slideTab p a w).getD i 0) (2 * i + 1) := by
  have := tabFrom_res p a _ ((carries p a).sqr (res_one ha)) _ a 1 i (res_one ha) hi
  rwa [Nat.add_comm] at this

theorem expSlideAbs_spec (c : Ctx) (a e : Nat) (ha : a < c.p) (hw : 0 < c.width) :
    expSlideAbs c a e = if bitLen e ≤ c.fb + 1 then some (a ^ e % c.p) else none := by
  unfold expSlideAbs
  by_cases h : bitLen e ≤ c.fb + 1
  · have hr := (recSlw_eq_some (w := c.width)).2 ⟨h, rfl⟩
    rw [if_pos h, hr]
    refine congrArg some (slw_loop (Res c.p a) _ _ e _ hw (fun r n hr => ?_) (fun r n d hodd hlt hr => ?_) _ hr _
      (res_zero c.p a))
    · rw [if_pos rfl]; exact (carries c.p a).sqr hr
    · rw [if_neg (by omega), Int.toNat_natCast]
      exact (carries c.p a).mul_eq (sqrN_res c.p a _ r n hr) (slideTab_res c.p a _ _ ha (window_half_lt hw hlt)) (by omega)
  · rw [if_neg h]
    cases hr : recSlw (c.fb + 1) e c.width with
    | none => rfl
    | some ds => exact absurd (recSlw_eq_some.1 hr).1 h

theorem fpExpNat_spec (c : Ctx) (a e : Nat) (ha : a < c.p) (hw : 0 < c.width) (he : bitLen e ≤ c.fb + 1) :
    fpExpNat c a e = some (a ^ e % c.p) := by
  unfold fpExpNat
  split
  · rename_i h; subst h; simp
  · rw [expSlideAbs_spec c a e ha hw, if_pos he]

end Relic.Model.FpAlg
