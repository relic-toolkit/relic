/-
Multiplication (by a digit, Comba, basic, Karatsuba), squaring (Comba, Karatsuba; the basic variant is in BnSqrBasic)
and bn_div_imp (Knuth D on the magnitudes, then the floor fix-up) of the public bn_* layer of the model.
-/
import RelicVerif.Lemmas.BnLowMul
import RelicVerif.Lemmas.KnuthD
import RelicVerif.Lemmas.BnHigh

namespace Relic.Model
open Relic.Lemmas (Ret)

variable (cfg : Cfg)

set_option linter.unnecessarySeqFocus false

theorem toInt_mul (B : Nat) (a b : Bn) : a.toInt B * b.toInt B =
    if (a.neg != b.neg) then -((val B a.dp * val B b.dp : Nat) : Int)
    else ((val B a.dp * val B b.dp : Nat) : Int) := by
  unfold Bn.toInt
  cases a.neg <;> cases b.neg <;> simp

/-- (`fin`: the final step of every multiplication) -/
theorem HighMul.mul_fin {B : Nat} (hB : 0 < B) (a b : Bn) (l : List Nat) (hl : ∀ d ∈ l, d < B)
    (hv : val B l = val B a.dp * val B b.dp) :
    (bnTrim { neg := a.neg != b.neg, dp := l }).WF B ∧
    (bnTrim { neg := a.neg != b.neg, dp := l }).toInt B = a.toInt B * b.toInt B := by
  rw [toInt_mul, ← hv]
  exact bnTrim_exact hB (a.neg != b.neg) l hl

theorem bnMulDig_eq (a : Bn) (d : Nat) : bnMulDig cfg a d =
    if a.used + 1 > cfg.cap then none
    else some (bnTrim { neg := a.neg, dp := (mul1Low cfg.B a.dp d 0).1 ++ [(mul1Low cfg.B a.dp d 0).2] }) := by
  unfold bnMulDig
  rw [grow_bind]
  rfl

theorem bnMulDig_exact (hw : 0 < cfg.w) (a : Bn) (d : Nat) (ha : a.WF cfg.B) (hd : d < cfg.B) :
    ExactR cfg.B (bnMulDig cfg a d) (a.toInt cfg.B * d) := by
  have hB := cfg.one_lt_B hw
  rw [bnMulDig_eq]
  obtain ⟨e, c1, d1, l1⟩ := mul1Low_spec cfg.B hB a.dp d 0 hd (by omega) ha.dig
  have := bnTrim_snoc_exact (B := cfg.B) (by omega) a.neg _ _ _ _ d1 c1 l1 e
  refine .guard (.ok ⟨this.1, ?_⟩)
  rw [this.2, Nat.add_zero]
  unfold Bn.toInt
  cases a.neg <;> simp

/-- the product-scanning multiplication as bn_mul_comba calls it: longer operand first -/
def combaDigits (B : Nat) (a b : List Nat) : List Nat :=
  if b.length ≤ a.length then muldLow B a a.length b b.length else muldLow B b b.length a a.length

theorem combaDigits_eq (B : Nat) (a b : List Nat) :
    (if a.length = b.length then mulnLow B a b a.length
     else if a.length > b.length then muldLow B a a.length b b.length
     else muldLow B b b.length a a.length) = combaDigits B a b := by
  unfold combaDigits
  split
  · next h => rw [if_pos (Nat.le_of_eq h.symm), mulnLow_eq_muld, h]
  · split
    · next h => rw [if_pos (Nat.le_of_lt h)]
    · rw [if_neg (by omega)]

theorem bnMulComba_eq (a b : Bn) : bnMulComba cfg a b =
    if a.used + b.used > cfg.cap then none
    else some (bnTrim { neg := a.neg != b.neg, dp := combaDigits cfg.B a.dp b.dp }) := by
  unfold bnMulComba
  rw [grow_bind, ← combaDigits_eq]
  rfl

theorem combaDigits_spec (B : Nat) (hB : 1 < B) (a b : List Nat) (ha : a ≠ []) (hb : b ≠ [])
    (hs : min a.length b.length < B) (hda : ∀ d ∈ a, d < B) (hdb : ∀ d ∈ b, d < B) :
    val B (combaDigits B a b) = val B a * val B b ∧ (∀ d ∈ combaDigits B a b, d < B) := by
  have hla := List.length_pos_iff.2 ha
  have hlb := List.length_pos_iff.2 hb
  unfold combaDigits
  split
  · obtain ⟨e, _, d⟩ := muldLow_spec B hB a b _ _ rfl rfl (by omega) hlb (by omega) hda hdb
    exact ⟨e, d⟩
  · obtain ⟨e, _, d⟩ := muldLow_spec B hB b a _ _ rfl rfl (by omega) hla (by omega) hdb hda
    exact ⟨e.trans (Nat.mul_comm _ _), d⟩

theorem bnMulComba_exact (hw : 0 < cfg.w) (a b : Bn) (ha : a.WF cfg.B) (hb : b.WF cfg.B)
    (hs : min a.used b.used < cfg.B) :
    ExactR cfg.B (bnMulComba cfg a b) (a.toInt cfg.B * b.toInt cfg.B) := by
  have hB := cfg.one_lt_B hw
  rw [bnMulComba_eq]
  obtain ⟨e, d⟩ := combaDigits_spec cfg.B hB a.dp b.dp ha.1 hb.1 hs ha.dig hb.dig
  exact .guard (.ok (HighMul.mul_fin (by omega) a b _ d e))

theorem bnSqrComba_eq (a : Bn) : bnSqrComba cfg a =
    if 2 * a.used > cfg.cap then none
    else some (bnTrim { neg := false, dp := sqrnLow cfg.B a.dp a.used }) := by
  unfold bnSqrComba
  rw [grow_bind]
  rfl

theorem bnSqrComba_exact (hw : 0 < cfg.w) (a : Bn) (ha : a.WF cfg.B) (hs : a.used < cfg.B) :
    ExactR cfg.B (bnSqrComba cfg a) (a.toInt cfg.B * a.toInt cfg.B) := by
  have hB := cfg.one_lt_B hw
  rw [bnSqrComba_eq]
  obtain ⟨e, _, d1⟩ := sqrnLow_spec cfg.B hB a.dp a.used rfl hs ha.dig
  refine .guard (.ok ?_)
  simpa using HighMul.mul_fin (B := cfg.B) (by omega) a a _ d1 e

/-! ### bn_mul_basic -/

def mulBasicStep (B : Nat) (a b : List Nat) (t : List Nat) (i : Nat) : List Nat :=
  (splice t i (mulaLow B ((t.drop i).take b.length) b (a.getD i 0) 0).1).set (i + b.length)
    (mulaLow B ((t.drop i).take b.length) b (a.getD i 0) 0).2

theorem bnMulBasic_eq (a b : Bn) : bnMulBasic cfg a b =
    if a.used + b.used > cfg.cap then none
    else some (bnTrim { neg := a.neg != b.neg, dp :=
      (List.range a.used).foldl (mulBasicStep cfg.B a.dp b.dp) (List.replicate (a.used + b.used) 0) }) := by
  unfold bnMulBasic
  rw [grow_bind]
  rfl

theorem mulBasicStep_length (B : Nat) (a b t : List Nat) (i : Nat) (h : i ≤ t.length) :
    (mulBasicStep B a b t i).length = t.length := by
  unfold mulBasicStep
  rw [List.length_set, length_splice]
  rw [mulaLow_length]; simp only [List.length_take, List.length_drop]; omega

theorem mulBasicFold_length (B : Nat) (a b : List Nat) : ∀ (is : List Nat) (t : List Nat),
    (∀ i ∈ is, i ≤ t.length) → (is.foldl (mulBasicStep B a b) t).length = t.length := by
  intro is
  induction is with
  | nil => intro t _; rfl
  | cons i is ih =>
    intro t h
    have h1 := mulBasicStep_length B a b t i (h i (by simp))
    rw [List.foldl_cons, ih _ (fun j hj => by rw [h1]; exact h j (by simp [hj])), h1]

theorem HighMul.basic_inv (B : Nat) (hB : 1 < B) (a b : List Nat) (ha : ∀ d ∈ a, d < B)
    (hb : ∀ d ∈ b, d < B) :
    ∀ i, i ≤ a.length →
      let t := (List.range i).foldl (mulBasicStep B a b) (List.replicate (a.length + b.length) 0)
      (∀ d ∈ t, d < B) ∧ val B t = val B (a.take i) * val B b := by
  have hB0 : 0 < B := Nat.zero_lt_of_lt hB
  intro i
  induction i with
  | zero => exact fun _ => ⟨digs_replicate_zero hB0 _, by simp [val_replicate_zero, val]⟩
  | succ i ih =>
    intro hi
    have hai : i < a.length := hi
    obtain ⟨hd, hv⟩ := ih (Nat.le_of_lt hai)
    have hl := mulBasicFold_length B a b (List.range i) (List.replicate (a.length + b.length) 0) fun j hj => by
      simpa using Nat.le_of_lt (Nat.lt_add_right _ (Nat.lt_trans (List.mem_range.1 hj) hai))
    rw [List.length_replicate] at hl
    rw [List.range_succ, List.foldl_append]
    generalize (List.range i).foldl (mulBasicStep B a b) (List.replicate (a.length + b.length) 0) = t at hl hd hv ⊢
    have hwin : i + b.length ≤ t.length := by omega
    obtain ⟨e1, c1, d1, l1⟩ := mulaLow_spec B hB ((t.drop i).take b.length) b (a.getD i 0) 0 (length_window t hwin)
      (getD_lt B hB0 a ha i) hB0 (digs_take (digs_drop hd i) _) hb
    simp only [List.foldl_cons, List.foldl_nil, mulBasicStep]
    generalize mulaLow B ((t.drop i).take b.length) b (a.getD i 0) 0 = r at e1 c1 d1 l1 ⊢
    have hs := val_splice B t r.1 i (l1 ▸ hwin)
    -- the digit that receives the carry is still zero: so far the value is below B^(i + |b|)
    have hset := val_set_above_splice B t r.1 i (i + b.length) r.2 (by rw [l1]) (by omega) (by
      rw [hv, Nat.pow_add]
      exact Nat.mul_lt_mul'' (val_take_lt B hB0 a ha i) (val_lt B b hb))
    refine ⟨digs_set (digs_splice hd d1 i) _ _ c1, ?_⟩
    have hg := getD_eq a i hai
    rw [l1] at hs
    rw [hset, List.take_succ_eq_append_getElem hai, High.val_snoc, List.length_take,
      Nat.min_eq_left (Nat.le_of_lt hai), ← hg, Nat.add_mul, ← hv]
    have e := congrArg (B ^ i * ·) e1
    simp only [Nat.mul_add, Nat.add_zero] at e
    have hc : B ^ i * (r.2 * B ^ b.length) = r.2 * B ^ (i + b.length) := by rw [Nat.pow_add]; ring
    have hm : B ^ i * a.getD i 0 * val B b = B ^ i * (val B b * a.getD i 0) := by ring
    omega

/-! ### the halves of a digit vector -/

theorem HighMul.trim_nonneg {B : Nat} (hB : 0 < B) (l : List Nat) (hl : ∀ d ∈ l, d < B) :
    (bnTrim { neg := false, dp := l }).WF B
    ∧ (bnTrim { neg := false, dp := l }).toInt B = (val B l : Int)
    ∧ (bnTrim { neg := false, dp := l }).used ≤ max 1 l.length := by
  have := bnTrim_exact hB false l hl
  exact ⟨this.1, by simpa using this.2, Nat.max_comm .. ▸ bnTrim_used_le { neg := false, dp := l }⟩

theorem HighMul.val_of_toInt {B : Nat} (c : Bn) (n : Nat) (h : c.toInt B = (n : Int)) : val B c.dp = n := by
  have := toInt_natAbs B c
  rw [h] at this
  simpa using this.symm

/-- what bn_mul_karat and bn_sqr_karat need of the two trimmed halves -/
theorem HighMul.halves {B : Nat} (hB : 1 < B) (l : List Nat) (hl : ∀ d ∈ l, d < B) (hne : 1 ≤ l.length)
    (h : Nat) :
    (bnTrim { neg := false, dp := l.take h }).WF B ∧ (bnTrim { neg := false, dp := l.drop h }).WF B
    ∧ (bnTrim { neg := false, dp := l.take h }).toInt B = (val B (l.take h) : Int)
    ∧ (bnTrim { neg := false, dp := l.drop h }).toInt B = (val B (l.drop h) : Int)
    ∧ (bnTrim { neg := false, dp := l.take h }).used ≤ max 1 h
    ∧ (bnTrim { neg := false, dp := l.drop h }).used ≤ l.length
    ∧ val B l = val B (l.take h) + B ^ h * val B (l.drop h)
    ∧ val B (l.drop h) + val B (l.take h) < B ^ (l.length + 1) := by
  have hB0 : 0 < B := Nat.zero_lt_of_lt hB
  obtain ⟨w0, v0, u0⟩ := HighMul.trim_nonneg hB0 (l.take h) (digs_take hl h)
  obtain ⟨w1, v1, u1⟩ := HighMul.trim_nonneg hB0 (l.drop h) (digs_drop hl h)
  have s := val_take_drop B h l
  have b : val B (l.drop h) + val B (l.take h) < B ^ (l.length + 1) := by
    have h1 : val B (l.drop h) ≤ B ^ h * val B (l.drop h) := Nat.le_mul_of_pos_left _ (Nat.pow_pos hB0)
    have h2 := val_lt B l hl
    have h3 : 2 * B ^ l.length ≤ B * B ^ l.length := Nat.mul_le_mul_right _ (by omega)
    rw [Nat.pow_succ, Nat.mul_comm]
    omega
  refine ⟨w0, w1, v0, v1, Nat.le_trans u0 (Nat.max_le.2 ⟨Nat.le_max_left _ _,
    Nat.le_trans (List.length_take_le _ _) (Nat.le_max_right _ _)⟩),
    Nat.le_trans u1 (Nat.max_le.2 ⟨hne, by rw [List.length_drop]; exact Nat.sub_le _ _⟩), s, b⟩

theorem HighMul.used_le_of_toInt {B : Nat} (hB : 1 < B) {c : Bn} (hc : c.WF B) {n k : Nat} (hk : 1 ≤ k)
    (hv : c.toInt B = (n : Int)) (hn : n < B ^ k) : c.used ≤ k := by
  rw [← HighMul.val_of_toInt c n hv] at hn
  by_contra hcon
  have h1 := hc.val_ge (by omega)
  have : B ^ k ≤ B ^ (c.used - 1) := Nat.pow_le_pow_right (by omega) (by omega)
  omega

/-! ### one Karatsuba level over Comba -/

/-- the Karatsuba recombination over four non-negative halves, (A0 + B^h·A1)·(B0 + B^h·B1): each step
    is exact, and in each of the three products the shorter factor has fewer digits than the base, as
    bn_mul_comba needs -/
theorem HighMul.karat_mul (hw : 0 < cfg.w) (a0 a1 b0 b1 : Bn) (A0 A1 B0 B1 h k l : Nat) (neg : Bool)
    (wa0 : a0.WF cfg.B) (wa1 : a1.WF cfg.B) (wb0 : b0.WF cfg.B) (wb1 : b1.WF cfg.B)
    (va0 : a0.toInt cfg.B = A0) (va1 : a1.toInt cfg.B = A1)
    (vb0 : b0.toInt cfg.B = B0) (vb1 : b1.toInt cfg.B = B1)
    (u0 : min a0.used b0.used < cfg.B) (u1 : min a1.used b1.used < cfg.B) (hk : 1 ≤ k) (hl : 1 ≤ l)
    (hkl : min k l < cfg.B) (sa : A1 + A0 < cfg.B ^ k) (sb : B1 + B0 < cfg.B ^ l) :
    ExactR cfg.B (do
      let a0b0 ← bnMulComba cfg a0 b0
      let a1b1 ← bnMulComba cfg a1 b1
      let a1' ← bnAdd cfg a1 a0
      let b1' ← bnAdd cfg b1 b0
      let t ← bnMulComba cfg a1' b1'
      let t ← bnSub cfg t a0b0
      let t ← bnSub cfg t a1b1
      let t ← bnLsh cfg t (h * cfg.w)
      let a1b1 ← bnLsh cfg a1b1 (2 * h * cfg.w)
      let t ← bnAdd cfg t a0b0
      let t ← bnAdd cfg t a1b1
      return bnTrim { neg := neg, dp := t.dp })
      (if neg then -(((A0 + cfg.B ^ h * A1) * (B0 + cfg.B ^ h * B1) : Nat) : Int)
       else (((A0 + cfg.B ^ h * A1) * (B0 + cfg.B ^ h * B1) : Nat) : Int)) := by
  have hB := cfg.one_lt_B hw
  refine (bnMulComba_exact cfg hw a0 b0 wa0 wb0 u0).bind fun x1 w1 e1 => ?_
  refine (bnMulComba_exact cfg hw a1 b1 wa1 wb1 u1).bind fun x2 w2 e2 => ?_
  refine (bnAdd_exact cfg hw a1 a0 wa1 wa0).bind fun x3 w3 e3 => ?_
  refine (bnAdd_exact cfg hw b1 b0 wb1 wb0).bind fun x4 w4 e4 => ?_
  have u3 := HighMul.used_le_of_toInt hB w3 hk (n := A1 + A0) (by rw [e3, va1, va0]; push_cast; rfl) sa
  have u4 := HighMul.used_le_of_toInt hB w4 hl (n := B1 + B0) (by rw [e4, vb1, vb0]; push_cast; rfl) sb
  refine (bnMulComba_exact cfg hw x3 x4 w3 w4 (Nat.lt_of_le_of_lt (Nat.le_min.2
    ⟨Nat.le_trans (Nat.min_le_left _ _) u3, Nat.le_trans (Nat.min_le_right _ _) u4⟩) hkl)).bind
    fun x5 w5 e5 => ?_
  refine (bnSub_exact cfg hw x5 x1 w5 w1).bind fun x6 w6 e6 => ?_
  refine (bnSub_exact cfg hw x6 x2 w6 w2).bind fun x7 w7 e7 => ?_
  refine (bnLsh_exact cfg hw x7 _ w7).bind fun x8 w8 e8 => ?_
  refine (bnLsh_exact cfg hw x2 _ w2).bind fun x9 w9 e9 => ?_
  refine (bnAdd_exact cfg hw x8 x1 w8 w1).bind fun x10 w10 e10 => ?_
  refine (bnAdd_exact cfg hw x10 x9 w10 w9).bind fun x11 w11 e11 => ?_
  have v11 : val cfg.B x11.dp = (A0 + cfg.B ^ h * A1) * (B0 + cfg.B ^ h * B1) := by
    apply HighMul.val_of_toInt
    rw [e11, e10, e9, e8, e7, e6, e5, e4, e3, e2, e1, va0, va1, vb0, vb1, cfg.B_eq]
    push_cast
    ring
  rw [← v11]
  exact .ok (bnTrim_exact (Nat.zero_lt_of_lt hB) neg x11.dp w11.dig)

theorem bnMulKarat_exact (hw : 0 < cfg.w) (a b : Bn) (ha : a.WF cfg.B) (hb : b.WF cfg.B)
    (hs : min a.used b.used + 1 < cfg.B) :
    ExactR cfg.B (bnMulKarat cfg a b) (a.toInt cfg.B * b.toInt cfg.B) := by
  have hB := cfg.one_lt_B hw
  have hm : 1 ≤ min a.used b.used := Nat.le_min.2 ⟨ha.used_pos, hb.used_pos⟩
  have hh : min a.used b.used / 2 ≤ min a.used b.used := Nat.div_le_self _ _
  obtain ⟨wa0, wa1, va0, va1, ua0, ua1, sa, ba⟩ :=
    HighMul.halves hB a.dp ha.dig ha.used_pos (min a.used b.used / 2)
  obtain ⟨wb0, wb1, vb0, vb1, _, ub1, sb, bb⟩ :=
    HighMul.halves hB b.dp hb.dig hb.used_pos (min a.used b.used / 2)
  rw [toInt_mul, sa, sb]
  -- the low half of `a` has at most min(|a|,|b|)/2 digits, the high halves at most |a| and |b|
  exact HighMul.karat_mul cfg hw _ _ _ _ _ _ _ _ _ (a.dp.length + 1) (b.dp.length + 1) _ wa0 wa1 wb0 wb1
    va0 va1 vb0 vb1
    (Nat.lt_of_le_of_lt (Nat.le_trans (Nat.min_le_left _ _) (Nat.le_trans ua0 (Nat.max_le.2 ⟨hm, hh⟩)))
      (Nat.lt_of_succ_lt hs))
    (Nat.lt_of_le_of_lt (Nat.le_min.2 ⟨Nat.le_trans (Nat.min_le_left _ _) ua1,
      Nat.le_trans (Nat.min_le_right _ _) ub1⟩) (Nat.lt_of_succ_lt hs))
    (Nat.le_add_left 1 _) (Nat.le_add_left 1 _) (by rw [Nat.add_min_add_right]; exact hs) ba bb

theorem HighMul.karat_sqr (hw : 0 < cfg.w) (a0 a1 : Bn) (A0 A1 h k : Nat)
    (wa0 : a0.WF cfg.B) (wa1 : a1.WF cfg.B) (va0 : a0.toInt cfg.B = A0) (va1 : a1.toInt cfg.B = A1)
    (ua0 : a0.used < cfg.B) (ua1 : a1.used < cfg.B) (hk : 1 ≤ k) (hkB : k < cfg.B)
    (sa : A1 + A0 < cfg.B ^ k) :
    ExactR cfg.B (do
      let a0a0 ← bnSqrComba cfg a0
      let a1a1 ← bnSqrComba cfg a1
      let t ← bnAdd cfg a1 a0
      let t ← bnSqrComba cfg t
      let s ← bnAdd cfg a0a0 a1a1
      let t ← bnSub cfg t s
      let t ← bnLsh cfg t (h * cfg.w)
      let a1a1 ← bnLsh cfg a1a1 (2 * h * cfg.w)
      let t ← bnAdd cfg t a0a0
      let t ← bnAdd cfg t a1a1
      return bnTrim { neg := false, dp := t.dp })
      (((A0 + cfg.B ^ h * A1) * (A0 + cfg.B ^ h * A1) : Nat) : Int) := by
  have hB := cfg.one_lt_B hw
  refine (bnSqrComba_exact cfg hw a0 wa0 ua0).bind fun x1 w1 e1 => ?_
  refine (bnSqrComba_exact cfg hw a1 wa1 ua1).bind fun x2 w2 e2 => ?_
  refine (bnAdd_exact cfg hw a1 a0 wa1 wa0).bind fun x3 w3 e3 => ?_
  have u3 := HighMul.used_le_of_toInt hB w3 hk (n := A1 + A0) (by rw [e3, va1, va0]; push_cast; rfl) sa
  refine (bnSqrComba_exact cfg hw x3 w3 (Nat.lt_of_le_of_lt u3 hkB)).bind fun x4 w4 e4 => ?_
  refine (bnAdd_exact cfg hw x1 x2 w1 w2).bind fun x5 w5 e5 => ?_
  refine (bnSub_exact cfg hw x4 x5 w4 w5).bind fun x6 w6 e6 => ?_
  refine (bnLsh_exact cfg hw x6 _ w6).bind fun x7 w7 e7 => ?_
  refine (bnLsh_exact cfg hw x2 _ w2).bind fun x8 w8 e8 => ?_
  refine (bnAdd_exact cfg hw x7 x1 w7 w1).bind fun x9 w9 e9 => ?_
  refine (bnAdd_exact cfg hw x9 x8 w9 w8).bind fun x10 w10 e10 => ?_
  have v10 : val cfg.B x10.dp = (A0 + cfg.B ^ h * A1) * (A0 + cfg.B ^ h * A1) := by
    apply HighMul.val_of_toInt
    rw [e10, e9, e8, e7, e6, e5, e4, e3, e2, e1, va0, va1, cfg.B_eq]
    push_cast
    ring
  rw [← v10]
  exact .ok (bnTrim_exact (Nat.zero_lt_of_lt hB) false x10.dp w10.dig)

/-! ### bn_div_imp: Knuth D on the magnitudes, then the floor fix-up -/

/-- the raw quotient / remainder of bn_div_imp, before the floor fix-up -/
def divQ (a b : Bn) : Bn :=
  bnTrim { neg := a.neg != b.neg, dp := (divnLow cfg.w a.dp b.dp).1.take (a.used - b.used + 1) }
def divR (a b : Bn) : Bn :=
  bnTrim { neg := b.neg, dp := (divnLow cfg.w a.dp b.dp).2.1.take b.used }

theorem bnDivImp_eq (a b : Bn) : bnDivImp cfg a b =
    if bnCmpAbs a b = -1 then
      if (bnIsZero a || decide (a.neg = b.neg)) = true then some (Bn.zero, bnTrim a, {})
      else (bnAdd cfg a b).bind fun d => some ({ neg := true, dp := [1] }, d, {})
    else if a.used + 1 > cfg.cap then none
    else
      if (!bnIsZero (divR cfg a b) && (a.neg != b.neg)) = true then
        (bnSubDig cfg (divQ cfg a b) 1).bind fun c =>
          (bnSub cfg b (divR cfg a b)).bind fun d => some (c, d, (divnLow cfg.w a.dp b.dp).2.2)
      else some (divQ cfg a b, divR cfg a b, (divnLow cfg.w a.dp b.dp).2.2) := by
  unfold bnDivImp divQ divR
  by_cases h1 : bnCmpAbs a b = -1
  · simp only [h1, if_true]
    split <;> rfl
  · simp only [h1, if_false]
    rw [grow_bind]
    -- name the result of the digit-level division first, so that `rfl` does not unfold it
    generalize divnLow cfg.w a.dp b.dp = p
    obtain ⟨qd, rd, tr⟩ := p
    rfl

theorem BnDiv.fdiv_fmod_of {a b q r : Int} (hb : b ≠ 0) (e : r + b * q = a)
    (h1 : 0 < b → 0 ≤ r ∧ r < b) (h2 : b < 0 → b < r ∧ r ≤ 0) :
    q = Int.fdiv a b ∧ r = Int.fmod a b := by
  rcases Int.lt_or_gt_of_ne hb with h | h
  · have := (Int.fdiv_fmod_unique' (a := a) (q := q) (r := r) h).2 ⟨e, h2 h⟩
    exact ⟨this.1.symm, this.2.symm⟩
  · have := (Int.fdiv_fmod_unique (a := a) (q := q) (r := r) h).2 ⟨e, h1 h⟩
    exact ⟨this.1.symm, this.2.symm⟩

/-- the floor fix-up of bn_div_imp, as pure integer arithmetic over the Euclidean (Q, R) of the magnitudes -/
theorem BnDiv.floor_fix (A Bv Q R : Nat) (na nb : Bool) (ai bi qi ri : Int) (e : Q * Bv + R = A) (hR : R < Bv)
    (hai : ai = if na then -(A : Int) else A) (hbi : bi = if nb then -(Bv : Int) else Bv)
    (hqi : qi = if (na != nb) then -(Q : Int) else Q) (hri : ri = if nb then -(R : Int) else R) :
    (R ≠ 0 ∧ na ≠ nb → qi - 1 = Int.fdiv ai bi ∧ bi - ri = Int.fmod ai bi)
    ∧ (¬ (R ≠ 0 ∧ na ≠ nb) → qi = Int.fdiv ai bi ∧ ri = Int.fmod ai bi) := by
  subst hai hbi hqi hri
  have e' : (A : Int) = Bv * Q + R := by rw [← e]; push_cast; ring
  refine ⟨fun h => ?_, fun h => ?_⟩
  · cases na <;> cases nb <;>
      simp only [↓reduceIte, Bool.false_eq_true, bne_self_eq_false, Bool.false_bne, Bool.true_bne,
        Bool.not_false]
    · exact absurd rfl h.2
    · exact fdiv_fmod_of (by omega) (by rw [e']; ring) (by omega) (by omega)
    · exact fdiv_fmod_of (by omega) (by rw [e']; ring) (by omega) (by omega)
    · exact absurd rfl h.2
  · have hR0 : na ≠ nb → R = 0 := fun hne => Decidable.by_contra fun h0 => h ⟨h0, hne⟩
    cases na <;> cases nb <;>
      simp only [↓reduceIte, Bool.false_eq_true, bne_self_eq_false, Bool.false_bne, Bool.true_bne,
        Bool.not_false]
    · exact fdiv_fmod_of (by omega) (by rw [e']; ring) (by omega) (by omega)
    · have := hR0 (by decide)
      exact fdiv_fmod_of (by omega) (by rw [e', this]; push_cast; ring) (by omega) (by omega)
    · have := hR0 (by decide)
      exact fdiv_fmod_of (by omega) (by rw [e', this]; push_cast; ring) (by omega) (by omega)
    · exact fdiv_fmod_of (by omega) (by rw [e']; ring) (by omega) (by omega)

theorem BnDiv.divQR (hw : 0 < cfg.w) (a b : Bn) (ha : a.WF cfg.B) (hb : b.WF cfg.B)
    (hbz : val cfg.B b.dp ≠ 0) (hge : val cfg.B b.dp ≤ val cfg.B a.dp) :
    ∃ Q R : Nat, Q * val cfg.B b.dp + R = val cfg.B a.dp ∧ R < val cfg.B b.dp
      ∧ (divQ cfg a b).WF cfg.B ∧ (divR cfg a b).WF cfg.B
      ∧ (divQ cfg a b).toInt cfg.B = (if (a.neg != b.neg) then -(Q : Int) else Q)
      ∧ (divR cfg a b).toInt cfg.B = (if b.neg then -(R : Int) else R) := by
  have hB := cfg.one_lt_B hw
  have hab : b.dp.length ≤ a.dp.length := Bn.WF.used_le_of_val_le hB hb ha hge
  obtain ⟨init, x, hdp, hx⟩ := hb.top hbz
  have hbt : b.dp.getLast? ≠ some 0 := by rw [hdp]; simpa using hx
  obtain ⟨e, lt, dq, dr, _, _⟩ := divnLow_spec cfg.w hw a.dp b.dp hab hb.1 hbt ha.dig hb.dig hge
  rw [← cfg.B_eq] at e lt dq dr
  have hq := bnTrim_exact (B := cfg.B) (by omega) (a.neg != b.neg) _ dq
  have hr := bnTrim_exact (B := cfg.B) (by omega) b.neg _ dr
  exact ⟨_, _, e, lt, hq.1, hr.1, hq.2, hr.2⟩

theorem bnDivImp_ret (hw : 0 < cfg.w) (a b : Bn) (ha : a.WF cfg.B) (hb : b.WF cfg.B) (hbv : val cfg.B b.dp ≠ 0) :
    Ret (bnDivImp cfg a b) fun x => x.1.WF cfg.B ∧ x.2.1.WF cfg.B
      ∧ x.1.toInt cfg.B = Int.fdiv (a.toInt cfg.B) (b.toInt cfg.B)
      ∧ x.2.1.toInt cfg.B = Int.fmod (a.toInt cfg.B) (b.toInt cfg.B) := by
  have hB := cfg.one_lt_B hw
  have hcmp := bnCmpAbs_lt_iff hB a b ha hb
  have hai : a.toInt cfg.B = if a.neg then -(val cfg.B a.dp : Int) else (val cfg.B a.dp : Int) := rfl
  have hbi : b.toInt cfg.B = if b.neg then -(val cfg.B b.dp : Int) else (val cfg.B b.dp : Int) := rfl
  rw [bnDivImp_eq]
  refine .ite (fun h1 => ?_) fun h1 => .guard fun _ => ?_
  · -- |a| < |b|: Euclidean quotient 0 and remainder |a|, fixed up as below (a + b for b - (-a))
    obtain ⟨f1, f2⟩ := BnDiv.floor_fix (val cfg.B a.dp) _ 0 _ a.neg b.neg _ _ 0 _
      (by rw [Nat.zero_mul, Nat.zero_add]) (hcmp.1 h1) hai hbi (by simp) rfl
    refine .ite (fun h2 => .ok ?_) fun h2 => (bnAdd_exact cfg hw a b ha hb).ret.bind fun d ⟨wd, ed⟩ => .ok ?_
    · simp only [Bool.or_eq_true, decide_eq_true_eq] at h2
      rw [bnTrim_of_WF ha]
      obtain ⟨g1, g2⟩ := f2 (by
        rintro ⟨hz, hne⟩
        exact h2.elim (fun h => hz ((ha.isZero_iff hB).1 h)) hne)
      refine ⟨Bn.zero_WF (by omega), ha, g1, ?_⟩
      rw [← g2, hai]
      rcases h2 with h2 | h2
      · rw [(ha.isZero_iff hB).1 h2]; simp
      · rw [h2]
    · simp only [Bool.or_eq_true, decide_eq_true_eq, not_or] at h2
      obtain ⟨g1, g2⟩ := f1 ⟨fun h => h2.1 ((ha.isZero_iff hB).2 h), h2.2⟩
      refine ⟨⟨by simp, by simpa using hB, by simp, by simp⟩, wd, by rw [← g1]; simp [Bn.toInt, val], ?_⟩
      rw [ed, ← g2, hai, hbi]
      have hne := h2.2
      revert hne
      cases a.neg <;> cases b.neg <;> intro hne <;>
        first | exact absurd rfl hne | (simp only [↓reduceIte, Bool.false_eq_true]; omega)
  · -- |a| ≥ |b|: Knuth D
    have hge : val cfg.B b.dp ≤ val cfg.B a.dp := Nat.le_of_not_lt fun h => h1 (hcmp.2 h)
    obtain ⟨Q, R, e, hR, wq, wr, eq, er⟩ := BnDiv.divQR cfg hw a b ha hb hbv hge
    obtain ⟨f1, f2⟩ := BnDiv.floor_fix _ _ Q R a.neg b.neg _ _ _ _ e hR hai hbi eq er
    have hrz : bnIsZero (divR cfg a b) = true ↔ R = 0 := by
      rw [wr.isZero_iff hB, ← toInt_eq_zero_iff, er]
      split <;> omega
    refine .ite (fun h3 => ?_) fun h3 => .ok ?_
    · simp only [Bool.and_eq_true, Bool.not_eq_true', bne_iff_ne, ne_eq] at h3
      obtain ⟨g1, g2⟩ := f1 ⟨fun h => by simp [hrz.2 h] at h3, h3.2⟩
      exact (bnSubDig_exact cfg hw _ 1 wq hB).ret.bind fun c ⟨wc, ec⟩ =>
        (bnSub_exact cfg hw b _ hb wr).ret.bind fun d ⟨wd, ed⟩ => .ok ⟨wc, wd, by rw [ec, ← g1]; rfl, by rw [ed, ← g2]⟩
    · simp only [Bool.and_eq_true, Bool.not_eq_true', bne_iff_ne, ne_eq, not_and] at h3
      obtain ⟨g1, g2⟩ := f2 (by
        rintro ⟨hR0, hne⟩
        exact h3 (by
          cases hz : bnIsZero (divR cfg a b)
          · rfl
          · exact absurd (hrz.1 hz) hR0) hne)
      -- stated on the components, so that the goal is not reduced through `divnLow`
      dsimp only
      exact ⟨wq, wr, g1, g2⟩

end Relic.Model
