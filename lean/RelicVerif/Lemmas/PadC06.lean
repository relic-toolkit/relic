/-
Byte-level encodings of property C06 (definitions of Spec/Cp.lean): I2OSP/OS2IP are mutually inverse; MGF1 and the
octet-wise xor; for each RSA padding (EME-PKCS1-v1_5, EME-OAEP, the library's basic layout) and the Rabin redundancy block
the acceptance set of the decoder, as an equivalence: unpad em = some m exactly when em is a padding of m of the documented
layout (⇐ is the round trip, ⇒ is "accepts ONLY the layout").
-/
import RelicVerif.Spec.Cp
import RelicVerif.Lemmas.Codec
import RelicVerif.Lemmas.Loops
import RelicVerif.Lemmas.Ret
import Mathlib.Tactic.Ring

namespace Relic.Lemmas.PadC06
open Relic.Spec.Cp
open Relic.Spec.Mac (Hash mgf1 xorBytes)

theorem os2ip_nil : os2ip [] = 0 := rfl

theorem os2ip_single (x : UInt8) : os2ip [x] = x.toNat := by simp [os2ip]

theorem os2ip_append (a b : Bytes) : os2ip (a ++ b) = os2ip a * 256 ^ b.length + os2ip b := Codec.val_append a b

theorem os2ip_cons (x : UInt8) (b : Bytes) : os2ip (x :: b) = x.toNat * 256 ^ b.length + os2ip b := Codec.val_cons x b

theorem os2ip_lt (b : Bytes) : os2ip b < 256 ^ b.length := Codec.val_lt b

theorem i2osp_succ (n len : Nat) : i2osp n (len + 1) = UInt8.ofNat (n / 256 ^ len % 256) :: i2osp n len := rfl

theorem i2osp_eq_bytes (n len : Nat) : i2osp n len = Codec.bytes n len := by
  induction len with
  | zero => rfl
  | succ len ih => rw [i2osp_succ, Codec.bytes_succ, ih]

theorem i2osp_length (n len : Nat) : (i2osp n len).length = len := by
  rw [i2osp_eq_bytes, Codec.bytes_length]

theorem os2ip_i2osp (n len : Nat) : os2ip (i2osp n len) = n % 256 ^ len := by
  rw [i2osp_eq_bytes]; exact Codec.val_bytes n len

theorem i2osp_os2ip (b : Bytes) : i2osp (os2ip b) b.length = b := by
  rw [i2osp_eq_bytes]; exact Codec.bytes_val b

theorem os2ip_inj (a b : Bytes) (hl : a.length = b.length) (h : os2ip a = os2ip b) : a = b := Codec.val_inj hl h

theorem i2osp_add_mul (len a n : Nat) : i2osp (a * 256 ^ len + n) len = i2osp n len :=
  os2ip_inj _ _ (by rw [i2osp_length, i2osp_length]) (by rw [os2ip_i2osp, os2ip_i2osp, Nat.mul_add_mod_self_right])

theorem os2ip_append_mod (a b : Bytes) : os2ip (a ++ b) % 256 ^ b.length = os2ip b := by
  rw [os2ip_append, Nat.mul_add_mod_of_lt (os2ip_lt b)]

theorem mul_add_div_of_lt {x y P : Nat} (h : y < P) : (x * P + y) / P = x := by
  rw [Nat.add_comm, Nat.add_mul_div_right _ _ (Nat.zero_lt_of_lt h), Nat.div_eq_of_lt h, Nat.zero_add]

theorem os2ip_append_div (a b : Bytes) : os2ip (a ++ b) / 256 ^ b.length = os2ip a := by
  rw [os2ip_append, mul_add_div_of_lt (os2ip_lt b)]

/-! the same for a length known by an equation (the models compute the exponents from `k`) -/

theorem os2ip_append_div' (a b : Bytes) {n : Nat} (h : b.length = n) : os2ip (a ++ b) / 256 ^ n = os2ip a :=
  h ▸ os2ip_append_div a b

theorem os2ip_append_mod' (a b : Bytes) {n : Nat} (h : b.length = n) : os2ip (a ++ b) % 256 ^ n = os2ip b :=
  h ▸ os2ip_append_mod a b

theorem i2osp_os2ip' (b : Bytes) {n : Nat} (h : b.length = n) : i2osp (os2ip b) n = b :=
  h ▸ i2osp_os2ip b

theorem os2ip_cons_div (y : UInt8) (b : Bytes) : os2ip (y :: b) / 256 ^ b.length = y.toNat := by
  have := os2ip_append_div [y] b
  rwa [os2ip_single] at this

theorem dropWhile_append_stop {α} (p : α → Bool) (ps : List α) (x : α) (t : List α)
    (hps : ∀ b ∈ ps, p b = true) (hx : p x = false) : (ps ++ x :: t).dropWhile p = x :: t := by
  rw [List.dropWhile_append_of_pos hps, List.dropWhile_cons_of_neg (by rw [hx]; exact Bool.false_ne_true)]

theorem takeWhile_append_stop {α} (p : α → Bool) (ps : List α) (x : α) (t : List α)
    (hps : ∀ b ∈ ps, p b = true) (hx : p x = false) : (ps ++ x :: t).takeWhile p = ps := by
  rw [List.takeWhile_append_of_pos hps, List.takeWhile_cons_of_neg (by rw [hx]; exact Bool.false_ne_true),
    List.append_nil]

theorem mem_takeWhile {α} {p : α → Bool} {l : List α} {b : α} (hb : b ∈ l.takeWhile p) : p b = true :=
  List.all_eq_true.1 List.all_takeWhile b hb

theorem dropWhile_eq_cons {α} {p : α → Bool} {l : List α} {x : α} {t : List α} (h : l.dropWhile p = x :: t) :
    l = l.takeWhile p ++ x :: t ∧ p x = false := by
  refine ⟨by rw [← h, List.takeWhile_append_dropWhile], ?_⟩
  have := List.head_dropWhile_not p (l := l) (by rw [h]; exact List.cons_ne_nil _ _)
  simpa only [h, List.head_cons] using this

theorem exists_split {α} (l : List α) (n : Nat) (h : n ≤ l.length) :
    ∃ a b, l = a ++ b ∧ a.length = n ∧ b.length = l.length - n :=
  ⟨l.take n, l.drop n, (List.take_append_drop n l).symm, List.length_take_of_le h, List.length_drop⟩

theorem pkcs1Unpad_eq_some_iff (em m : Bytes) :
    pkcs1Unpad em = some m ↔ ∃ ps, em = pkcs1Pad ps m ∧ (∀ b ∈ ps, b ≠ 0) ∧ 8 ≤ ps.length := by
  constructor
  · revert m
    change Ret (pkcs1Unpad em) _
    unfold pkcs1Unpad
    split
    · rename_i y t rest
      refine Ret.guard fun hyt => ?_
      obtain ⟨rfl, rfl⟩ : y = 0 ∧ t = 2 := by simpa using hyt
      split
      · exact Ret.fail
      · rename_i z m hdw
        refine Ret.guard fun hl => Ret.ok ?_
        obtain ⟨hsplit, hz⟩ := dropWhile_eq_cons hdw
        obtain rfl : z = 0 := by simpa using hz
        refine ⟨rest.takeWhile (fun b => decide (b ≠ 0)), ?_, fun b hb => by simpa using mem_takeWhile hb, by omega⟩
        simp only [pkcs1Pad, List.cons_append, List.nil_append, List.append_assoc]
        rw [← hsplit]
    · exact Ret.fail
  · rintro ⟨ps, rfl, hps, hlen⟩
    have hd : (ps ++ 0 :: m).dropWhile (fun b => decide (b ≠ 0)) = 0 :: m :=
      dropWhile_append_stop _ ps 0 m (fun b hb => by simpa using hps b hb) (by simp)
    have ht : (ps ++ 0 :: m).takeWhile (fun b => decide (b ≠ 0)) = ps :=
      takeWhile_append_stop _ ps 0 m (fun b hb => by simpa using hps b hb) (by simp)
    simp only [pkcs1Pad, pkcs1Unpad, List.cons_append, List.nil_append, List.append_assoc]
    rw [hd, ht]
    simp; omega

theorem dropWhile_zero_eq_cons_iff (l : Bytes) (x : UInt8) (t : Bytes) (hx : x ≠ 0) :
    l.dropWhile (fun b => decide (b = 0)) = x :: t ↔ ∃ z, l = List.replicate z 0 ++ x :: t := by
  constructor
  · intro h
    refine ⟨(l.takeWhile (fun b => decide (b = 0))).length, ?_⟩
    rw [← List.eq_replicate_iff.2 ⟨rfl, fun b hb => by simpa using mem_takeWhile hb⟩]
    exact (dropWhile_eq_cons h).1
  · rintro ⟨z, rfl⟩
    exact dropWhile_append_stop _ _ x t (fun b hb => by simp [(List.mem_replicate.mp hb).2]) (by simpa using hx)

theorem basicUnpad_eq_some_iff (em m : Bytes) :
    basicUnpad em = some m ↔ ∃ z, 1 ≤ z ∧ em = List.replicate z 0 ++ [0xFF] ++ m := by
  constructor
  · revert m
    change Ret (basicUnpad em) _
    unfold basicUnpad
    split
    · rename_i y rest
      refine Ret.guard fun hy => ?_
      obtain rfl : y = 0 := by simpa using hy
      split
      · rename_i f m hdw
        refine Ret.ite (fun hf => Ret.ok ?_) fun _ => Ret.fail
        subst hf
        obtain ⟨z, rfl⟩ := (dropWhile_zero_eq_cons_iff rest 0xFF m (by decide)).1 hdw
        exact ⟨z + 1, by omega, by simp [List.replicate_succ]⟩
      · exact Ret.fail
    · exact Ret.fail
  · rintro ⟨z, hz, rfl⟩
    obtain ⟨z, rfl⟩ : ∃ z', z = z' + 1 := ⟨z - 1, by omega⟩
    simp only [List.replicate_succ, List.cons_append, List.append_assoc, List.nil_append, basicUnpad]
    rw [(dropWhile_zero_eq_cons_iff _ 0xFF m (by decide)).2 ⟨z, rfl⟩]
    simp

theorem counterKdf_length (H : Hash) (hout : ∀ b, (H.h b).length = H.outLen) (hpos : 0 < H.outLen)
    (start : Nat) (seed : Bytes) (n : Nat) : (Relic.Spec.Mac.counterKdf H start seed n).length = n :=
  Loops.length_take_flatMap_ceil H.outLen hpos _ _ (fun _ => hout _) n List.length_range

theorem mgf1_length (H : Hash) (hout : ∀ b, (H.h b).length = H.outLen) (hpos : 0 < H.outLen) (seed : Bytes) (n : Nat) :
    (mgf1 H seed n).length = n :=
  counterKdf_length H hout hpos 0 seed n

theorem xorBytes_length (a b : Bytes) : (xorBytes a b).length = min a.length b.length := by
  simp [xorBytes]

theorem xorBytes_cancel (a b : Bytes) (h : a.length ≤ b.length) : xorBytes (xorBytes a b) b = a :=
  Loops.zipWith_xor_cancel a b h

theorem xor_mgf1 (H : Hash) (hout : ∀ b, (H.h b).length = H.outLen) (hpos : 0 < H.outLen) (a seed : Bytes) (n : Nat)
    (ha : a.length = n) :
    (xorBytes a (mgf1 H seed n)).length = n ∧ xorBytes (xorBytes a (mgf1 H seed n)) (mgf1 H seed n) = a :=
  ⟨by rw [xorBytes_length, mgf1_length H hout hpos, ha, Nat.min_self],
    xorBytes_cancel _ _ (by rw [mgf1_length H hout hpos, ha])⟩

theorem oaepDecode_cons (H : Hash) (k : Nat) (y : UInt8) (mS mD : Bytes) (hk : 2 * H.outLen + 2 ≤ k)
    (hls : mS.length = H.outLen) (hld : mD.length = k - H.outLen - 1) :
    oaepDecode H k (y :: (mS ++ mD)) =
      match ((xorBytes mD (mgf1 H (xorBytes mS (mgf1 H mD H.outLen)) (k - H.outLen - 1))).drop H.outLen).dropWhile (· = 0) with
      | o :: m => if o = 1 ∧ y = 0 ∧
          (xorBytes mD (mgf1 H (xorBytes mS (mgf1 H mD H.outLen)) (k - H.outLen - 1))).take H.outLen = H.h [] then some m else none
      | [] => none := by
  have hc : ¬ ((y :: (mS ++ mD)).length ≠ k ∨ k < 2 * H.outLen + 2) := by
    simp only [List.length_cons, List.length_append, hls, hld]; omega
  simp only [oaepDecode, if_neg hc]
  rw [List.take_left' hls, List.drop_left' hls]
  rfl

theorem dbParse_iff (lh db m : Bytes) (P : Prop) [Decidable P] :
    (match (db.drop lh.length).dropWhile (· = 0) with
      | o :: m' => if o = 1 ∧ P ∧ db.take lh.length = lh then some m' else none
      | [] => none) = some m ↔ P ∧ ∃ z, db = lh ++ List.replicate z 0 ++ [1] ++ m := by
  constructor
  · revert m
    change Ret _ _
    split
    · rename_i o m hdw
      refine Ret.ite (fun hcond => Ret.ok ?_) fun _ => Ret.fail
      obtain ⟨rfl, hP, htake⟩ := hcond
      obtain ⟨z, hsplit⟩ := (dropWhile_zero_eq_cons_iff _ 1 m (by decide)).1 hdw
      refine ⟨hP, z, ?_⟩
      conv_lhs => rw [← List.take_append_drop lh.length db, htake, hsplit]
      simp only [List.append_assoc, List.singleton_append]
    · exact Ret.fail
  · rintro ⟨hP, z, rfl⟩
    have e1 : (lh ++ List.replicate z 0 ++ [1] ++ m).drop lh.length = List.replicate z 0 ++ 1 :: m := by
      rw [List.append_assoc, List.append_assoc, List.drop_left' rfl]; simp
    have e2 : (lh ++ List.replicate z 0 ++ [1] ++ m).take lh.length = lh := by
      rw [List.append_assoc, List.append_assoc, List.take_left' rfl]
    rw [e1, e2, (dropWhile_zero_eq_cons_iff _ 1 m (by decide)).2 ⟨z, rfl⟩]
    simp [hP]

theorem oaepDecode_eq_some_iff (H : Hash) (hout : ∀ b, (H.h b).length = H.outLen) (hpos : 0 < H.outLen) (k : Nat)
    (em m : Bytes) :
    oaepDecode H k em = some m ↔
      ∃ seed, seed.length = H.outLen ∧ m.length + 2 * H.outLen + 2 ≤ k ∧ em = oaepEncode H k seed m := by
  constructor
  · intro h
    obtain ⟨hlen, hk⟩ : em.length = k ∧ 2 * H.outLen + 2 ≤ k := by
      by_contra hc
      unfold oaepDecode at h
      rw [if_pos (by omega)] at h
      exact absurd h (by simp)
    cases em with
    | nil => rw [List.length_nil] at hlen; omega
    | cons y rest =>
      rw [List.length_cons] at hlen
      obtain ⟨mS, mD, rfl, hls, hld⟩ := exists_split rest H.outLen (by omega)
      replace hld : mD.length = k - H.outLen - 1 := by omega
      rw [oaepDecode_cons H k y _ _ hk hls hld] at h
      obtain ⟨hseedl, hseedc⟩ := xor_mgf1 H hout hpos mS mD _ hls
      generalize xorBytes mS (mgf1 H mD H.outLen) = seed at h hseedl hseedc
      obtain ⟨hdbl, hdbc⟩ := xor_mgf1 H hout hpos mD seed _ hld
      generalize xorBytes mD (mgf1 H seed (k - H.outLen - 1)) = db at h hdbl hdbc
      rw [← hout []] at h
      obtain ⟨rfl, z, rfl⟩ := (dbParse_iff (H.h []) db m (y = 0)).1 h
      simp only [List.length_append, List.length_replicate, hout, List.length_cons, List.length_nil] at hdbl
      obtain rfl : z = k - m.length - 2 * H.outLen - 2 := by omega
      exact ⟨seed, hseedl, by omega, by rw [oaepEncode, hdbc, hseedc]; rfl⟩
  · rintro ⟨seed, hs, hm, rfl⟩
    have hdbl : (H.h [] ++ List.replicate (k - m.length - 2 * H.outLen - 2) 0 ++ [1] ++ m).length = k - H.outLen - 1 := by
      simp only [List.length_append, List.length_replicate, hout, List.length_cons, List.length_nil]; omega
    obtain ⟨hl1, hc1⟩ := xor_mgf1 H hout hpos _ seed _ hdbl
    obtain ⟨hl2, hc2⟩ := xor_mgf1 H hout hpos seed (xorBytes _ (mgf1 H seed (k - H.outLen - 1))) _ hs
    simp only [oaepEncode, List.cons_append, List.nil_append]
    rw [oaepDecode_cons H k 0 _ _ (by omega) hl2 hl1, hc2, hc1, ← hout []]
    exact (dbParse_iff (H.h []) _ m _).2 ⟨rfl, _, rfl⟩

theorem pow256 (n : Nat) : 256 ^ n = 2 ^ (8 * n) := by
  rw [Nat.pow_mul]

theorem xor_split (n x y x' y' : Nat) (hy : y < 2 ^ n) (hy' : y' < 2 ^ n) :
    (x * 2 ^ n + y) ^^^ (x' * 2 ^ n + y') = (x ^^^ x') * 2 ^ n + (y ^^^ y') := by
  have := Nat.div_add_mod' ((x * 2 ^ n + y) ^^^ (x' * 2 ^ n + y')) (2 ^ n)
  rw [Nat.xor_div_two_pow, Nat.xor_mod_two_pow, mul_add_div_of_lt hy, mul_add_div_of_lt hy', Nat.mul_add_mod_of_lt hy,
    Nat.mul_add_mod_of_lt hy'] at this
  exact this.symm

theorem os2ip_xorBytes (a b : Bytes) (h : a.length = b.length) : os2ip (xorBytes a b) = os2ip a ^^^ os2ip b := by
  induction a generalizing b with
  | nil =>
    cases b with
    | nil => rfl
    | cons y s => simp at h
  | cons x t ih =>
    cases b with
    | nil => simp at h
    | cons y s =>
      have hl : t.length = s.length := by simpa using h
      have hx : xorBytes (x :: t) (y :: s) = (x ^^^ y) :: xorBytes t s := rfl
      have hxl : (xorBytes t s).length = t.length := by rw [xorBytes_length, ← hl, Nat.min_self]
      have h1 := os2ip_lt t
      have h2 := os2ip_lt s
      rw [← hl] at h2
      rw [pow256] at h1 h2
      rw [hx, os2ip_cons, os2ip_cons x t, os2ip_cons y s, hxl, ← hl, ih s hl, UInt8.toNat_xor,
        pow256, xor_split _ _ _ _ _ h1 h2]

theorem byteLen_eq (x len : Nat) (h1 : 256 ^ len ≤ x) (h2 : x < 256 ^ (len + 1)) : byteLen x = len + 1 := by
  have hx : x ≠ 0 := by
    have : 0 < 256 ^ len := Nat.pow_pos (by norm_num)
    omega
  rw [pow256] at h1 h2
  have a1 : 8 * len ≤ Nat.log2 x := (Nat.le_log2 hx).mpr h1
  have a2 : Nat.log2 x < 8 * (len + 1) := (Nat.log2_lt hx).mpr h2
  simp only [byteLen, if_neg hx]
  omega

theorem lt_pow_byteLen (x : Nat) : x < 256 ^ byteLen x := by
  by_cases hx : x = 0
  · subst hx; simp [byteLen]
  · simp only [byteLen, if_neg hx]
    rw [pow256, ← Nat.log2_lt hx]
    omega

/-- a string with a non-zero leading octet is in shortest form: bn_size_bin gives its length -/
theorem byteLen_os2ip_cons (o : UInt8) (msg : Bytes) (ho : o ≠ 0) :
    os2ip (o :: msg) ≠ 0 ∧ byteLen (os2ip (o :: msg)) = msg.length + 1 := by
  have hlt := os2ip_lt (o :: msg)
  rw [List.length_cons] at hlt
  have hpos : 0 < 256 ^ msg.length := Nat.pow_pos (by decide)
  have hge : 256 ^ msg.length ≤ os2ip (o :: msg) := by
    rw [os2ip_cons]
    have h1 : 1 ≤ o.toNat := Nat.pos_of_ne_zero fun h => ho (UInt8.toNat_inj.1 h)
    have := Nat.mul_le_mul_right (256 ^ msg.length) h1
    omega
  exact ⟨by omega, byteLen_eq _ _ hge hlt⟩

theorem rabinBlock_div (m : Bytes) : rabinBlock m / 2 ^ 64 = os2ip (0xFF :: m) := by
  simp only [rabinBlock]
  rw [mul_add_div_of_lt (Nat.mod_lt _ (by norm_num))]

theorem rabinBlock_mod (m : Bytes) : rabinBlock m % 2 ^ 64 = os2ip (0xFF :: m) % 2 ^ 64 := by
  simp only [rabinBlock]
  rw [Nat.add_comm, Nat.add_mul_mod_self_right, Nat.mod_mod]

theorem rabinParse_eq_some_iff (r : Nat) (m : Bytes) : rabinParse r = some m ↔ r = rabinBlock m := by
  constructor
  · revert m
    change Ret (rabinParse r) _
    unfold rabinParse
    refine Ret.guard fun hc => ?_
    have hc' : r / 2 ^ 64 % 2 ^ 64 = r % 2 ^ 64 := Classical.not_not.1 hc
    simp only
    split
    · rename_i f m hi
      refine Ret.ite (fun hf => Ret.ok ?_) fun _ => Ret.fail
      subst hf
      have := os2ip_i2osp (r / 2 ^ 64) (byteLen (r / 2 ^ 64))
      rw [hi, Nat.mod_eq_of_lt (lt_pow_byteLen _)] at this
      simp only [rabinBlock]
      rw [this, hc']
      exact (Nat.div_add_mod' r (2 ^ 64)).symm
    · exact Ret.fail
  · rintro rfl
    have hcond : ¬ (rabinBlock m / 2 ^ 64 % 2 ^ 64 ≠ rabinBlock m % 2 ^ 64) := by
      rw [rabinBlock_div, rabinBlock_mod]; exact fun hn => hn rfl
    simp only [rabinParse, if_neg hcond]
    rw [rabinBlock_div, (byteLen_os2ip_cons 0xFF m (by decide)).2, ← List.length_cons, i2osp_os2ip]
    simp

end Relic.Lemmas.PadC06
