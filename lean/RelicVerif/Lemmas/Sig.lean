/-
Algebra of the signature specifications (Spec/Sig.lean) over an abstract commutative group of prime order: scalars act
modulo the order, the Fermat inverse is the field inverse, the verifier's recomputed commitment of the Schnorr-type
schemes.  The group operations record `GrpOps` is the one the driver instantiates with curve arithmetic; here it is any
record that realises a commutative group (`Lawful`).
-/
import Mathlib.Data.ZMod.Basic
import Mathlib.FieldTheory.Finite.Basic
import Mathlib.Algebra.Field.ZMod
import Mathlib.GroupTheory.OrderOfElement
import Mathlib.Tactic.Ring
import Mathlib.Tactic.FieldSimp
import RelicVerif.Spec.Sig
import RelicVerif.Lemmas.PowMod
import RelicVerif.Lemmas.ZModCast

namespace Relic.Lemmas.Sig
open Relic.Spec.Sig
open Relic.Spec.Curve (powMod powMod_eq)

variable {P : Type} [AddCommGroup P]

structure Lawful (o : GrpOps P) : Prop where
  add_eq : ∀ a b, o.add a b = a + b
  neg_eq : ∀ a, o.neg a = -a
  smul_eq : ∀ (k : Nat) a, o.smul k a = k • a
  isZero_iff : ∀ a, o.isZero a = true ↔ a = 0
  beq_iff : ∀ a b, o.beq a b = true ↔ a = b

theorem nsmul_congr {g : P} {n : Nat} [NeZero n] (hg : n • g = 0) {a b : Nat} (h : (a : ZMod n) = (b : ZMod n)) :
    a • g = b • g := by
  rw [nsmul_eq_mod_nsmul a hg, nsmul_eq_mod_nsmul b hg, (ZMod.natCast_eq_natCast_iff' a b n).mp h]

theorem nsmul_ne_zero {g : P} {n : Nat} (hn : n.Prime) (hg : n • g = 0) (hg0 : g ≠ 0) {k : Nat} (hk : 0 < k) (hkn : k < n) :
    k • g ≠ 0 := by
  intro h
  have h1 : addOrderOf g ∣ n := addOrderOf_dvd_of_nsmul_eq_zero hg
  have h2 : addOrderOf g ∣ k := addOrderOf_dvd_of_nsmul_eq_zero h
  rcases (Nat.dvd_prime hn).mp h1 with h3 | h3
  · exact hg0 (AddMonoid.addOrderOf_eq_one_iff.mp h3)
  · rw [h3] at h2
    exact absurd (Nat.le_of_dvd hk h2) (by omega)

theorem invMod_cast {n : Nat} [hn : Fact n.Prime] (a : Nat) (ha : (a : ZMod n) ≠ 0) :
    ((invMod n a : Nat) : ZMod n) = (a : ZMod n)⁻¹ := by
  unfold invMod
  rw [powMod_eq, ZMod.natCast_mod, Nat.cast_pow]
  have hf : (a : ZMod n) ^ (n - 1) = 1 := ZMod.pow_card_sub_one_eq_one ha
  have h2 : n - 1 = (n - 2) + 1 := by have := hn.out.two_le; omega
  rw [h2, pow_succ] at hf
  exact eq_inv_of_mul_eq_one_left hf

theorem invMod_lt {n : Nat} (hn : 1 < n) (a : Nat) : invMod n a < n :=
  Relic.Spec.Curve.powMod_lt a _ (Nat.lt_of_succ_lt hn)

theorem isZero_nsmul (o : GrpOps P) (ho : Lawful o) {n : Nat} [hn : Fact n.Prime] {g : P} (hg : n • g = 0) (hg0 : g ≠ 0)
    {k : Nat} (hk : 0 < k ∧ k < n) : o.isZero (k • g) = false := by
  rw [Bool.eq_false_iff]
  exact fun h => nsmul_ne_zero hn.out hg hg0 hk.1 hk.2 ((ho.isZero_iff _).mp h)

theorem Lawful.pub_nsmul {o : GrpOps P} (ho : Lawful o) {n : Nat} [Fact n.Prime] {g : P} (hg : n • g = 0) (hg0 : g ≠ 0)
    {k : Nat} (hk : 0 < k ∧ k < n) (hv : o.valid (k • g) = true) : o.pub (k • g) = true := by
  rw [GrpOps.pub, hv, isZero_nsmul o ho hg hg0 hk]; rfl

/-! ### range tests and commitment equations -/

theorem inRange_natCast (n k : Nat) (h : k < n) : inRange n (k : Int) = true := by
  simp only [inRange, decide_eq_true_eq]; omega

theorem inRange_mod (n k : Nat) [NeZero n] : inRange n ((k % n : Nat) : Int) = true :=
  inRange_natCast n _ (Nat.mod_lt _ (NeZero.pos n))

theorem inRangePos_natCast (n k : Nat) (h0 : k ≠ 0) (h : k < n) : inRangePos n (k : Int) = true := by
  simp only [inRangePos, decide_eq_true_eq]; omega

theorem ecdsa_commit {n : Nat} [Fact n.Prime] (g : P) (hg : n • g = 0) (d k e r s : Nat) (hk : (k : ZMod n) ≠ 0)
    (hs0 : (s : ZMod n) ≠ 0) (hs : (s : ZMod n) = (k : ZMod n)⁻¹ * ((e : ZMod n) + r * d)) :
    (e % n * invMod n s % n) • g + (r * invMod n s % n) • d • g = k • g := by
  have hsum : ((e : ZMod n) + r * d) ≠ 0 := by
    intro h0; rw [h0, mul_zero] at hs; exact hs0 hs
  rw [smul_smul, ← add_smul]
  apply nsmul_congr hg
  simp only [Nat.cast_add, Nat.cast_mul, ZMod.natCast_mod]
  rw [invMod_cast s hs0, hs]
  field_simp

/-- ECDSA with n − s in place of s: every scalar of the verifier is negated modulo n -/
theorem nsmul_invMod_sub {n : Nat} [Fact n.Prime] {s : Nat} (hs1 : 0 < s) (hs2 : s < n) (x : Nat) {pt : P}
    (hpt : n • pt = 0) : (x * invMod n (n - s) % n) • pt = -((x * invMod n s % n) • pt) := by
  have hneg : ((n - s : Nat) : ZMod n) = -(s : ZMod n) := by
    rw [Nat.cast_sub hs2.le, ZMod.natCast_self, zero_sub]
  rw [eq_neg_iff_add_eq_zero, ← add_smul]
  have h0 : (((x * invMod n (n - s) % n + x * invMod n s % n : Nat)) : ZMod n) = ((0 : Nat) : ZMod n) := by
    simp only [Nat.cast_add, Nat.cast_mul, ZMod.natCast_mod, Nat.cast_zero]
    rw [invMod_cast _ (ZModCast.cast_ne_zero_of_lt (by omega) (by omega)), invMod_cast _ (ZModCast.cast_ne_zero_of_lt hs1 hs2), hneg, inv_neg]
    ring
  rw [nsmul_congr hpt h0, zero_smul]

/-- the Schnorr response s = r − c·x as the library computes it, (r + (n − c·x mod n)) mod n -/
theorem schnorr_commit {n : Nat} [NeZero n] (g : P) (hg : n • g = 0) (x r c : Nat) :
    ((r + (n - c * x % n)) % n) • g + c • x • g = r • g := by
  rw [smul_smul, ← add_smul]
  apply nsmul_congr hg
  rw [Nat.cast_add, ZMod.natCast_mod, Nat.cast_add, Nat.cast_sub (Nat.mod_lt _ (NeZero.pos n)).le, ZMod.natCast_self,
    ZMod.natCast_mod]
  push_cast; ring

/-- vBNN-IBS: sk = r + c·x is the user key for R = r·g under mpk = x·g, z = h·sk + y the response; the verifier's
    Z = z·g − h·(R + c·mpk) is the commitment y·g -/
theorem vbnn_commit {n : Nat} [NeZero n] (g : P) (hg : n • g = 0) (x r y c h : Nat) :
    ((h * ((r + c * x) % n) + y) % n) • g + -(h • (r • g + c • x • g)) = y • g := by
  rw [smul_smul, ← add_smul, smul_smul, ← sub_eq_add_neg, sub_eq_iff_eq_add, ← add_smul]
  apply nsmul_congr hg
  rw [ZMod.natCast_mod]
  push_cast
  rw [ZMod.natCast_mod]
  push_cast; ring

/-! ### satisfiability: Z/nZ -/

/-- the additive group Z/nZ as a record of group operations (`xn a` = min(a, n − a): like the x-coordinate of a
    curve point it forgets the sign, `xn (-a) = xn a`, which is the hypothesis `hxn` of `C05.ecdsa_malleable`) -/
def zmodOps (n : Nat) [NeZero n] : GrpOps (ZMod n) where
  add := (· + ·)
  neg := Neg.neg
  smul := fun k a => k • a
  isZero := fun a => decide (a = 0)
  beq := fun a b => decide (a = b)
  valid := fun _ => true
  xn := fun a => if a.val ≤ n / 2 then a.val else n - a.val
  enc := fun _ => []

theorem zmodOps_lawful (n : Nat) [NeZero n] : Lawful (zmodOps n) :=
  ⟨fun _ _ => rfl, fun _ => rfl, fun _ _ => rfl, fun _ => by simp [zmodOps], fun _ _ => by simp [zmodOps]⟩

/-- a concrete run in Z/11Z with generator 1: d = 3, k = 4, e = 5 gives (r, s) = (4, 7), accepted together with (4, 11 − 7) -/
example : ecdsaSignCore (zmodOps 11) 11 1 3 4 5 = some (4, 7) ∧
    ecdsaVerifyCore (zmodOps 11) 11 1 ((zmodOps 11).smul 3 1) 5 4 7 = true ∧
    ecdsaVerifyCore (zmodOps 11) 11 1 ((zmodOps 11).smul 3 1) 5 4 (11 - 7) = true := by decide

end Relic.Lemmas.Sig
