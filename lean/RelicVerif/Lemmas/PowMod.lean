/-
The executable square-and-multiply exponentiation of Spec/Curve.lean computes `a ^ e % m`, for every modulus.
-/
import Mathlib.Data.Nat.ModEq
import RelicVerif.Spec.Curve

namespace Relic.Spec.Curve

/-- the loop keeps the accumulator reduced (`acc % m = acc`, which also covers the moduli 0 and 1) -/
theorem powMod_go_eq (m : Nat) : ∀ (fuel a e acc : Nat), e < 2 ^ fuel → acc % m = acc →
    powMod.go m fuel a e acc = acc * a ^ e % m := by
  intro fuel
  induction fuel with
  | zero =>
    intro a e acc he hacc
    obtain rfl : e = 0 := by simpa using he
    simp [powMod.go, hacc]
  | succ f ih =>
    intro a e acc he hacc
    rw [pow_succ] at he
    unfold powMod.go
    split
    · next h => subst h; simp [hacc]
    · rw [ih _ _ _ (by omega) (by split <;> simp [hacc])]
      -- a^e = (a²)^(e/2) · a^(e mod 2), and the accumulator takes the factor a^(e mod 2)
      conv_rhs => rw [← Nat.div_add_mod e 2, pow_add, pow_mul, sq]
      have hacc2 : (if e % 2 = 1 then acc * a % m else acc) ≡ acc * a ^ (e % 2) [MOD m] := by
        rcases Nat.mod_two_eq_zero_or_one e with h | h <;> simp [h, Nat.ModEq]
      have := hacc2.mul ((Nat.mod_modEq (a * a) m).pow (e / 2))
      rwa [Nat.mul_assoc, Nat.mul_comm (a ^ (e % 2))] at this

theorem powMod_eq (a e m : Nat) : powMod a e m = a ^ e % m := by
  rw [powMod, powMod_go_eq m _ _ _ _ (lt_trans Nat.lt_log2_self (Nat.pow_lt_pow_right (by decide) (by omega)))
    (Nat.mod_mod _ _), Nat.mul_mod, Nat.mod_mod, ← Nat.pow_mod, ← Nat.mul_mod, Nat.one_mul]

theorem powMod_lt (a e : Nat) {m : Nat} (hm : 0 < m) : powMod a e m < m := by
  rw [powMod_eq]; exact Nat.mod_lt _ hm

end Relic.Spec.Curve
