/-
bn_sqra_low (delayed-carry row of the schoolbook squaring) and bn_sqr_basic.
-/
import RelicVerif.Lemmas.BnHighMul
namespace Relic.Model

namespace Sqr

/-- one column of bn_sqra_low on the product `r` (doubled here), the digit `x`, the carry digit `c0` and the
    delayed carry flag `c1`: the new digit, carry digit and flag -/
def colOut (B r x c0 c1 : Nat) : Nat × Nat × Nat :=
  let r0 := (r + r) % (B * B)
  let r1 := (r0 + x + c0) % (B * B)
  let c0' := (r1 / B + c1) % B
  (r1 % B, c0', if r0 < r ∨ r1 < r0 ∨ c0' < c1 then 1 else 0)

theorem colOut_spec (B r x c0 c1 : Nat) (hB : 1 < B) (hr : r + 2 * B ≤ B * B + 1) (hx : x < B)
    (hc0 : c0 < B) (hc1 : c1 ≤ 1) :
    (colOut B r x c0 c1).1 < B ∧ (colOut B r x c0 c1).2.1 < B ∧ (colOut B r x c0 c1).2.2 ≤ 1
      ∧ (colOut B r x c0 c1).1 + B * (colOut B r x c0 c1).2.1 + B * B * (colOut B r x c0 c1).2.2
        = 2 * r + x + c0 + B * c1 := by
  have hM : 2 * B ≤ B * B := Nat.mul_le_mul_right B hB
  obtain ⟨r0, k0, e0, f0, h0, hk0, s0⟩ := add_carry_l (B * B) r r (by omega) (by omega)
  obtain ⟨r1, k1, e1, f1, h1, hk1, s1⟩ := add_carry_l (B * B) r0 (x + c0) h0 (by omega)
  rw [← Nat.add_assoc] at e1 s1
  have hq : r1 / B < B := (Nat.div_lt_iff_lt_mul (by omega)).2 h1
  obtain ⟨c0', k2, e2, f2, h2, hk2, s2⟩ := add_carry_r B (r1 / B) c1 hq (by omega)
  have hdm := Nat.div_add_mod r1 B
  have hsum : r1 % B + B * c0' + B * B * (k0 + k1 + k2) = 2 * r + x + c0 + B * c1 := by grind
  -- the total is below 2·B², so at most one of the three overflows happens and the flag is their sum
  have hk : k0 + k1 + k2 ≤ 1 := by
    have hc : B * c1 ≤ B * 1 := Nat.mul_le_mul_left B hc1
    have : B * B * (k0 + k1 + k2) < B * B * 2 := by omega
    exact Nat.le_of_lt_succ (Nat.lt_of_mul_lt_mul_left this)
  have hf : (if r0 < r ∨ r1 < r0 ∨ c0' < c1 then 1 else 0) = k0 + k1 + k2 := by
    subst f0 f1 f2
    by_cases p0 : r0 < r <;> by_cases p1 : r1 < r0 <;> by_cases p2 : c0' < c1 <;>
      simp [p0, p1, p2] at hk ⊢
  simp only [colOut, e0, e1, e2, hf]
  exact ⟨Nat.mod_lt _ (by omega), h2, hk, hsum⟩

/-- the loop body of `sqraLow` -/
def step (B : Nat) (a : List Nat) (st : List Nat × Nat × Nat) (k : Nat) : List Nat × Nat × Nat :=
  let o := colOut B ((a.getD 0 0 * a.getD (k + 1) 0) % (B * B)) (st.1.getD (k + 1) 0) st.2.1 st.2.2
  (st.1.set (k + 1) o.1, o.2.1, o.2.2)

/-- the state of `sqraLow` before its loop -/
def init (B : Nat) (c a : List Nat) : List Nat × Nat × Nat :=
  (c.set 0 ((c.getD 0 0 + a.getD 0 0 * a.getD 0 0) % (B * B) % B),
    (c.getD 0 0 + a.getD 0 0 * a.getD 0 0) % (B * B) / B, 0)

theorem sqraLow_eq (B : Nat) (c a : List Nat) (size : Nat) :
    sqraLow B c a size =
      (((List.range (size - 1)).foldl (step B a) (init B c a)).1.set size
          ((((List.range (size - 1)).foldl (step B a) (init B c a)).1.getD size 0
            + ((List.range (size - 1)).foldl (step B a) (init B c a)).2.1) % B),
        ((List.range (size - 1)).foldl (step B a) (init B c a)).2.2
          + (if (((List.range (size - 1)).foldl (step B a) (init B c a)).1.getD size 0
            + ((List.range (size - 1)).foldl (step B a) (init B c a)).2.1) % B
              < ((List.range (size - 1)).foldl (step B a) (init B c a)).2.1 then 1 else 0)) := rfl

/-- `hv` is the invariant before, `hsum` the column; on variables so that `grind` sees nothing else -/
theorem loop_arith (B Y D C A a0 ak x d c0 c1 c0' c1' : Nat)
    (hv : D + Y * B * c0 + Y * B * B * c1 = C + a0 * a0 + 2 * a0 * (B * A))
    (hsum : d + B * c0' + B * B * c1' = 2 * (a0 * ak) + x + c0 + B * c1) :
    D + Y * B * d + Y * B * B * c0' + Y * B * B * B * c1'
      = C + Y * B * x + a0 * a0 + 2 * a0 * (B * (A + Y * ak)) := by
  have := congrArg (Y * B * ·) hsum
  grind

theorem loop_inv (B : Nat) (hB : 1 < B) (c a : List Nat) (size : Nat)
    (hc : c.length = size + 1) (ha : a.length = size) (hdc : ∀ d ∈ c, d < B) (hda : ∀ d ∈ a, d < B) :
    ∀ k, k + 1 ≤ size → ∃ done c0 c1,
      (List.range k).foldl (step B a) (init B c a) = (done ++ c.drop (k + 1), c0, c1)
      ∧ done.length = k + 1 ∧ (∀ d ∈ done, d < B) ∧ c0 < B ∧ c1 ≤ 1
      ∧ val B done + B ^ (k + 1) * c0 + B ^ (k + 2) * c1
          = val B (c.take (k + 1)) + a.getD 0 0 * a.getD 0 0
            + 2 * a.getD 0 0 * (B * val B ((a.drop 1).take k)) := by
  have ha0 : a.getD 0 0 < B := getD_lt B (by omega) a hda 0
  intro k
  induction k with
  | zero =>
    intro _
    have hc0 : c.getD 0 0 < B := getD_lt B (by omega) c hdc 0
    have hsq := LowMul.mul_le_sq B _ _ ha0 ha0
    have hlt : c.getD 0 0 + a.getD 0 0 * a.getD 0 0 < B * B := by omega
    obtain ⟨x, xs, rfl⟩ := List.exists_cons_of_length_pos (l := c) (by omega)
    refine ⟨[(x + a.getD 0 0 * a.getD 0 0) % B], (x + a.getD 0 0 * a.getD 0 0) / B, 0, ?_, rfl, ?_, ?_,
      by omega, ?_⟩
    · simp only [List.range_zero, List.foldl_nil, init]
      rw [Nat.mod_eq_of_lt hlt]
      simp
    · intro d hd
      simp only [List.mem_singleton] at hd
      subst hd
      exact Nat.mod_lt _ (by omega)
    · simp only [List.getD_cons_zero] at hlt
      exact (Nat.div_lt_iff_lt_mul (by omega)).2 hlt
    · simp only [val, List.take_zero, List.take_succ_cons, Nat.mul_zero, Nat.add_zero, Nat.zero_add, Nat.pow_one]
      have := Nat.div_add_mod (x + a.getD 0 0 * a.getD 0 0) B
      omega
  | succ k ih =>
    intro hk
    have hk0 : k + 1 ≤ size := Nat.le_of_succ_le hk
    have hk1 : k + 1 < c.length := by omega
    have hk2 : k + 1 < a.length := by omega
    have hk3 : k < (a.drop 1).length := by rw [List.length_drop]; omega
    have hx : c[k + 1] < B := hdc _ (List.getElem_mem _)
    have hak : a.getD (k + 1) 0 < B := getD_lt B (Nat.lt_trans Nat.zero_lt_one hB) a hda _
    have hsq := LowMul.mul_le_sq B _ _ ha0 hak
    have hlt : a.getD 0 0 * a.getD (k + 1) 0 < B * B := by omega
    obtain ⟨done, c0, c1, e, hl, hd, h0, h1, hv⟩ := ih hk0
    obtain ⟨hd', hc0', hc1', hsum⟩ :=
      colOut_spec B (a.getD 0 0 * a.getD (k + 1) 0) c[k + 1] c0 c1 hB hsq hx h0 h1
    rw [List.range_succ, List.foldl_append, e, List.drop_eq_getElem_cons hk1]
    simp only [List.foldl_cons, List.foldl_nil, step]
    rw [getD_mid _ _ _ _ hl, set_mid _ _ _ _ _ hl, Nat.mod_eq_of_lt hlt]
    refine ⟨_, _, _, rfl, by simp [hl], digs_append hd (by simpa using hd'), hc0', hc1', ?_⟩
    rw [High.val_snoc, hl, List.take_succ_eq_append_getElem hk1, High.val_snoc, List.length_take,
      Nat.min_eq_left (Nat.le_of_lt hk1), List.take_succ_eq_append_getElem hk3, High.val_snoc,
      List.length_take, Nat.min_eq_left (Nat.le_of_lt hk3), List.getElem_drop]
    simp only [Nat.add_comm 1 k]
    rw [getD_eq a (k + 1) hk2] at hsum ⊢
    simp only [Nat.pow_succ] at hv ⊢
    exact loop_arith B (B ^ k) _ _ _ _ _ _ _ _ _ _ _ hv hsum

end Sqr

theorem sqraLow_spec (B : Nat) (hB : 1 < B) (c a : List Nat) (size : Nat) (hs : 0 < size)
    (hc : c.length = size + 1) (ha : a.length = size) (hdc : ∀ d ∈ c, d < B) (hda : ∀ d ∈ a, d < B) :
    val B (sqraLow B c a size).1 + (sqraLow B c a size).2 * B ^ (size + 1)
      = val B c + a.getD 0 0 * a.getD 0 0 + 2 * a.getD 0 0 * (B * val B (a.drop 1))
    ∧ (sqraLow B c a size).1.length = size + 1 ∧ (∀ d ∈ (sqraLow B c a size).1, d < B)
    ∧ (sqraLow B c a size).2 ≤ 2 := by
  have hs1 : size - 1 + 1 = size := Nat.sub_add_cancel hs
  have hsz : size < c.length := hc ▸ Nat.lt_succ_self _
  have hcl : c.length ≤ size + 1 := Nat.le_of_eq hc
  have hy : c[size] < B := hdc _ (List.getElem_mem _)
  have htk : (a.drop 1).take (size - 1) = a.drop 1 := by
    apply List.take_of_length_le; rw [List.length_drop, ha]
  have hc' := val_take_drop B size c
  rw [List.drop_eq_getElem_cons hsz, List.drop_of_length_le hcl] at hc'
  simp only [val, Nat.mul_zero, Nat.add_zero] at hc'
  obtain ⟨done, c0, c1, e, hl, hd, h0, h1, hv⟩ :=
    Sqr.loop_inv B hB c a size hc ha hdc hda (size - 1) (Nat.le_of_eq hs1)
  rw [show size - 1 + 2 = size + 1 from congrArg (· + 1) hs1, hs1, htk] at hv
  rw [hs1] at e hl
  rw [List.drop_eq_getElem_cons hsz, List.drop_of_length_le hcl] at e
  rw [Sqr.sqraLow_eq, e]
  simp only
  rw [getD_mid _ _ _ _ hl, set_mid _ _ _ _ _ hl, List.append_nil]
  obtain ⟨s, k, es, ek, hs', hk, hsum⟩ := add_carry_r B c[size] c0 hy h0
  rw [es, ek]
  refine ⟨?_, by simp [hl], digs_append hd (by simpa using hs'), by omega⟩
  rw [High.val_snoc, hl, hc', Nat.pow_succ]
  rw [Nat.pow_succ] at hv
  have := congrArg (B ^ size * ·) hsum
  grind

namespace Sqr

/-- one row of `bnSqrBasic` -/
def basicStep (B : Nat) (a : List Nat) (t : List Nat) (i : Nat) : List Nat :=
  if i + 1 < a.length then
    (splice t (2 * i) (sqraLow B ((t.drop (2 * i)).take (a.length - i + 1)) (a.drop i) (a.length - i)).1).set
      (a.length + i + 1) (sqraLow B ((t.drop (2 * i)).take (a.length - i + 1)) (a.drop i) (a.length - i)).2
  else splice t (2 * i) (sqraLow B ((t.drop (2 * i)).take (a.length - i + 1)) (a.drop i) (a.length - i)).1

/-- with `P + X·Q < N` the whole operand: `P² + 2·P·X·Q ≤ 2·P·(P + X·Q)` -/
theorem partial_lt (X N P Q : Nat) (hP : P < X) (hS : P + X * Q < N) :
    P * P + 2 * P * (X * Q) < 2 * (X * N) := by
  have h1 : P * (P + X * Q) < X * N := Nat.mul_lt_mul'' hP hS
  have h2 : 2 * (P * (P + X * Q)) = P * P + P * P + 2 * P * (X * Q) := by ring
  omega

/-- `hs` replaces the window `W` of `T` at offset `Y²` by `R`, `e` is the row, `hv` the invariant before; on variables so
    that `grind` sees nothing else -/
theorem row_arith (Y S W T R C x P Q B c E : Nat) (hs : S + Y * Y * W = T + Y * Y * R)
    (e : R + c * E = W + x * x + 2 * x * (B * Q)) (hv : T = P * P + 2 * P * (Y * (x + B * Q)))
    (hC : Y * Y * E = C) :
    S + c * C = (P + Y * x) * (P + Y * x) + 2 * (P + Y * x) * (Y * B * Q) := by
  subst hC hv
  have := congrArg (Y * Y * ·) e
  grind

end Sqr

theorem bnSqrBasic_eq (cfg : Cfg) (a : Bn) : bnSqrBasic cfg a =
    if 2 * a.used > cfg.cap then none
    else some (bnTrim ⟨false, List.take (2 * a.used)
      ((List.range a.used).foldl (Sqr.basicStep cfg.B a.dp) (List.replicate (2 * a.used + 1) 0))⟩) := by
  unfold bnSqrBasic
  rw [grow_bind]
  rfl

namespace Sqr

theorem basic_inv (B : Nat) (hB : 1 < B) (a : List Nat) (ha : ∀ d ∈ a, d < B) :
    ∀ i, i ≤ a.length →
      let t := (List.range i).foldl (Sqr.basicStep B a) (List.replicate (2 * a.length + 1) 0)
      t.length = 2 * a.length + 1 ∧ (∀ d ∈ t, d < B)
      ∧ val B t = val B (a.take i) * val B (a.take i)
          + 2 * val B (a.take i) * (B ^ i * val B (a.drop i)) := by
  have hB0 : 0 < B := Nat.zero_lt_of_lt hB
  have hA := val_lt B a ha
  intro i
  induction i with
  | zero =>
    exact fun _ => ⟨List.length_replicate, digs_replicate_zero hB0 _, by simp [val_replicate_zero, val]⟩
  | succ i ih =>
    intro hi
    have hai : i < a.length := hi
    obtain ⟨hl, hd, hv⟩ := ih (Nat.le_of_lt hai)
    rw [List.range_succ, List.foldl_append]
    generalize (List.range i).foldl (Sqr.basicStep B a) (List.replicate (2 * a.length + 1) 0) = t
      at hl hd hv ⊢
    have hwin : 2 * i + (a.length - i + 1) ≤ t.length := by omega
    obtain ⟨e1, l1, d1, _⟩ := sqraLow_spec B hB ((t.drop (2 * i)).take (a.length - i + 1)) (a.drop i)
      (a.length - i) (by omega) (length_window t hwin) (by rw [List.length_drop])
      (digs_take (digs_drop hd _) _) (digs_drop ha _)
    simp only [List.foldl_cons, List.foldl_nil, Sqr.basicStep]
    generalize sqraLow B ((t.drop (2 * i)).take (a.length - i + 1)) (a.drop i) (a.length - i) = r
      at e1 l1 d1 ⊢
    have hwin' : 2 * i + r.1.length ≤ t.length := l1 ▸ hwin
    have hs := val_splice B t r.1 (2 * i) hwin'
    have ls := length_splice t r.1 (2 * i) hwin'
    have hpw : B ^ (i + 1) * B ^ a.length = B ^ (a.length + i + 1) := by
      rw [← Nat.pow_add]; congr 1; omega
    -- so far the value is below B^(n+i+1): the digit that receives the carry is still zero
    have hz := getD_above_splice B t r.1 (2 * i) (a.length + i + 1) (by omega) (by omega) (by
      rw [hv, ← hpw, Nat.pow_succ, Nat.mul_comm (B ^ i) B, Nat.mul_assoc B]
      exact Nat.lt_of_lt_of_le
        (Sqr.partial_lt _ _ _ _ (val_take_lt B hB0 a ha i) (val_take_drop B i a ▸ hA))
        (Nat.mul_le_mul_right _ hB))
    have hdrop : a.drop i = a[i] :: a.drop (i + 1) := List.drop_eq_getElem_cons hai
    rw [l1] at hs
    rw [hdrop, List.getD_cons_zero, List.drop_one, List.tail_cons] at e1
    rw [hdrop, val] at hv
    have hnew : val B (splice t (2 * i) r.1) + r.2 * B ^ (a.length + i + 1)
        = val B (a.take (i + 1)) * val B (a.take (i + 1))
          + 2 * val B (a.take (i + 1)) * (B ^ (i + 1) * val B (a.drop (i + 1))) := by
      have h3 : B ^ (i + 1) = B ^ i * B := by rw [Nat.pow_succ]
      rw [List.take_succ_eq_append_getElem hai, High.val_snoc, List.length_take,
        Nat.min_eq_left (Nat.le_of_lt hai), h3]
      rw [show B ^ (2 * i) = B ^ i * B ^ i by rw [Nat.two_mul, Nat.pow_add]] at hs
      exact Sqr.row_arith _ _ _ _ _ _ _ _ _ _ _ _ hs e1 hv
        (by rw [← Nat.pow_add, ← Nat.pow_add]; congr 1; omega)
    have hP := val_take_lt B hB0 a ha (i + 1)
    -- the new value is below 2·B^(n+i+1), so the carry is 0 or 1
    have hc1 := carry_lt hnew (hpw ▸ Sqr.partial_lt _ _ _ _ hP (val_take_drop B (i + 1) a ▸ hA))
    split
    · have hset := val_set B (splice t (2 * i) r.1) (a.length + i + 1) r.2 (by omega)
      rw [hz, Nat.zero_mul, Nat.add_zero] at hset
      exact ⟨by rw [List.length_set, ls, hl], digs_set (digs_splice hd d1 _) _ _ (by omega), hset ▸ hnew⟩
    · -- last row: C drops the carry, which is 0 since a² < B^(2n)
      have hn : i + 1 = a.length := by omega
      have h0 := carry_lt (k := 1) hnew (by
        rw [List.drop_of_length_le (Nat.le_of_eq hn.symm), val_nil, Nat.mul_zero, Nat.mul_zero,
          Nat.add_zero, Nat.one_mul, ← hpw, ← hn]
        exact Nat.mul_lt_mul'' hP hP)
      rw [Nat.lt_one_iff.1 h0, Nat.zero_mul, Nat.add_zero] at hnew
      exact ⟨by rw [ls, hl], digs_splice hd d1 _, hnew⟩

end Sqr

theorem bnSqrBasic_exact (cfg : Cfg) (hw : 0 < cfg.w) (a : Bn) (ha : a.WF cfg.B) :
    ExactR cfg.B (bnSqrBasic cfg a) (a.toInt cfg.B * a.toInt cfg.B) := by
  have hB := cfg.one_lt_B hw
  rw [bnSqrBasic_eq]
  refine .guard (.ok ?_)
  obtain ⟨_, hd, hv⟩ := Sqr.basic_inv cfg.B hB a.dp ha.dig a.dp.length (Nat.le_refl _)
  simp only [List.take_length, List.drop_length, val_nil, Nat.mul_zero, Nat.add_zero] at hv
  unfold Bn.used
  generalize (List.range a.dp.length).foldl (Sqr.basicStep cfg.B a.dp) _ = t at hd hv
  have hlt := Nat.mul_lt_mul'' (val_lt cfg.B a.dp ha.dig) (val_lt cfg.B a.dp ha.dig)
  rw [← Nat.pow_add, ← Nat.two_mul, ← hv] at hlt
  have hsplit := val_take_drop cfg.B (2 * a.dp.length) t
  rw [val_drop_eq_zero cfg.B t _ hlt, Nat.mul_zero, Nat.add_zero, hv] at hsplit
  simpa using HighMul.mul_fin (B := cfg.B) (by omega) a a _ (digs_take hd _) hsplit.symm

end Relic.Model
