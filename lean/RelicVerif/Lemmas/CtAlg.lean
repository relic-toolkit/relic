/-
Each instrumented model of Model/CtAlg.lean is the loop on the values beside a log that is a function of the public
lengths only (`foldl_logged`; `ladderI_eq`, `regI_eq`, the latter with the loop of C03 itself as the value); the masked
table scan returns the selected entry and the exponentiation ladder a^e.
-/
import RelicVerif.Model.CtAlg

namespace Relic.Model.CtAlg
open Relic.Model.MulAlg

variable {G : Type}

/-- an instrumented loop whose step appends the same block whatever the data: the loop on the values beside a log that
    only counts the iterations -/
theorem foldl_logged {σ β : Type} (f : σ × Log → β → σ × Log) (blk : Log)
    (h : ∀ st b, f st b = ((f (st.1, []) b).1, st.2 ++ blk)) (bs : List β) (st : σ × Log) :
    bs.foldl f st = (bs.foldl (fun s b => (f (s, []) b).1) st.1, st.2 ++ (List.replicate bs.length blk).flatten) := by
  induction bs generalizing st with
  | nil => simp
  | cons b bs ih => rw [List.foldl_cons, ih, h]; simp [List.replicate_succ]

theorem ladderI_eq (o : Ops G) (coords : Nat) (p : G) (bs : List Bool) :
    ladderI o coords p bs = ((bs.foldl (fun (t : G × G) b =>
      cswap (!b) (o.add (cswap (!b) t.1 t.2).1 (cswap (!b) t.1 t.2).2) (o.dbl (cswap (!b) t.1 t.2).2)) (p, o.dbl p)).1,
      ladderLog coords bs.length) := by
  unfold ladderI ladderLog
  simp only []
  rw [foldl_logged _ (List.replicate coords 's' ++ ['A', 'D'] ++ List.replicate coords 's')
    fun st b => by simp only [List.append_assoc]]

private theorem scan_fold (tab : List G) (dflt : G) (idx : Nat) (n : Nat) :
    (List.range n).foldl (fun u j => ccopy (j == idx) u (tab.getD j dflt)) dflt
      = if idx < n then tab.getD idx dflt else dflt := by
  induction n with
  | zero => simp
  | succ n ih =>
    rw [List.range_succ, List.foldl_append, ih]
    simp only [List.foldl_cons, List.foldl_nil, ccopy]
    by_cases h : n = idx
    · subst h; simp
    · have h1 : (n == idx) = false := by simpa using h
      simp only [h1]
      by_cases h2 : idx < n
      · have : idx < n + 1 := by omega
        simp [h2, this]
      · have : ¬ idx < n + 1 := by omega
        simp [h2, this]

theorem scanI_value (tab : List G) (dflt : G) (idx cpe : Nat) : (scanI tab dflt idx cpe).1 = tab.getD idx dflt := by
  unfold scanI
  simp only []
  rw [scan_fold]
  by_cases h : idx < tab.length
  · simp [h]
  · simp only [h, if_false]
    rw [List.getD_eq_getElem?_getD, List.getElem?_eq_none (by omega)]
    rfl

private theorem scanI_log (tab : List G) (dflt : G) (idx cpe : Nat) :
    (scanI tab dflt idx cpe).2 = (List.replicate tab.length (List.replicate cpe 'c')).flatten := rfl

theorem regI_eq (o : Ops G) (tab : List G) (dflt : G) (w cpe : Nat) (reg : List Int) (even : Bool) (p : G) :
    regI o tab dflt w cpe reg even p = (mulReg o tab dflt w reg even p, regLog w cpe tab.length reg.length) := by
  unfold regI regLog mulReg
  simp only []
  rw [foldl_logged _ (List.replicate (w - 1) 'D' ++ (List.replicate tab.length (List.replicate cpe 'c')).flatten
    ++ ['N', 'c', 'A']) fun st b => by simp only [scanI, List.append_assoc], List.length_reverse]
  simp only [scanI_value, ccopy, decide_eq_true_eq]

theorem expLadderI_log (mul : G → G → G) (one a : G) (bs : List Bool) (perBit : Log) :
    (expLadderI mul one a bs perBit).2 = expLadderLog bs.length perBit := by
  unfold expLadderI expLadderLog
  simp only []
  rw [foldl_logged _ perBit fun st b => rfl, List.nil_append]

private def powN (mul : G → G → G) (one a : G) (n : Nat) : G := Nat.rec one (fun _ acc => mul acc a) n

private theorem powN_zero (mul : G → G → G) (one a : G) : powN mul one a 0 = one := rfl
private theorem powN_succ (mul : G → G → G) (one a : G) (n : Nat) :
    powN mul one a (n + 1) = mul (powN mul one a n) a := rfl

private theorem powN_add (mul : G → G → G) (one a : G) (hassoc : ∀ x y z, mul (mul x y) z = mul x (mul y z))
    (hcomm : ∀ x y, mul x y = mul y x) (hone : ∀ x, mul one x = x) (m n : Nat) :
    powN mul one a (m + n) = mul (powN mul one a m) (powN mul one a n) := by
  induction n with
  | zero => rw [Nat.add_zero, powN_zero, hcomm, hone]
  | succ n ih => rw [← Nat.add_assoc, powN_succ, ih, powN_succ, hassoc]

/-- the exponentiation ladder computes a^e (the `Nat.rec`) for e the number whose bits, most significant first, are bs, in any
    commutative monoid given by `mul`, `one` -/
theorem expLadderI_value (mul : G → G → G) (one a : G) (hassoc : ∀ x y z, mul (mul x y) z = mul x (mul y z))
    (hcomm : ∀ x y, mul x y = mul y x) (hone : ∀ x, mul one x = x) (bs : List Bool) (perBit : Log) :
    (expLadderI mul one a bs perBit).1 =
      Nat.rec one (fun _ acc => mul acc a) (bs.foldl (fun n b => 2 * n + (if b then 1 else 0)) 0) := by
  have hadd := powN_add mul one a hassoc hcomm hone
  unfold expLadderI
  simp only []
  suffices h : ∀ (st : (G × G) × Log) (n : Nat), st.1 = (powN mul one a n, powN mul one a (n + 1)) →
      st.1.1 = Nat.rec one (fun _ acc => mul acc a) n from
    h _ _ (List.foldl_rel (r := fun (st : (G × G) × Log) (n : Nat) => st.1 = (powN mul one a n, powN mul one a (n + 1)))
      (by show (one, a) = _; rw [Nat.zero_add, powN_succ, powN_zero, hone])
      fun b _ st n h => by
        cases b
        · simp only [h, cswap, Bool.not_false, if_true, Bool.false_eq_true, if_false, Nat.add_zero]
          rw [← hadd, ← hadd]
          congr 2 <;> omega
        · simp only [h, cswap, Bool.not_true, if_true, Bool.false_eq_true, if_false]
          rw [← hadd, ← hadd]
          congr 2 <;> omega)
  intro st n h
  rw [h]
  rfl

end Relic.Model.CtAlg
