/-
The table code of rijndaelDecrypt (src/bc/rijndael-alg-fst.c, mirrored in Model/Rijndael.lean) computes the FIPS 197
§5.3.5 Equivalent Inverse Cipher of Spec/AesEqInv.lean, for every 16-byte input and every word array that holds the
decryption round keys (in the reversed order written by rijndaelKeySetupDec).
-/
import RelicVerif.Lemmas.RijndaelEnc

namespace Relic.Lemmas.Rijndael.Dec
open Relic.Spec.Aes Relic.Model Relic.Gen.AesTables
open Relic.Lemmas.Aes (mixColumn_four mixColumns_sixteen invShiftRows_sixteen exists_sixteen getD_length16
  addRoundKey_length16 invMixColumns_length)
open Relic.Lemmas.AesTables (X b3_X b2_X b1_X b0_X half_word lastRound_word Td0_col Td1_col Td2_col Td3_col Td4_col)

theorem decHalf_spec (rk : Array UInt32) (o : Nat) (S K : Bytes) (hS : S.length = 16) (hK : K.length = 16)
    (hw : ∀ c, c < 4 → rk.getD (o + c) 0 = Rijndael.getu32 K (4 * c)) :
    Rijndael.decHalf rk o (wordsOf S) =
      wordsOf (addRoundKey (invMixColumns (invShiftRows (invSubBytes S))) K) := by
  obtain ⟨x0, x1, x2, x3, x4, x5, x6, x7, x8, x9, x10, x11, x12, x13, x14, x15, rfl⟩ := exists_sixteen S hS
  obtain ⟨k0, k1, k2, k3, k4, k5, k6, k7, k8, k9, k10, k11, k12, k13, k14, k15, rfl⟩ := exists_sixteen K hK
  simp only [invSubBytes, List.map_cons, List.map_nil, invShiftRows_sixteen, invMixColumns, mixColumns_sixteen,
    mixColumn_four, List.cons_append, List.nil_append, addRoundKey, List.zipWith_cons_cons, List.zipWith_nil_left,
    wordsOf_sixteen]
  exact Prod.ext (half_word Td0_col Td1_col Td2_col Td3_col (b3_X ..) (b2_X ..) (b1_X ..) (b0_X ..) (hw 0 (by decide)))
    (Prod.ext (half_word Td0_col Td1_col Td2_col Td3_col (b3_X ..) (b2_X ..) (b1_X ..) (b0_X ..) (hw 1 (by decide)))
      (Prod.ext (half_word Td0_col Td1_col Td2_col Td3_col (b3_X ..) (b2_X ..) (b1_X ..) (b0_X ..) (hw 2 (by decide)))
        (half_word Td0_col Td1_col Td2_col Td3_col (b3_X ..) (b2_X ..) (b1_X ..) (b0_X ..) (hw 3 (by decide)))))

/-- the text of rijndaelDecrypt after the loop: the last round (Td4 and the byte masks) and the four PUTU32 -/
def decFinal (rk : Array UInt32) (off : Nat) (t : Rijndael.W4) : List UInt8 :=
  let (t0, t1, t2, t3) := t
  let s0 := (Rijndael.tab Td4 (Rijndael.b3 t0) &&& 0xff000000) ^^^ (Rijndael.tab Td4 (Rijndael.b2 t3) &&& 0x00ff0000) ^^^
            (Rijndael.tab Td4 (Rijndael.b1 t2) &&& 0x0000ff00) ^^^ (Rijndael.tab Td4 (Rijndael.b0 t1) &&& 0x000000ff) ^^^ Rijndael.rd rk off 0
  let s1 := (Rijndael.tab Td4 (Rijndael.b3 t1) &&& 0xff000000) ^^^ (Rijndael.tab Td4 (Rijndael.b2 t0) &&& 0x00ff0000) ^^^
            (Rijndael.tab Td4 (Rijndael.b1 t3) &&& 0x0000ff00) ^^^ (Rijndael.tab Td4 (Rijndael.b0 t2) &&& 0x000000ff) ^^^ Rijndael.rd rk off 1
  let s2 := (Rijndael.tab Td4 (Rijndael.b3 t2) &&& 0xff000000) ^^^ (Rijndael.tab Td4 (Rijndael.b2 t1) &&& 0x00ff0000) ^^^
            (Rijndael.tab Td4 (Rijndael.b1 t0) &&& 0x0000ff00) ^^^ (Rijndael.tab Td4 (Rijndael.b0 t3) &&& 0x000000ff) ^^^ Rijndael.rd rk off 2
  let s3 := (Rijndael.tab Td4 (Rijndael.b3 t3) &&& 0xff000000) ^^^ (Rijndael.tab Td4 (Rijndael.b2 t2) &&& 0x00ff0000) ^^^
            (Rijndael.tab Td4 (Rijndael.b1 t1) &&& 0x0000ff00) ^^^ (Rijndael.tab Td4 (Rijndael.b0 t0) &&& 0x000000ff) ^^^ Rijndael.rd rk off 3
  Rijndael.putu32 s0 ++ Rijndael.putu32 s1 ++ Rijndael.putu32 s2 ++ Rijndael.putu32 s3

theorem decrypt_unfold (rk : Array UInt32) (nr : Nat) (ct : List UInt8) :
    Rijndael.decrypt rk nr ct =
      decFinal rk (Rijndael.decLoop rk (nr >>> 1) 0 (initW rk ct)).1 (Rijndael.decLoop rk (nr >>> 1) 0 (initW rk ct)).2 := rfl

theorem decFinal_spec (rk : Array UInt32) (off : Nat) (T K : Bytes) (hT : T.length = 16) (hK : K.length = 16)
    (hw : ∀ c, c < 4 → rk.getD (off + c) 0 = Rijndael.getu32 K (4 * c)) :
    decFinal rk off (wordsOf T) = addRoundKey (invShiftRows (invSubBytes T)) K := by
  obtain ⟨x0, x1, x2, x3, x4, x5, x6, x7, x8, x9, x10, x11, x12, x13, x14, x15, rfl⟩ := exists_sixteen T hT
  obtain ⟨k0, k1, k2, k3, k4, k5, k6, k7, k8, k9, k10, k11, k12, k13, k14, k15, rfl⟩ := exists_sixteen K hK
  simp only [wordsOf_sixteen, decFinal, Rijndael.rd, invSubBytes, List.map_cons, List.map_nil, invShiftRows_sixteen,
    addRoundKey, List.zipWith_cons_cons, List.zipWith_nil_left]
  rw [lastRound_word Td4_col.diag (b3_X ..) (b2_X ..) (b1_X ..) (b0_X ..) (hw 0 (by decide)),
    lastRound_word Td4_col.diag (b3_X ..) (b2_X ..) (b1_X ..) (b0_X ..) (hw 1 (by decide)),
    lastRound_word Td4_col.diag (b3_X ..) (b2_X ..) (b1_X ..) (b0_X ..) (hw 2 (by decide)),
    lastRound_word Td4_col.diag (b3_X ..) (b2_X ..) (b1_X ..) (b0_X ..) (hw 3 (by decide))]
  rfl

theorem rk_words (rk : Array UInt32) (dk : List Bytes) (nr : Nat) (hok : RkOK rk dk.reverse)
    (hlen : dk.length = nr + 1) (i : Nat) (hi : i ≤ nr) :
    ∀ c, c < 4 → rk.getD (4 * i + c) 0 = Rijndael.getu32 (dk.getD (nr - i) []) (4 * c) := by
  intro c hc
  have h := hok i (by rw [List.length_reverse, hlen]; omega) c hc
  rw [h, Relic.Lemmas.Aes.getD_reverse dk i (by rw [hlen]; omega), hlen]
  rfl

theorem decrypt_eq_even (rk : Array UInt32) (dk : List Bytes) (m : Nat) (hok : RkOK rk dk.reverse)
    (hlen : dk.length = 2 * (m + 1) + 1) (hk : ∀ k ∈ dk, k.length = 16) (ct : Bytes) (hct : ct.length = 16) :
    Rijndael.decrypt rk (2 * (m + 1)) ct = eqInvCipher dk ct := by
  have hKn : (dk.getD (2 * (m + 1)) []).length = 16 := getD_length16 dk hk _ (by omega)
  have hw0 := rk_words rk dk _ hok hlen 0 (by omega)
  have hwn := rk_words rk dk _ hok hlen (2 * (m + 1)) (Nat.le_refl _)
  rw [Nat.sub_self] at hwn
  have hS0 : (addRoundKey ct (dk.getD (2 * (m + 1)) [])).length = 16 := addRoundKey_length16 _ _ hct hKn
  have hL : ∀ (S : Bytes) i, S.length = 16 → i < 2 * m + 1 →
      (addRoundKey (invMixColumns (invShiftRows (invSubBytes S))) (dk.getD (2 * (m + 1) - 1 - i) [])).length = 16 :=
    fun S i _ _ => addRoundKey_length16 _ _ (invMixColumns_length _) (getD_length16 dk hk _ (by omega))
  have hloop := loop_spec (loop := Rijndael.decLoop rk) (half := Rijndael.decHalf rk) (fun _ _ => rfl) (fun _ _ _ => rfl)
    _ _ hL
    (fun S i hS hi => decHalf_spec rk _ S _ hS (getD_length16 dk hk _ (by omega))
      (by have := rk_words rk dk _ hok hlen (i + 1) (by omega)
          rwa [show 2 * (m + 1) - (i + 1) = 2 * (m + 1) - 1 - i by omega] at this))
    m 0 _ hS0 (by omega)
  rw [decrypt_unfold, initW_eq rk ct _ hct hKn hw0, two_mul_shiftRight_one, hloop]
  simp only [eqInvCipher, hlen, Nat.add_sub_cancel, List.range_eq_range']
  rw [show 4 * 0 + 8 * (m + 1) = 4 * (2 * (m + 1)) by omega]
  exact decFinal_spec rk _ _ _ (foldl_range'_length16 _ _ hL _ 0 _ hS0 (by omega)) (getD_length16 dk hk _ (by omega)) hwn

theorem decrypt_eq (rk : Array UInt32) (dk : List Bytes) (nr : Nat) (hok : RkOK rk dk.reverse)
    (hlen : dk.length = nr + 1) (hnr : nr = 10 ∨ nr = 12 ∨ nr = 14) (hk : ∀ k ∈ dk, k.length = 16)
    (ct : Bytes) (hct : ct.length = 16) : Rijndael.decrypt rk nr ct = eqInvCipher dk ct := by
  rcases hnr with rfl | rfl | rfl
  · exact decrypt_eq_even rk dk 4 hok hlen hk ct hct
  · exact decrypt_eq_even rk dk 5 hok hlen hk ct hct
  · exact decrypt_eq_even rk dk 6 hok hlen hk ct hct

end Relic.Lemmas.Rijndael.Dec
