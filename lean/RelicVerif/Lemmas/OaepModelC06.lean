/-
Model = specification for the OAEP remover of cp_rsa_dec (property C06): the integer-level steps of Model/Cp.lean
`padPkcs2Dec` (pad_pkcs2, case RSA_DEC of src/cp/relic_cp_rsa.c: shifts by whole octets, xor of the mask as integers,
`bn_size_bin` to locate the 01 separator) decide and return exactly what the byte-level EME-OAEP decoder of Spec/Cp.lean
(RFC 8017 §7.1.2 step 3) does, for EVERY encoded message of the modulus length.
-/
import RelicVerif.Lemmas.PadModelC06

namespace Relic.Lemmas.OaepModelC06
open Relic.Spec.Cp Relic.Model.Cp
open Relic.Spec.Mac (Hash mgf1 xorBytes)
open Relic.Lemmas.PadC06 (os2ip_lt i2osp_os2ip mgf1_length xorBytes_length xor_mgf1 pow256 byteLen_os2ip_cons dropWhile_eq_cons exists_split
  oaepDecode_cons os2ip_append_mod os2ip_append_div' os2ip_append_mod' i2osp_os2ip' os2ip_cons_div os2ip_xorBytes)
open Relic.Lemmas.PadModelC06 (u8_eq_zero)

theorem os2ip_zero_cons (b : Bytes) : os2ip (0 :: b) = os2ip b := by
  have h0 : (0 : UInt8).toNat = 0 := rfl
  rw [PadC06.os2ip_cons, h0, Nat.zero_mul, Nat.zero_add]

theorem os2ip_dropWhile_zero (r : Bytes) : os2ip (r.dropWhile (fun b => decide (b = 0))) = os2ip r := by
  induction r with
  | nil => rfl
  | cons x t ih =>
    by_cases hx : x = 0
    · subst hx
      rw [List.dropWhile_cons_of_pos (by simp), ih, os2ip_zero_cons]
    · rw [List.dropWhile_cons_of_neg (by simpa using hx)]

theorem os2ip_cons_mod (o : UInt8) (msg : Bytes) : os2ip (o :: msg) % 256 ^ msg.length = os2ip msg :=
  os2ip_append_mod [o] msg

/-- pad_pkcs2, case RSA_DEC, against RFC 8017 §7.1.2 step 3 -/
theorem padPkcs2Dec_eq (H : Hash) (hout : ∀ b, (H.h b).length = H.outLen) (hpos : 0 < H.outLen) (em : Bytes)
    (hk : 2 * H.outLen + 2 ≤ em.length) :
    (padPkcs2Dec H (os2ip em) em.length).map (fun r => i2osp r.1 (em.length - r.2)) = oaepDecode H em.length em := by
  generalize hlen : em.length = k at hk ⊢
  obtain ⟨y, rest, rfl⟩ := List.exists_cons_of_length_pos (l := em) (by omega)
  rw [List.length_cons] at hlen
  obtain ⟨mS, mD, rfl, hls, hld⟩ := exists_split rest H.outLen (by omega)
  have hrl : (mS ++ mD).length = k - 1 := by omega
  rw [hrl] at hld
  have hkk : k - H.outLen - 1 = k - 1 - H.outLen := by omega
  rw [oaepDecode_cons H k y mS mD hk hls (hkk ▸ hld)]
  unfold padPkcs2Dec
  simp only []
  rw [hkk, show os2ip (y :: (mS ++ mD)) / 256 ^ (k - 1) = y.toNat from hrl ▸ os2ip_cons_div y (mS ++ mD)]
  by_cases hy : y = 0
  · subst hy
    have hz : ¬ ((0 : UInt8).toNat ≠ 0) := fun h => h rfl
    rw [if_neg hz, os2ip_zero_cons]
    rw [os2ip_append_div' mS mD hld, os2ip_append_mod' mS mD hld, i2osp_os2ip' mS hls, i2osp_os2ip' mD hld]
    generalize xorBytes mS (mgf1 H mD H.outLen) = seed
    have hml : mD.length = (mgf1 H seed (k - 1 - H.outLen)).length := by
      rw [hld, mgf1_length H hout hpos]
    rw [← os2ip_xorBytes mD _ hml]
    have hdbl := (xor_mgf1 H hout hpos mD seed _ hld).1
    generalize xorBytes mD (mgf1 H seed (k - 1 - H.outLen)) = db at hdbl ⊢
    obtain ⟨t, d, rfl, htl, hdl⟩ := exists_split db H.outLen (by omega)
    rw [hdbl] at hdl
    rw [os2ip_append_div' t d hdl, os2ip_append_mod' t d hdl, i2osp_os2ip' t htl, List.take_left' htl, List.drop_left' htl]
    have hdw := os2ip_dropWhile_zero d
    have hdwl := (List.dropWhile_sublist (l := d) (fun b => decide (b = 0))).length_le
    rcases hd : d.dropWhile (fun b => decide (b = 0)) with _ | ⟨o, msg⟩
    · rw [hd] at hdw
      have h0 : os2ip d = 0 := hdw.symm
      rw [h0, if_pos rfl]
      rfl
    · rw [hd] at hdw hdwl
      rw [List.length_cons] at hdwl
      have ho : o ≠ 0 := by simpa using (dropWhile_eq_cons hd).2
      obtain ⟨hne, hbl⟩ := byteLen_os2ip_cons o msg ho
      rw [← hdw, if_neg hne, hbl, Nat.add_sub_cancel, os2ip_cons_div, os2ip_cons_mod]
      have hsub : k - (k - msg.length) = msg.length := by omega
      show Option.map _ _ = (if o = 1 ∧ (0 : UInt8) = 0 ∧ t = H.h [] then some msg else none)
      have h1 : o.toNat = 1 ↔ o = 1 := by rw [← UInt8.toNat_inj]; rfl
      have hiff : (t = H.h [] ∧ o.toNat = 1) ↔ (o = 1 ∧ (0 : UInt8) = 0 ∧ t = H.h []) := by
        rw [h1]; exact ⟨fun h => ⟨h.2, rfl, h.1⟩, fun h => ⟨h.2.2, h.1⟩⟩
      simp only [hiff]
      split_ifs
      · simp only [Option.map_some, hsub, i2osp_os2ip]
      · rfl
  · have hyn : y.toNat ≠ 0 := mt (u8_eq_zero y).1 hy
    rw [if_pos hyn, Option.map_none]
    split
    · exact (if_neg (fun h => hy h.2.1)).symm
    · rfl

end Relic.Lemmas.OaepModelC06
