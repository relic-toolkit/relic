/-
The coded subgroup tests of Model/PcValid.lean over an abstract commutative group `A` ("the curve": every element is on
it) with an endomorphism ψ. One principle carries the proofs: the test, or the hypothesis on the r-torsion, makes `a` an
eigenvector of ψ, and an additive map acts on the multiples of an eigenvector as the eigenvalue (`map_zsmul`, `map_zpow`).
The cofactor-1 test and the B12 tests of G1, G2, GT accept exactly the non-zero elements killed by r; for the BN test of
G2 only completeness (members are accepted); nothing for the BN test of GT.
-/
import Mathlib.GroupTheory.OrderOfElement
import Mathlib.Tactic.Module
import Mathlib.Tactic.Group
import Mathlib.Tactic.Linarith
import Mathlib.Data.ZMod.Basic
import RelicVerif.Model.PcValid

namespace Relic.Lemmas.PcValid
open Relic.Model.PcValid

variable {A : Type} [AddCommGroup A] [DecidableEq A]

/-- the abstract instance: the whole group is "the curve" -/
def absOps (ψ : A →+ A) : GOps A where
  isInf := fun a => decide (a = 0)
  onCurve := fun _ => true
  add := fun a b => a + b
  dbl := fun a => a + a
  neg := fun a => -a
  mul := fun a k => k • a
  psi := fun a => ψ a
  eq := fun a b => decide (a = b)

omit [DecidableEq A] in
theorem zsmul_of_dvd {r : ℕ} {a : A} (h : r • a = 0) {m : ℤ} (hm : (r : ℤ) ∣ m) : m • a = 0 := by
  obtain ⟨c, rfl⟩ := hm
  rw [mul_comm, mul_smul, natCast_zsmul, h, smul_zero]

/-- cofactor 1: the test is "not the identity and on the curve", and in a group of order r that is "killed by r" -/
theorem g1_cofOne [Fintype A] (ψ : A →+ A) (endom : Bool) (fam : Fam) (z : ℤ) (n : ℕ) (hn : Fintype.card A = n) (a : A) :
    g1IsValid (absOps ψ) true endom fam z n a = true ↔ a ≠ 0 ∧ n • a = 0 := by
  have h : n • a = 0 := by rw [← hn]; exact card_nsmul_eq_zero
  simp [g1IsValid, absOps, h]

theorem g1_b12_rel (ψ : A →+ A) (z : ℤ) (r : ℕ) (a : A) :
    g1IsValid (absOps ψ) false true .b12 z r a = true ↔ a ≠ 0 ∧ ψ (ψ a) = -(z • z • a) := by
  simp [g1IsValid, absOps]

theorem g1_b12 (ψ : A →+ A) (z : ℤ) (r : ℕ) (lam : ℤ)
    (hχ : ∀ P, ψ (ψ P) + ψ P + P = 0) (hr : (r : ℤ) = z ^ 4 - z ^ 2 + 1)
    (hlam : ∀ P : A, r • P = 0 → ψ P = lam • P) (hlr : (r : ℤ) ∣ lam ^ 2 + z ^ 2) (a : A) :
    g1IsValid (absOps ψ) false true .b12 z r a = true ↔ a ≠ 0 ∧ r • a = 0 := by
  rw [g1_b12_rel]
  refine and_congr_right fun _ => ⟨fun h => ?_, fun h => ?_⟩
  · -- the characteristic equation makes a an eigenvector, ψ a = (z² − 1)•a; ψ is additive, so ψ² a = (z² − 1)²•a
    have h1 : ψ a = (z ^ 2 - 1) • a := by
      rw [← sub_eq_zero, ← hχ a, h]; module
    rw [h1, map_zsmul, h1, eq_neg_iff_add_eq_zero] at h
    rw [← natCast_zsmul, hr, ← h]; module
  · rw [hlam a h, map_zsmul, hlam a h, eq_neg_iff_add_eq_zero, ← zsmul_of_dvd h hlr]
    module

theorem g2_b12_rel (ψ : A →+ A) (z : ℤ) (r : ℕ) (a : A) :
    g2IsValid (absOps ψ) true false .b12 z r a = true ↔ a ≠ 0 ∧ z • a = ψ a := by
  simp [g2IsValid, absOps, psiN]

theorem g2_b12 [Fintype A] (ψ : A →+ A) (z t p : ℤ) (r : ℕ) (lam : ℤ)
    (hχ : ∀ P, ψ (ψ P) - t • ψ P + p • P = 0)
    (hgcd : (Int.gcd (z ^ 2 - t * z + p) (Fintype.card A) : ℤ) ∣ r)
    (hlam : ∀ P : A, r • P = 0 → ψ P = lam • P) (hlz : (r : ℤ) ∣ lam - z) (a : A) :
    g2IsValid (absOps ψ) true false .b12 z r a = true ↔ a ≠ 0 ∧ r • a = 0 := by
  rw [g2_b12_rel]
  refine and_congr_right fun _ => ⟨fun h => ?_, fun h => ?_⟩
  · -- a is an eigenvector for z, so χ(z) kills it; so does the group order, hence their gcd, hence r
    have hm : (z ^ 2 - t * z + p) • a = 0 := by
      have := hχ a
      rw [← h, map_zsmul, ← h] at this
      rw [← this]; module
    have hc : ((Fintype.card A : ℕ) : ℤ) • a = 0 := by rw [natCast_zsmul]; exact card_nsmul_eq_zero
    have hg : (Int.gcd (z ^ 2 - t * z + p) (Fintype.card A) : ℤ) • a = 0 := by
      rw [Int.gcd_eq_gcd_ab, add_smul, mul_comm, mul_smul, hm, smul_zero, mul_comm, mul_smul, hc, smul_zero, add_zero]
    obtain ⟨c, hc'⟩ := hgcd
    rw [← natCast_zsmul, hc', mul_comm, mul_smul, hg, smul_zero]
  · rw [hlam a h, ← sub_eq_zero, ← sub_smul]
    exact zsmul_of_dvd h (dvd_sub_comm.mp hlz)

theorem g2_bn_rel (ψ : A →+ A) (z : ℤ) (r : ℕ) (a : A) :
    g2IsValid (absOps ψ) true false .bn z r a = true ↔
      a ≠ 0 ∧ z • a + a + ψ (z • a) + ψ (ψ (z • a)) = ψ (ψ (ψ (z • a))) + ψ (ψ (ψ (z • a))) := by
  simp [g2IsValid, absOps, psiN]

/-- BN: completeness only; `hl` is the relation of the test read on an eigenvector -/
theorem g2_bn_complete (ψ : A →+ A) (z : ℤ) (r : ℕ) (lam : ℤ)
    (hlam : ∀ P : A, r • P = 0 → ψ P = lam • P)
    (hl : (r : ℤ) ∣ z + 1 + z * lam + z * lam ^ 2 - 2 * z * lam ^ 3) (a : A) (h0 : a ≠ 0) (h : r • a = 0) :
    g2IsValid (absOps ψ) true false .bn z r a = true := by
  rw [g2_bn_rel]
  refine ⟨h0, ?_⟩
  -- ψ is additive: it acts as lam on every multiple of a
  simp only [map_zsmul, hlam a h]
  rw [← sub_eq_zero, ← zsmul_of_dvd h hl]
  module

/-- g1_mul_gen / g2_mul_gen hand on the canonical residue, which acts like k on every element killed by n
    (`zpow_eq_zpow_emod'` read additively) -/
theorem genRoute_smul (n : ℕ) (k : ℤ) (P : A) (hP : n • P = 0) : (genRoute n k) • P = k • P :=
  (zpow_eq_zpow_emod' (G := Multiplicative A) (x := Multiplicative.ofAdd P) k hP).symm

/-- g1_mul / g2_mul, whichever path is taken -/
theorem mulRoute_smul (w n : ℕ) (k : ℤ) (P : A) (hP : n • P = 0) : (mulRoute w n k).2 • P = k • P := by
  unfold mulRoute
  split
  · rfl
  · exact genRoute_smul n k P hP

theorem genRoute_range (n : ℕ) (hn : 0 < n) (k : ℤ) : 0 ≤ genRoute n k ∧ genRoute n k < n :=
  ⟨Int.emod_nonneg _ (by omega), Int.emod_lt_of_pos _ (by omega)⟩

theorem mulRoute_dig (w n : ℕ) (k : ℤ) : (mulRoute w n k).1 = true ↔ k.natAbs < 2 ^ w := by
  unfold mulRoute; split <;> simp [*]

section GT
variable {T : Type} [CommGroup T] [DecidableEq T]

def iter (φ : T →* T) : ℕ → T → T
  | 0, a => a
  | i + 1, a => φ (iter φ i a)

/-- the abstract target group: no zero element, Frobenius φ, fp12_exp_cyc_sps = exponentiation by the parameter z -/
def absT (φ : T →* T) (z : ℤ) : TOps T where
  isOne := fun a => decide (a = 1)
  isZero := fun _ => false
  mul := fun a b => a * b
  sqr := fun a => a * a
  inv := fun a => a⁻¹
  frb := fun a i => iter φ i a
  expSps := fun a => a ^ z
  exp := fun a k => a ^ k
  eq := fun a b => decide (a = b)

theorem gt_b12_rel (φ : T →* T) (z : ℤ) (r : ℕ) (a : T) :
    gtIsValid (absT φ z) false .b12 r a = true ↔ a ≠ 1 ∧ φ (φ (φ (φ a))) * a = φ (φ a) ∧ φ a = a ^ z := by
  simp only [gtIsValid, testCyc, absT, iter]
  by_cases h1 : a = 1 <;> by_cases h2 : φ (φ (φ (φ a))) * a = φ (φ a) <;> simp [h1, h2]

theorem gt_b12 (φ : T →* T) (z : ℤ) (r : ℕ) (lam : ℤ) (hr : (r : ℤ) = z ^ 4 - z ^ 2 + 1)
    (hlam : ∀ a : T, a ^ r = 1 → φ a = a ^ lam) (hlz : (r : ℤ) ∣ lam - z) (a : T) :
    gtIsValid (absT φ z) false .b12 r a = true ↔ a ≠ 1 ∧ a ^ r = 1 := by
  rw [gt_b12_rel]
  -- once φ a = a^z, φ is exponentiation by z on the powers of a and the cyclotomic test reads a^(z⁴ − z² + 1) = 1
  have key : φ a = a ^ z → (φ (φ (φ (φ a))) * a = φ (φ a) ↔ a ^ r = 1) := by
    intro hz
    simp only [hz, map_zpow, ← zpow_mul]
    rw [← zpow_natCast, hr, ← mul_inv_eq_one]
    constructor <;> intro e <;> rw [← e] <;> group
  constructor
  · rintro ⟨h0, hc, hz⟩
    exact ⟨h0, (key hz).mp hc⟩
  · rintro ⟨h0, h⟩
    have hz : φ a = a ^ z := by
      obtain ⟨c, hc⟩ := hlz
      rw [hlam a h, show lam = z + r * c by linarith, zpow_add, zpow_mul, zpow_natCast, h, one_zpow, mul_one]
    exact ⟨h0, (key hz).mpr h, hz⟩

end GT

/-- the hypotheses of `g1_b12` are satisfiable: Z/13 with z = 2 (r = z⁴ − z² + 1 = 13), ψ = multiplication by 3
    (3² + 3 + 1 = 13, 3² + 2² = 13) -/
example : ∃ (ψ : ZMod 13 →+ ZMod 13) (z lam : ℤ) (r : ℕ), (∀ P, ψ (ψ P) + ψ P + P = 0) ∧ (r : ℤ) = z ^ 4 - z ^ 2 + 1 ∧
    (∀ P : ZMod 13, r • P = 0 → ψ P = lam • P) ∧ (r : ℤ) ∣ lam ^ 2 + z ^ 2 :=
  ⟨AddMonoidHom.mulLeft 3, 2, 3, 13, by decide, by norm_num, by decide, by norm_num⟩

end Relic.Lemmas.PcValid
