/-
A byte string cut into fixed-size blocks: `Spec.MD.blocks bs`. The block splitters of Spec/Sha256.lean (64), Spec/Sha512.lean (128)
and Spec/Aes.lean (`chunks16`) are this function.
-/
import RelicVerif.Spec.MerkleDamgard
import RelicVerif.Spec.Aes

namespace Relic.Lemmas.Blocks
open Relic.Spec

theorem blocks_nil (bs f : Nat) : MD.blocks bs f [] = [] := by
  cases f <;> rfl

theorem blocks_cons (bs f : Nat) (a b : List UInt8) (hbs : 0 < bs) (ha : a.length = bs) :
    MD.blocks bs (f + 1) (a ++ b) = a :: MD.blocks bs f b := by
  have hne : (a ++ b).isEmpty = false := by
    cases a with
    | nil => simp at ha; omega
    | cons x t => rfl
  rw [MD.blocks, hne, ← ha, List.take_left, List.drop_left]; rfl

theorem blocks_single (bs f : Nat) (a : List UInt8) (hbs : 0 < bs) (ha : a.length = bs) : MD.blocks bs (f + 1) a = [a] := by
  have := blocks_cons bs f a [] hbs ha
  rwa [List.append_nil, blocks_nil] at this

theorem blocks_flatten (bs : Nat) (hbs : 0 < bs) (L : List (List UInt8)) (hL : ∀ b ∈ L, b.length = bs) (f : Nat)
    (hf : L.length ≤ f) : MD.blocks bs f L.flatten = L := by
  induction L generalizing f with
  | nil => exact blocks_nil bs f
  | cons b t ih =>
    obtain ⟨f, rfl⟩ : ∃ g, f = g + 1 := ⟨f - 1, by simp at hf; omega⟩
    rw [List.flatten_cons, blocks_cons bs f _ _ hbs (hL b (by simp)),
      ih (fun b' hb' => hL b' (by simp [hb'])) f (by simp at hf; omega)]

theorem flatten_blocks (bs f : Nat) (l : List UInt8) (hf : l.length ≤ bs * f) (hm : l.length % bs = 0) :
    (MD.blocks bs f l).flatten = l ∧ ∀ b ∈ MD.blocks bs f l, b.length = bs := by
  induction f generalizing l with
  | zero => rw [List.eq_nil_of_length_eq_zero (by omega : l.length = 0)]; simp [MD.blocks]
  | succ f ih =>
    rw [MD.blocks]
    split
    · rename_i he
      rw [List.isEmpty_iff.mp he]; simp
    · rename_i he
      have hpos : 0 < l.length := List.length_pos_iff.mpr (by simpa using he)
      have hle : bs ≤ l.length := Nat.le_of_dvd hpos (Nat.dvd_of_mod_eq_zero hm)
      have := ih (l.drop bs) (by rw [List.length_drop, Nat.mul_succ] at *; omega)
        (by rw [List.length_drop, ← Nat.mod_eq_sub_mod hle, hm])
      refine ⟨by rw [List.flatten_cons, this.1, List.take_append_drop], fun b hb => ?_⟩
      rcases List.mem_cons.mp hb with rfl | hb
      · rw [List.length_take]; omega
      · exact this.2 b hb

theorem blocks256_eq (f : Nat) (l : List UInt8) : Sha256.blocks f l = MD.blocks 64 f l := by
  induction f generalizing l with
  | zero => rfl
  | succ f ih => simp only [Sha256.blocks, MD.blocks, ih]

theorem blocks512_eq (f : Nat) (l : List UInt8) : Sha512.blocks f l = MD.blocks 128 f l := by
  induction f generalizing l with
  | zero => rfl
  | succ f ih => simp only [Sha512.blocks, MD.blocks, ih]

theorem chunks16_eq (f : Nat) (l : List UInt8) : Aes.chunks16 f l = MD.blocks 16 f l := by
  induction f generalizing l with
  | zero => rfl
  | succ f ih => simp only [Aes.chunks16, MD.blocks, ih]

end Relic.Lemmas.Blocks
