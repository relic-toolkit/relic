/-
Every scalar-multiplication loop of Model/MulAlg.lean computes the integer its recoding denotes times the
base point, in an arbitrary additive commutative group.
The loops that run over positions from the top (interleaving, combs, many points — of every curve type) are instances of
one Horner theorem: `lot_master` for a step r ↦ c•r + Σ_a (digit of a)•(point of a), `interleave_spec` when the strings act
one after the other; a single string read from the top is `ltr_fold`.  Digits that index a table are brought to the form
0, ±(2j+1) (`digit_cases`) and read through a digit valuation (`DigitVal`, `tableStep`; value of a string: `evalW`).
-/
import Mathlib.Algebra.Group.Basic
import Mathlib.Algebra.Module.Basic
import Mathlib.Algebra.BigOperators.Group.Finset.Basic
import Mathlib.Algebra.BigOperators.Ring.Finset
import Mathlib.Data.List.GetD
import Mathlib.Tactic.Abel
import Mathlib.Tactic.Ring
import Mathlib.Tactic.Linarith
import RelicVerif.Model.MulAlg
import RelicVerif.Lemmas.Rec
import RelicVerif.Lemmas.PowLoop
import RelicVerif.Lemmas.Loops

namespace Relic.Model.MulAlg
open Relic.Model

variable {G : Type} [AddCommGroup G]

def gops : Ops G := ⟨0, (· + ·), Neg.neg⟩

@[simp] theorem gops_zero : (gops : Ops G).zero = 0 := rfl
@[simp] theorem gops_add (a b : G) : (gops : Ops G).add a b = a + b := rfl
@[simp] theorem gops_neg (a : G) : (gops : Ops G).neg a = -a := rfl
@[simp] theorem gops_sub (a b : G) : (gops : Ops G).sub a b = a - b := by
  simp [Ops.sub, sub_eq_add_neg]
@[simp] theorem gops_dbl (a : G) : (gops : Ops G).dbl a = (2 : ℤ) • a := by
  simp [Ops.dbl, two_zsmul]

theorem dblN_spec (n : Nat) (x : G) : dblN gops n x = (2 ^ n : ℤ) • x := by
  induction n generalizing x with
  | zero => simp [dblN]
  | succ n ih => rw [dblN, ih, gops_dbl, ← mul_zsmul, pow_succ]

theorem mulSmall_spec (p : G) (i : Nat) : mulSmall gops p i = (i : ℤ) • p := by
  fun_induction mulSmall gops p i with
  | case1 => simp
  | case2 => simp
  | case3 n ih => rw [ih, gops_add, Nat.cast_succ (n + 1), add_zsmul, one_zsmul]

theorem tabPow2_spec (p : G) (n : Nat) :
    (tabPow2 gops p n).length = n ∧ ∀ i, i < n → (tabPow2 gops p n).getD i 0 = (2 ^ i : ℤ) • p := by
  induction n generalizing p with
  | zero => simp [tabPow2]
  | succ n ih =>
    obtain ⟨h1, h2⟩ := ih ((2 : ℤ) • p)
    refine ⟨by simp [tabPow2, h1], ?_⟩
    intro i hi
    cases i with
    | zero => simp [tabPow2]
    | succ i =>
      simp only [tabPow2, List.getD_cons_succ, gops_dbl]
      rw [h2 i (by omega), ← mul_zsmul, pow_succ]

theorem tabOdd_length (p : G) (n : Nat) : (tabOdd gops p n).length = n := by
  induction n with
  | zero => simp [tabOdd]
  | succ n ih => simp [tabOdd, ih]

theorem tabOdd_getElem? (p : G) (n : Nat) :
    ∀ i, i < n → (tabOdd gops p n)[i]? = some ((2 * (i : ℤ) + 1) • p) := by
  induction n with
  | zero => intro i hi; omega
  | succ n ih =>
    intro i hi
    have hlen := tabOdd_length p n
    rw [tabOdd]
    by_cases h : i < n
    · rw [List.getElem?_append_left (by omega)]; exact ih i h
    · have hin : i = n := by omega
      subst hin
      rw [List.getElem?_append_right (by omega)]
      simp only [hlen, Nat.sub_self, List.getElem?_cons_zero, Option.some.injEq]
      cases i with
      | zero => simp [tabOdd]
      | succ m =>
        rw [List.getLast?_eq_getElem?, hlen, Nat.add_sub_cancel, ih m (by omega)]
        simp only [gops_add, gops_dbl]
        rw [← add_zsmul, show (2 * (m : ℤ) + 1 + 2) = 2 * ((m + 1 : ℕ) : ℤ) + 1 by push_cast; ring]

theorem tabOdd_spec (p : G) (n : Nat) :
    (tabOdd gops p n).length = n ∧ ∀ i, i < n → (tabOdd gops p n).getD i 0 = (2 * (i : ℤ) + 1) • p := by
  refine ⟨tabOdd_length p n, fun i hi => ?_⟩
  rw [List.getD_eq_getElem?_getD, tabOdd_getElem? p n i hi]; rfl

theorem getD_zero_prop (P : ℤ → Prop) (ds : List ℤ) (h0 : P 0) (h : ∀ d ∈ ds, P d) (i : ℕ) : P (ds.getD i 0) := by
  rw [List.getD_eq_getElem?_getD]
  cases hx : ds[i]? with
  | none => simpa using h0
  | some x => simpa using h x (List.mem_of_getElem? hx)

theorem forall_mem_two {α : Type} {P : α → Prop} {a b : α} (ha : P a) (hb : P b) : ∀ x ∈ [a, b], P x :=
  List.forall_mem_cons.2 ⟨ha, List.forall_mem_cons.2 ⟨hb, fun _ h => nomatch h⟩⟩

theorem forall_mem_four {α : Type} {P : α → Prop} {a b c d : α} (ha : P a) (hb : P b) (hc : P c) (hd : P d) :
    ∀ x ∈ [a, b, c, d], P x :=
  List.forall_mem_cons.2 ⟨ha, List.forall_mem_cons.2 ⟨hb, forall_mem_two hc hd⟩⟩

theorem le_max_four {α : Type} (f : α → ℕ) (a b c d : α) :
    ∀ x ∈ [a, b, c, d], f x ≤ max (max (f a) (f b)) (max (f c) (f d)) :=
  forall_mem_four (le_trans (le_max_left _ _) (le_max_left _ _)) (le_trans (le_max_right _ _) (le_max_left _ _))
    (le_trans (le_max_left _ _) (le_max_right _ _)) (le_trans (le_max_right _ _) (le_max_right _ _))

/-! ### digits that index a table of odd multiples -/

theorem digit_cases (d : ℤ) (n : ℕ) (h : d = 0 ∨ (d % 2 ≠ 0 ∧ d.natAbs < 2 * n)) :
    d = 0 ∨ (∃ j : ℕ, j < n ∧ d = 2 * j + 1) ∨ (∃ j : ℕ, j < n ∧ d = -(2 * j + 1)) := by
  rcases h with h | ⟨h1, h2⟩
  · exact Or.inl h
  · rcases lt_or_ge d 0 with hn | hp
    · exact Or.inr (Or.inr ⟨d.natAbs / 2, by omega, by omega⟩)
    · exact Or.inr (Or.inl ⟨d.natAbs / 2, by omega, by omega⟩)

theorem odd_pos (j : ℕ) : (0 : ℤ) < 2 * j + 1 := by omega

theorem neg_odd_neg (j : ℕ) : -(2 * (j : ℤ) + 1) < 0 := by omega

theorem odd_toNat_div (j : ℕ) : (2 * (j : ℤ) + 1).toNat / 2 = j := by omega

theorem odd_natAbs_div (j : ℕ) : (2 * (j : ℤ) + 1).natAbs / 2 = j := by omega

/-! ### digit valuations -/

section valuation
variable {R : Type} [CommRing R] [Module R G]

/-- a digit string denotes Σ dv(dᵢ)·cⁱ in a commutative ring acting on G: ℤ with radix 2^s for the recodings of Model/Rec.lean,
    Z[τ] with radix τ for the τ-adic ones -/
def evalW (dv : ℤ → R) (c : R) (ds : List ℤ) : R := ds.foldr (fun d acc => dv d + c * acc) 0

theorem eval_eq_evalW (s : ℕ) (ds : List ℤ) : Rec.eval s ds = evalW id ((2 : ℤ) ^ s) ds := rfl

theorem evalW_append (dv : ℤ → R) (c : R) (a b : List ℤ) :
    evalW dv c (a ++ b) = evalW dv c a + c ^ a.length * evalW dv c b := by
  induction a with
  | nil => simp [evalW]
  | cons x t ih =>
    show dv x + c * evalW dv c (t ++ b) = (dv x + c * evalW dv c t) + c ^ (t.length + 1) * evalW dv c b
    rw [ih]; ring

/-- the digit values dv agree with the table weights wt: the digit ±(2j+1) reads entry j and stands for ±wt j -/
def DigitVal (wt : ℕ → R) (dv : ℤ → R) (n : ℕ) : Prop :=
  dv 0 = 0 ∧ ∀ j : ℕ, j < n → dv (2 * j + 1) = wt j ∧ dv (-(2 * j + 1)) = - wt j

def wtOdd (j : ℕ) : ℤ := 2 * (j : ℤ) + 1

theorem digitVal_odd (n : ℕ) : DigitVal wtOdd id n := ⟨rfl, fun _ _ => ⟨rfl, rfl⟩⟩

/-- f is the identity, or the endomorphism of a GLV / GLS loop -/
theorem tableStep (wt : ℕ → R) (dv : ℤ → R) (f : G → G) (hf : ∀ (a : R) x, f (a • x) = a • f x) (p : G) (tab : List G)
    (hdv : DigitVal wt dv tab.length) (htab : ∀ j, j < tab.length → tab.getD j 0 = wt j • p)
    (r : G) (d : ℤ) (hd : d = 0 ∨ (d % 2 ≠ 0 ∧ d.natAbs < 2 * tab.length)) :
    (if d > 0 then gops.add r (f (tab.getD (d.toNat / 2) 0))
      else if d < 0 then gops.sub r (f (tab.getD ((-d).toNat / 2) 0)) else r) = r + dv d • f p := by
  rcases digit_cases d _ hd with rfl | ⟨j, hj, rfl⟩ | ⟨j, hj, rfl⟩
  · simp [hdv.1]
  · rw [if_pos (odd_pos j), odd_toNat_div, gops_add, htab j hj, hf, (hdv.2 j hj).1]
  · rw [if_neg (lt_asymm (neg_odd_neg j)), if_pos (neg_odd_neg j), neg_neg, odd_toNat_div, gops_sub, htab j hj, hf,
      (hdv.2 j hj).2, sub_eq_add_neg, neg_smul]

theorem ltr_fold (dv : ℤ → R) (c : R) (p : G) (step : G → ℤ → G) : ∀ ds : List ℤ,
    (∀ d ∈ ds, ∀ r, step r d = c • r + dv d • p) → ds.reverse.foldl step 0 = evalW dv c ds • p := by
  intro ds
  induction ds with
  | nil => intro _; simp [evalW]
  | cons d ds ih =>
    intro h
    rw [List.reverse_cons, List.foldl_append, ih (fun x hx => h x (List.mem_cons_of_mem _ hx))]
    simp only [List.foldl_cons, List.foldl_nil]
    rw [h d List.mem_cons_self, smul_smul, ← add_smul, add_comm]
    rfl

end valuation

theorem signedStep (f : G → G) (hf : ∀ (n : ℤ) x, f (n • x) = n • f x) (p : G) (tab : List G)
    (htab : ∀ i, i < tab.length → tab.getD i 0 = (2 * (i : ℤ) + 1) • p)
    (r : G) (d : ℤ) (hd : d = 0 ∨ (d % 2 ≠ 0 ∧ d.natAbs < 2 * tab.length)) :
    (if d > 0 then gops.add r (f (tab.getD (d.toNat / 2) 0))
      else if d < 0 then gops.sub r (f (tab.getD ((-d).toNat / 2) 0)) else r) = r + d • f p :=
  tableStep wtOdd id f hf p tab (digitVal_odd _) htab r d hd

theorem id_zsmul (n : ℤ) (x : G) : id (n • x) = n • id x := rfl

/-- sign of a sub-scalar as an integer factor -/
def sg (neg : Bool) : ℤ := if neg then -1 else 1

theorem ite_neg_int (b : Bool) (x : ℤ) : (if b then -x else x) = sg b * x := by
  cases b <;> simp [sg]

theorem sg_mul_self (a : Bool) : sg a * sg a = 1 := by cases a <;> rfl

theorem ite_neg (s : Bool) (x : G) : (if s then gops.neg x else x) = sg s • x := by
  cases s <;> simp [sg]

theorem ite_xor_neg (a b : Bool) (x : G) : (if a != b then gops.neg x else x) = (sg a * sg b) • x := by
  cases a <;> cases b <;> simp [sg]

theorem signStep (r t : G) (u : ℤ) :
    (if u > 0 then gops.add r t else if u < 0 then gops.sub r t else r) = r + u.sign • t := by
  rcases lt_trichotomy u 0 with h | h | h
  · rw [if_neg (by omega), if_pos h, Int.sign_eq_neg_one_of_neg h]; simp [sub_eq_add_neg]
  · subst h; simp
  · rw [if_pos h, Int.sign_eq_one_of_pos h]; simp

theorem getD_map_sign (ds : List ℤ) (i : ℕ) : (ds.map Int.sign).getD i 0 = (ds.getD i 0).sign := by
  have : (ds.map Int.sign).getD i (Int.sign 0) = Int.sign (ds.getD i 0) := List.getD_map ..
  simpa using this

theorem horner (c : ℤ) (m : ℕ) : ∀ (F : ℕ → G) (r0 : G),
    (List.range m).reverse.foldl (fun r i => c • r + F i) r0
      = (c ^ m) • r0 + ∑ i ∈ Finset.range m, (c ^ i) • F i := by
  induction m with
  | zero => intro F r0; simp
  | succ m ih =>
    intro F r0
    rw [List.range_succ, List.reverse_append, List.reverse_singleton, List.singleton_append, List.foldl_cons, ih,
      Finset.sum_range_succ]
    simp only [smul_add, smul_smul, pow_succ]
    abel

theorem eval_eq_sum (s : ℕ) (c : ℤ) (hc : 2 ^ s = c) : ∀ (l : ℕ) (ds : List ℤ), ds.length ≤ l →
    Rec.eval s ds = ∑ i ∈ Finset.range l, c ^ i * ds.getD i 0 := by
  subst hc
  intro l
  induction l with
  | zero =>
    intro ds h
    rw [List.length_eq_zero_iff.1 (Nat.le_zero.1 h)]
    rfl
  | succ l ih =>
    intro ds h
    cases ds with
    | nil => simp
    | cons d t =>
      rw [Rec.eval_cons, Finset.sum_range_succ', ih t (Nat.le_of_succ_le_succ h), Finset.mul_sum]
      simp only [List.getD_cons_succ, List.getD_cons_zero, pow_zero, one_mul, pow_succ]
      rw [add_comm]
      congr 1
      apply Finset.sum_congr rfl
      intro i _
      ring

theorem fsum_smul (f : ℕ → ℤ) (x : G) (l : ℕ) :
    (∑ i ∈ Finset.range l, f i) • x = ∑ i ∈ Finset.range l, f i • x := by
  induction l with
  | zero => simp
  | succ l ih => rw [Finset.sum_range_succ, Finset.sum_range_succ, add_smul, ih]

theorem lot_master {α : Type} (L : List α) (pt : α → G) (dg : α → ℕ → ℤ) (c : ℤ) (l : ℕ) (step : ℕ → G → G)
    (hstep : ∀ i r, step i r = c • r + (L.map fun a => dg a i • pt a).sum) :
    (List.range l).reverse.foldl (fun r i => step i r) 0
      = (L.map fun a => (∑ i ∈ Finset.range l, c ^ i * dg a i) • pt a).sum := by
  simp only [hstep]
  rw [horner, smul_zero, zero_add]
  clear hstep
  induction L with
  | nil => simp
  | cons a t ih =>
    simp only [List.map_cons, List.sum_cons, smul_add, Finset.sum_add_distrib, ih, fsum_smul, mul_smul]

theorem sum_pow_smul (q : G) (f : ℕ → ℤ) (n : ℕ) :
    ∑ i ∈ Finset.range n, (2 ^ i : ℤ) • (f i • q) = (∑ i ∈ Finset.range n, f i * 2 ^ i) • q := by
  rw [fsum_smul]
  apply Finset.sum_congr rfl
  intro i _
  rw [smul_smul, mul_comm]

theorem loop_eval (p : G) (m : ℕ) (f : ℕ → ℤ) :
    (List.range m).reverse.foldl (fun r i => (2 : ℤ) • r + f i • p) 0 = (∑ i ∈ Finset.range m, f i * 2 ^ i) • p := by
  rw [horner, smul_zero, zero_add, sum_pow_smul]

theorem bits_sum (m l : ℕ) : ∑ i ∈ Finset.range l, (2 : ℤ) ^ i * (((m >>> i) % 2 : ℕ) : ℤ) = ((m % 2 ^ l : ℕ) : ℤ) := by
  induction l with
  | zero => simp [Nat.mod_one]
  | succ l ih =>
    rw [Finset.sum_range_succ, ih, Nat.mod_pow_succ, Nat.shiftRight_eq_div_pow]
    push_cast
    ring

theorem interleave_sum {α : Type} (L : List α) (pt : α → G) (dg : α → ℕ → ℤ) (act : α → ℕ → G → G)
    (hact : ∀ a ∈ L, ∀ i r, act a i r = r + dg a i • pt a) (l : ℕ) :
    (List.range l).reverse.foldl (fun r i => L.foldl (fun r a => act a i r) (gops.dbl r)) 0
      = (L.map fun a => (∑ i ∈ Finset.range l, 2 ^ i * dg a i) • pt a).sum := by
  apply lot_master L pt dg 2 l
  intro i r
  rw [gops_dbl]
  generalize (2 : ℤ) • r = r'
  induction L generalizing r' with
  | nil => simp
  | cons a t ih =>
    rw [List.foldl_cons, ih (fun b hb => hact b (List.mem_cons_of_mem _ hb)), hact a List.mem_cons_self,
      List.map_cons, List.sum_cons, add_assoc]

theorem interleave_spec {α : Type} (L : List α) (pt : α → G) (ds : α → List ℤ) (act : α → ℕ → G → G)
    (hact : ∀ a ∈ L, ∀ i r, act a i r = r + (ds a).getD i 0 • pt a) (l : ℕ) (hl : ∀ a ∈ L, (ds a).length ≤ l) :
    (List.range l).reverse.foldl (fun r i => L.foldl (fun r a => act a i r) (gops.dbl r)) 0
      = (L.map fun a => Rec.eval 1 (ds a) • pt a).sum := by
  rw [interleave_sum L pt (fun a i => (ds a).getD i 0) act hact l]
  congr 1
  apply List.map_congr_left
  intro a ha
  rw [eval_eq_sum 1 2 rfl l _ (hl a ha)]

/-- the w-NAF loops with a table, the binary NAF with the table [P] -/
theorem mulSigned_spec (p : G) (tab : List G) (htab : ∀ i, i < tab.length → tab.getD i 0 = (2 * (i : ℤ) + 1) • p)
    (ds : List Int) (hd : ∀ d ∈ ds, d = 0 ∨ (d % 2 ≠ 0 ∧ d.natAbs < 2 * tab.length)) :
    mulSigned gops tab 0 ds = (Rec.eval 1 ds) • p := by
  rw [eval_eq_evalW, pow_one]
  exact ltr_fold id (2 : ℤ) p _ ds fun d hdm r => by
    rw [← gops_dbl]
    exact signedStep id (fun _ _ => rfl) p tab htab (gops.dbl r) d (hd d hdm)

theorem mulReg_spec (p : G) (tab : List G) (htab : ∀ i, i < tab.length → tab.getD i 0 = (2 * (i : ℤ) + 1) • p)
    (w : Nat) (reg : List Int) (hd : ∀ d ∈ reg, d % 2 ≠ 0 ∧ d.natAbs < 2 * tab.length) (even : Bool) :
    mulReg gops tab 0 w reg even p = (Rec.eval (w - 1) reg - (if even then 1 else 0)) • p := by
  have key : reg.reverse.foldl (fun r d =>
      let r := dblN gops (w - 1) r
      let u := tab.getD (d.natAbs / 2) 0
      gops.add r (if d < 0 then gops.neg u else u)) gops.zero = (Rec.eval (w - 1) reg) • p := by
    rw [eval_eq_evalW]
    refine ltr_fold id _ p _ reg fun d hdm r => ?_
    simp only [dblN_spec, gops_add, gops_neg, id]
    congr 1
    rcases digit_cases d _ (Or.inr (hd d hdm)) with rfl | ⟨j, hj, rfl⟩ | ⟨j, hj, rfl⟩
    · exact absurd rfl (hd 0 hdm).1
    · rw [if_neg (lt_asymm (odd_pos j)), odd_natAbs_div, htab j hj]
    · rw [if_pos (neg_odd_neg j), Int.natAbs_neg, odd_natAbs_div, htab j hj, neg_zsmul]
  unfold mulReg
  simp only [key]
  cases even
  · simp only [Bool.false_eq_true, if_false, sub_zero]
  · simp only [if_true, gops_sub, sub_smul, one_smul]

/-- value of a bit string, most significant first -/
def bitsVal (bs : List Bool) : ℤ := bs.foldl (fun acc b => 2 * acc + (if b then 1 else 0)) 0

theorem bitsVal_foldl (bs : List Bool) (a : ℤ) :
    bs.foldl (fun acc b => 2 * acc + (if b then 1 else 0)) a = 2 ^ bs.length * a + bitsVal bs := by
  unfold bitsVal
  induction bs generalizing a with
  | nil => simp
  | cons b bs ih =>
    simp only [List.foldl_cons, List.length_cons]
    rw [ih, ih (2 * 0 + _)]
    ring

theorem bitsVal_cons (b : Bool) (bs : List Bool) :
    bitsVal (b :: bs) = 2 ^ bs.length * (if b then 1 else 0) + bitsVal bs := by
  rw [show bitsVal (b :: bs) = bs.foldl (fun acc b => 2 * acc + (if b then 1 else 0)) (2 * 0 + (if b then 1 else 0))
    from rfl, bitsVal_foldl]
  simp

theorem bitsVal_low_bits (n L : Nat) :
    bitsVal ((List.range L).reverse.map fun i => decide ((n >>> i) % 2 = 1)) = ((n % 2 ^ L : ℕ) : ℤ) := by
  induction L with
  | zero => simp [bitsVal, Nat.mod_one]
  | succ L ih =>
    rw [List.range_succ, List.reverse_append, List.reverse_singleton, List.singleton_append, List.map_cons,
      bitsVal_cons, ih, Nat.mod_pow_succ, Nat.shiftRight_eq_div_pow]
    simp only [List.length_map, List.length_reverse, List.length_range]
    rcases Nat.mod_two_eq_zero_or_one (n / 2 ^ L) with h | h
    · simp [h]
    · simp [h]; ring

theorem bitsVal_testBits (n x : Nat) :
    bitsVal ((List.range n).reverse.map fun i => x.testBit i) = ((x % 2 ^ n : ℕ) : ℤ) := by
  simpa only [Nat.shiftRight_eq_div_pow, ← Nat.testBit_eq_decide_div_mod_eq] using bitsVal_low_bits x n

/-- with the implicit leading one at position n -/
theorem bitsVal_testBits_top (n l : Nat) (hge : 2 ^ n ≤ l) (hlt : l < 2 ^ (n + 1)) :
    (2 ^ ((List.range n).reverse.map fun i => l.testBit i).length +
      bitsVal ((List.range n).reverse.map fun i => l.testBit i) : ℤ) = l := by
  have hq : l / 2 ^ n = 1 := Nat.div_eq_of_lt_le (by rwa [one_mul]) (by rwa [Nat.pow_succ, Nat.mul_comm] at hlt)
  have h := Nat.div_add_mod l (2 ^ n)
  rw [hq, Nat.mul_one] at h
  rw [bitsVal_testBits]
  simp only [List.length_map, List.length_reverse, List.length_range]
  exact_mod_cast h

theorem ladder_fold (p : G) (bits : List Bool) : ∀ v : ℤ,
    (bits.foldl (fun (t : G × G) b =>
      if b then (gops.add t.1 t.2, gops.dbl t.2) else (gops.dbl t.1, gops.add t.1 t.2)) (v • p, (v + 1) • p)).1
      = (2 ^ bits.length * v + bitsVal bits) • p := by
  induction bits with
  | nil => intro v; simp [bitsVal]
  | cons b bs ih =>
    intro v
    have hstep : (if b then (gops.add (v • p) ((v + 1) • p), gops.dbl ((v + 1) • p))
        else (gops.dbl (v • p), gops.add (v • p) ((v + 1) • p)))
        = ((2 * v + (if b then 1 else 0)) • p, (2 * v + (if b then 1 else 0) + 1) • p) := by
      cases b <;> simp only [gops_add, gops_dbl, Bool.false_eq_true, if_false, if_true, ← mul_zsmul, ← add_zsmul] <;>
        congr 2 <;> ring
    rw [List.foldl_cons, hstep, ih, bitsVal_cons, List.length_cons]
    congr 1
    ring

theorem mulLadder_spec (p : G) (bits : List Bool) :
    mulLadder gops p bits = (2 ^ bits.length + bitsVal bits : ℤ) • p := by
  have := ladder_fold p bits 1
  rw [one_zsmul, show ((1 : ℤ) + 1) • p = gops.dbl p by rw [gops_dbl]; rfl, mul_one] at this
  exact this

theorem mulFixBasic_aux (p : G) (tab : List G) (htab : ∀ i, i < tab.length → tab.getD i 0 = (2 ^ i : ℤ) • p)
    (k m : Nat) (hm : m ≤ tab.length) :
    (List.range m).foldl (fun r i => if (k >>> i) % 2 = 1 then gops.add r (tab.getD i 0) else r) gops.zero
      = ((k % 2 ^ m : ℕ) : ℤ) • p := by
  induction m with
  | zero => simp [Nat.mod_one]
  | succ m ih =>
    rw [List.range_succ, List.foldl_append, ih (by omega)]
    simp only [List.foldl_cons, List.foldl_nil]
    rw [Nat.mod_pow_succ, Nat.shiftRight_eq_div_pow, htab m (by omega)]
    rcases Nat.mod_two_eq_zero_or_one (k / 2 ^ m) with h | h
    · rw [h, if_neg (by decide), Nat.mul_zero, Nat.add_zero]
    · simp only [h, if_true, gops_add, ← add_zsmul]; congr 1; push_cast; ring

theorem mulFixBasic_spec (p : G) (n k : Nat) (hk : k < 2 ^ n) :
    mulFixBasic gops (tabPow2 gops p n) 0 k = (k : ℤ) • p := by
  obtain ⟨hlen, htab⟩ := tabPow2_spec p n
  unfold mulFixBasic
  rw [mulFixBasic_aux p _ (by rw [hlen]; exact htab) k _ (le_refl _), hlen, Nat.mod_eq_of_lt hk]

theorem simInter_spec (p q : G) (tab0 tab1 : List G)
    (ht0 : ∀ i, i < tab0.length → tab0.getD i 0 = (2 * (i : ℤ) + 1) • p)
    (ht1 : ∀ i, i < tab1.length → tab1.getD i 0 = (2 * (i : ℤ) + 1) • q)
    (n0 n1 : List Int) (h0 : ∀ d ∈ n0, d = 0 ∨ (d % 2 ≠ 0 ∧ d.natAbs < 2 * tab0.length))
    (h1 : ∀ d ∈ n1, d = 0 ∨ (d % 2 ≠ 0 ∧ d.natAbs < 2 * tab1.length)) :
    simInter gops tab0 tab1 0 n0 n1 = (Rec.eval 1 n0) • p + (Rec.eval 1 n1) • q := by
  refine (interleave_spec [(tab0, p, n0), (tab1, q, n1)] (fun a => a.2.1) (fun a => a.2.2)
    (fun a i r => if a.2.2.getD i 0 > 0 then gops.add r (a.1.getD ((a.2.2.getD i 0).toNat / 2) 0)
      else if a.2.2.getD i 0 < 0 then gops.sub r (a.1.getD ((-a.2.2.getD i 0).toNat / 2) 0) else r)
    (forall_mem_two (fun i r => signedStep id id_zsmul p tab0 ht0 r _ (getD_zero_prop _ n0 (Or.inl rfl) h0 i))
      (fun i r => signedStep id id_zsmul q tab1 ht1 r _ (getD_zero_prop _ n1 (Or.inl rfl) h1 i))) _
    (forall_mem_two (le_max_left _ _) (le_max_right _ _))).trans ?_
  simp only [List.map_cons, List.map_nil, List.sum_cons, List.sum_nil, add_zero]

theorem simJoint_spec (p q : G) (j0 j1 : List Int) :
    simJoint gops p q j0 j1 = (Rec.eval 1 (j0.map Int.sign)) • p + (Rec.eval 1 (j1.map Int.sign)) • q := by
  refine (interleave_spec [(p, j0), (q, j1)] (fun a => a.1) (fun a => a.2.map Int.sign)
    (fun a i r => if a.2.getD i 0 > 0 then gops.add r a.1 else if a.2.getD i 0 < 0 then gops.sub r a.1 else r)
    (fun a _ i r => by rw [signStep, getD_map_sign]) (max j0.length j1.length)
    (forall_mem_two (by simp) (by simp))).trans ?_
  simp only [List.map_cons, List.map_nil, List.sum_cons, List.sum_nil, add_zero]

theorem flatMap_range_length {α : Type} (b : Nat) (f : Nat → Nat → α) (a : Nat) :
    ((List.range a).flatMap fun i => (List.range b).map (f i)).length = a * b := by
  rw [Relic.Lemmas.Loops.length_flatMap_const b _ _ (fun _ _ => by rw [List.length_map, List.length_range]), List.length_range]

theorem flatMap_range_getElem? {α : Type} (b : Nat) (f : Nat → Nat → α) (a : Nat) :
    ∀ i j, i < a → j < b →
      ((List.range a).flatMap fun i => (List.range b).map (f i))[i * b + j]? = some (f i j) := by
  induction a with
  | zero => intro i j hi; omega
  | succ a ih =>
    intro i j hi hj
    have hlen := flatMap_range_length b f a
    rw [List.range_succ, List.flatMap_append]
    by_cases h : i < a
    · have : i * b + j < a * b := by
        have : (i + 1) * b ≤ a * b := Nat.mul_le_mul_right b h
        rw [Nat.succ_mul] at this; omega
      rw [List.getElem?_append_left (by omega)]
      exact ih i j h hj
    · have hia : i = a := by omega
      subst hia
      rw [List.getElem?_append_right (by omega), hlen]
      simp [hj]

theorem tabTrick_getD (p q : G) (w : Nat) (i j : Nat) (hi : i < 2 ^ w) (hj : j < 2 ^ w) :
    (tabTrick gops p q w).getD ((i <<< w) + j) 0 = (i : ℤ) • p + (j : ℤ) • q := by
  unfold tabTrick
  rw [List.getD_eq_getElem?_getD, Nat.shiftLeft_eq,
    flatMap_range_getElem? (2 ^ w) (fun i j => gops.add (mulSmall gops p i) (mulSmall gops q j)) (2 ^ w) i j hi hj]
  simp [mulSmall_spec]

theorem simTrick_spec (p q : G) (w : Nat) (w0 w1 : List Int)
    (h0 : ∀ d ∈ w0, 0 ≤ d ∧ d < 2 ^ w) (h1 : ∀ d ∈ w1, 0 ≤ d ∧ d < 2 ^ w) :
    simTrick gops (tabTrick gops p q w) 0 w w0 w1 = (Rec.eval w w0) • p + (Rec.eval w w1) • q := by
  have hpw : (0 : ℤ) ≤ 0 ∧ (0 : ℤ) < 2 ^ w := ⟨le_refl _, by positivity⟩
  have hnat : ∀ u : ℤ, 0 ≤ u ∧ u < 2 ^ w → u.toNat < 2 ^ w ∧ (u.toNat : ℤ) = u := fun u hu =>
    ⟨by zify; rw [Int.toNat_of_nonneg hu.1]; exact_mod_cast hu.2, Int.toNat_of_nonneg hu.1⟩
  refine (lot_master [(p, w0), (q, w1)] (fun a => a.1) (fun a i => a.2.getD i 0) (2 ^ w) _
    (fun i r => gops.add (dblN gops w r) ((tabTrick gops p q w).getD (((w0.getD i 0).toNat <<< w) + (w1.getD i 0).toNat) 0))
    (fun i r => ?_)).trans ?_
  · obtain ⟨hu, eu⟩ := hnat _ (getD_zero_prop _ w0 hpw h0 i)
    obtain ⟨hv, ev⟩ := hnat _ (getD_zero_prop _ w1 hpw h1 i)
    rw [tabTrick_getD p q w _ _ hu hv, eu, ev, dblN_spec, gops_add]
    simp only [List.map_cons, List.map_nil, List.sum_cons, List.sum_nil, add_zero]
  · simp only [List.map_cons, List.map_nil, List.sum_cons, List.sum_nil, add_zero,
      ← eval_eq_sum w (2 ^ w) rfl _ w0 (le_max_left _ _), ← eval_eq_sum w (2 ^ w) rfl _ w1 (le_max_right _ _)]

theorem zsmul_emod (p : G) (n : ℤ) (hn : n • p = 0) (k : ℤ) : (k % n) • p = k • p := by
  conv_rhs => rw [← Int.emod_add_mul_ediv k n, add_zsmul, mul_comm, mul_zsmul, hn, zsmul_zero, add_zero]

theorem zsmul_of_dvd_sub (p : G) (n : Nat) (hn : (n : ℤ) • p = 0) (a k : ℤ) (h : (n : ℤ) ∣ a - k) : a • p = k • p := by
  obtain ⟨q, hq⟩ := h
  have : a = k + q * n := by linarith
  rw [this, add_zsmul, mul_zsmul, hn, zsmul_zero, add_zero]

theorem toNat_emod (n : Nat) (hn0 : 0 < n) (k : ℤ) : (((k % n).toNat : ℕ) : ℤ) = k % n :=
  Int.toNat_of_nonneg (Int.emod_nonneg _ (by omega))

theorem toNat_emod_lt (n : Nat) (hn0 : 0 < n) (k : ℤ) : (k % n).toNat < n := by
  have h1 : k % (n : ℤ) < n := Int.emod_lt_of_pos _ (by omega)
  omega

theorem toNat_emod_zsmul (p : G) (n : Nat) (hn0 : 0 < n) (hn : (n : ℤ) • p = 0) (k : ℤ) :
    (((k % n).toNat : ℕ) : ℤ) • p = k • p := by
  rw [toNat_emod n hn0, zsmul_emod p n hn]

theorem dvd_sub_of_dvd_sub_emod (n a k : ℤ) (h : n ∣ a - k % n) : n ∣ a - k := by
  rw [show a - k = (a - k % n) - n * (k / n) by rw [Int.emod_def]; ring]
  exact dvd_sub h (dvd_mul_right _ _)

/-! ### a recoding of Model/Rec.lean followed by its loop -/

theorem two_pow_pred (w : Nat) (hw : 2 ≤ w) : 2 ^ (w - 1) = 2 * 2 ^ (w - 2) :=
  Rec.two_pow_eq (w - 1) (by omega)

theorem neg_natAbs_zsmul (k : ℤ) (x : G) :
    (if k < 0 then -((k.natAbs : ℤ) • x) else (k.natAbs : ℤ) • x) = k • x := by
  split
  · rw [← neg_zsmul]; congr 1; omega
  · congr 1; omega

theorem natAbs_mod_zsmul (p : G) (r : Nat) (hr : (r : ℤ) • p = 0) (k : ℤ) :
    (if k < 0 then -(((k.natAbs % r : ℕ) : ℤ) • p) else ((k.natAbs % r : ℕ) : ℤ) • p) = k • p := by
  rw [Int.natCast_mod, zsmul_emod p r hr]
  exact neg_natAbs_zsmul k p

theorem tabOdd_naf (p : G) (cap k w : Nat) (hw : 2 ≤ w) (ds : List Int) (h : Rec.recNaf cap k w = some ds) :
    (∀ i, i < (tabOdd gops p (2 ^ (w - 2))).length → (tabOdd gops p (2 ^ (w - 2))).getD i 0 = (2 * (i : ℤ) + 1) • p) ∧
    (∀ d ∈ ds, d = 0 ∨ (d % 2 ≠ 0 ∧ d.natAbs < 2 * (tabOdd gops p (2 ^ (w - 2))).length)) ∧ Rec.eval 1 ds = k := by
  obtain ⟨hv, hd, _⟩ := Rec.recNaf_spec cap k w hw ds h
  obtain ⟨hlen, htab⟩ := tabOdd_spec p (2 ^ (w - 2))
  rw [hlen, ← two_pow_pred w hw]
  exact ⟨htab, hd, hv⟩

theorem mulSigned_naf (p : G) (cap k w : Nat) (hw : 2 ≤ w) (ds : List Int) (h : Rec.recNaf cap k w = some ds) :
    mulSigned gops (tabOdd gops p (2 ^ (w - 2))) 0 ds = (k : ℤ) • p := by
  obtain ⟨htab, hd, hv⟩ := tabOdd_naf p cap k w hw ds h
  rw [mulSigned_spec p _ htab ds hd, hv]

theorem simInter_naf (p q : G) (cap k m wp wq : Nat) (hwp : 2 ≤ wp) (hwq : 2 ≤ wq) (n0 n1 : List Int)
    (h0 : Rec.recNaf cap k wp = some n0) (h1 : Rec.recNaf cap m wq = some n1) :
    simInter gops (tabOdd gops p (2 ^ (wp - 2))) (tabOdd gops q (2 ^ (wq - 2))) 0 n0 n1 = (k : ℤ) • p + (m : ℤ) • q := by
  obtain ⟨ht0, hd0, hv0⟩ := tabOdd_naf p cap k wp hwp n0 h0
  obtain ⟨ht1, hd1, hv1⟩ := tabOdd_naf q cap m wq hwq n1 h1
  rw [simInter_spec p q _ _ ht0 ht1 n0 n1 hd0 hd1, hv0, hv1]

theorem simTrick_win (p q : G) (cap k m w : Nat) (hw : 0 < w) (w0 w1 : List Int)
    (h0 : Rec.recWin cap k w = some w0) (h1 : Rec.recWin cap m w = some w1) :
    simTrick gops (tabTrick gops p q w) 0 w w0 w1 = (k : ℤ) • p + (m : ℤ) • q := by
  obtain ⟨hv0, hd0⟩ := Rec.recWin_value cap k w hw w0 h0
  obtain ⟨hv1, hd1⟩ := Rec.recWin_value cap m w hw w1 h1
  rw [simTrick_spec p q w w0 w1 hd0 hd1, hv0, hv1]

theorem mulSlide_slw (p : G) (cap k w : Nat) (hw : 1 ≤ w) (win : List Int) (h : Rec.recSlw cap k w = some win) :
    mulSlide gops (tabOdd gops p (2 ^ (w - 1))) 0 win = (k : ℤ) • p := by
  obtain ⟨hlen, htab⟩ := tabOdd_spec p (2 ^ (w - 1))
  refine Relic.Lemmas.PowLoop.slw_loop (fun (r : G) n => r = (n : ℤ) • p) _ cap k w hw (fun r e hr => ?_)
    (fun r e d hodd hlt hr => ?_) win h _ (zero_zsmul p).symm
  · rw [if_pos rfl, gops_dbl, hr, Nat.cast_mul, mul_zsmul]; rfl
  · have hne : ¬ (d : ℤ) = 0 := by omega
    rw [if_neg hne, gops_add, dblN_spec, Int.toNat_natCast, htab _ (Relic.Lemmas.PowLoop.window_half_lt hw hlt), hr,
      ← mul_zsmul, ← add_zsmul, show 2 * ((d / 2 : ℕ) : ℤ) + 1 = d by omega, mul_comm]
    push_cast
    rfl

theorem mulReg_reg (p : G) (cap kk nb w : Nat) (hw : 2 ≤ w) (hkk : kk + 1 < 2 ^ nb) (reg : List Int)
    (h : Rec.recReg cap (kk ||| 1) nb w = some reg) :
    mulReg gops (tabOdd gops p (2 ^ (w - 2))) 0 w reg (kk % 2 = 0) p = (kk : ℤ) • p := by
  have hor : kk ||| 1 = 2 * (kk / 2) + 1 := by
    have e1 : (kk ||| 1) / 2 = kk / 2 := by rw [Nat.or_div_two]; simp
    have e2 : (kk ||| 1) % 2 = 1 := by rw [Nat.or_mod_two_eq_one]; simp
    omega
  obtain ⟨hv, hd⟩ := Rec.recReg_digits cap _ nb w hw (by omega) (by omega) reg h
  obtain ⟨hlen, htab⟩ := tabOdd_spec p (2 ^ (w - 2))
  rw [mulReg_spec p _ (by rw [hlen]; exact htab) w reg
    (by intro d hdm; rw [hlen, ← two_pow_pred w hw]; exact hd d hdm), hv, hor]
  congr 1
  by_cases h2 : kk % 2 = 0
  · rw [if_pos (decide_eq_true h2)]; omega
  · rw [if_neg (by rw [decide_eq_true_eq]; exact h2)]; omega

theorem map_sign_of_small (l : List ℤ) (hl : ∀ d ∈ l, d.natAbs ≤ 1) : l.map Int.sign = l := by
  conv_rhs => rw [← List.map_id l]
  apply List.map_congr_left
  intro d hdm
  have := hl d hdm
  have : d = -1 ∨ d = 0 ∨ d = 1 := by omega
  rcases this with rfl | rfl | rfl <;> rfl

theorem simJoint_jsf (p q : G) (cap k m : Nat) (j0 j1 : List Int) (h : Rec.recJsf cap k m = some (j0, j1)) :
    simJoint gops p q j0 j1 = (k : ℤ) • p + (m : ℤ) • q := by
  obtain ⟨hv0, hv1, hd0, hd1, _⟩ := Rec.recJsf_spec cap k m j0 j1 h
  rw [simJoint_spec, map_sign_of_small j0 hd0, map_sign_of_small j1 hd1, hv0, hv1]

/-- ep_mul_basic at w = 2, eb_mul_lwnaf on ordinary curves -/
theorem mulSigned_naf_signed (p : G) (k : ℤ) (w : Nat) (hw : 2 ≤ w) (cap : Nat) (ds : List Int)
    (h : Rec.recNaf cap k.natAbs w = some ds) :
    (if k < 0 then -(mulSigned gops (tabOdd gops p (2 ^ (w - 2))) 0 ds) else mulSigned gops (tabOdd gops p (2 ^ (w - 2))) 0 ds)
      = k • p := by
  rw [mulSigned_naf p cap _ w hw ds h]
  exact neg_natAbs_zsmul k p

end Relic.Model.MulAlg
