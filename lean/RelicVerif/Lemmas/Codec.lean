/-
Big-endian octet strings and the numbers they denote, once for every model and specification that writes them down again
(OS2IP / I2OSP of the RSA paddings, the byte strings of Hash_DRBG, the field-element encodings of the point formats):
`val` reads a string, `bytes n k` writes the k low-order digits of n, and the two are inverse to each other on strings of
one length.  The definitions elsewhere have the same bodies, so their lemmas are these by unfolding.
`be_*`: the same for any type of bytes (`f` makes a byte of a value below 256, `g` reads it).
-/

namespace Relic.Lemmas.Codec

theorem be_succ {β : Type} (f : Nat → β) (n k : Nat) :
    ((List.range (k + 1)).reverse.map fun i => f (n / 256 ^ i % 256)) =
      ((List.range k).reverse.map fun i => f (n / 256 / 256 ^ i % 256)) ++ [f (n % 256)] := by
  simp [List.range_succ_eq_map, Nat.pow_succ, Nat.div_div_eq_div_mul, Nat.mul_comm]

theorem be_val {β : Type} (f : Nat → β) (g : β → Nat) (hgf : ∀ m, m < 256 → g (f m) = m) (k : Nat) :
    ∀ n, ((List.range k).reverse.map fun i => f (n / 256 ^ i % 256)).foldl (fun acc a => acc * 256 + g a) 0 =
      n % 256 ^ k := by
  induction k with
  | zero => intro n; simp [Nat.mod_one]
  | succ k ih =>
    intro n
    rw [be_succ, List.foldl_append, ih, Nat.pow_succ, Nat.mul_comm _ 256, Nat.mod_mul]
    simp only [List.foldl_cons, List.foldl_nil]
    rw [hgf _ (Nat.mod_lt _ (by omega)), Nat.mul_comm, Nat.add_comm]

theorem be_foldl {β : Type} (g : β → Nat) (b : List β) (acc : Nat) :
    b.foldl (fun acc a => acc * 256 + g a) acc = acc * 256 ^ b.length + b.foldl (fun acc a => acc * 256 + g a) 0 := by
  induction b generalizing acc with
  | nil => simp
  | cons x xs ih =>
    simp only [List.foldl_cons, List.length_cons]
    rw [ih, ih (0 * 256 + g x)]
    simp [Nat.pow_succ, Nat.add_mul, Nat.mul_assoc, Nat.add_assoc, Nat.mul_comm 256]

def val (b : List UInt8) : Nat := b.foldl (fun acc x => acc * 256 + x.toNat) 0

def bytes (n k : Nat) : List UInt8 := (List.range k).reverse.map fun i => UInt8.ofNat (n / 256 ^ i % 256)

theorem val_append (a b : List UInt8) : val (a ++ b) = val a * 256 ^ b.length + val b := by
  rw [val, List.foldl_append, be_foldl UInt8.toNat]; rfl

theorem val_cons (x : UInt8) (b : List UInt8) : val (x :: b) = x.toNat * 256 ^ b.length + val b := by
  simpa [val] using val_append [x] b

theorem val_snoc (b : List UInt8) (x : UInt8) : val (b ++ [x]) = val b * 256 + x.toNat := by
  simp [val]

theorem val_lt (b : List UInt8) : val b < 256 ^ b.length := by
  induction b with
  | nil => simp [val]
  | cons x xs ih =>
    rw [val_cons, List.length_cons, Nat.pow_succ]
    have hx : x.toNat < 256 := x.toNat_lt
    have : x.toNat * 256 ^ xs.length ≤ 255 * 256 ^ xs.length := Nat.mul_le_mul_right _ (by omega)
    omega

theorem bytes_length (n k : Nat) : (bytes n k).length = k := by simp [bytes]

theorem bytes_succ (n k : Nat) : bytes n (k + 1) = UInt8.ofNat (n / 256 ^ k % 256) :: bytes n k := by
  simp [bytes, List.range_succ]

theorem val_bytes (n k : Nat) : val (bytes n k) = n % 256 ^ k :=
  be_val UInt8.ofNat UInt8.toNat (fun m hm => by rw [UInt8.toNat_ofNat']; omega) k n

theorem bytes_snoc (n k : Nat) : bytes n (k + 1) = bytes (n / 256) k ++ [UInt8.ofNat (n % 256)] :=
  be_succ UInt8.ofNat n k

theorem bytes_val (b : List UInt8) : bytes (val b) b.length = b := by
  suffices h : ∀ l : List UInt8, bytes (val l.reverse) l.length = l.reverse by simpa using h b.reverse
  intro l
  induction l with
  | nil => rfl
  | cons a l ih =>
    have h := a.toNat_lt
    rw [List.reverse_cons, val_snoc, List.length_cons, bytes_snoc,
      show (val l.reverse * 256 + a.toNat) / 256 = val l.reverse by omega,
      show (val l.reverse * 256 + a.toNat) % 256 = a.toNat by omega, ih, UInt8.ofNat_toNat]

theorem val_inj {a b : List UInt8} (hl : a.length = b.length) (h : val a = val b) : a = b := by
  rw [← bytes_val a, ← bytes_val b, hl, h]

theorem bytes_mod (n k : Nat) : bytes (n % 256 ^ k) k = bytes n k :=
  val_inj (by rw [bytes_length, bytes_length]) (by rw [val_bytes, val_bytes, Nat.mod_mod])

end Relic.Lemmas.Codec
