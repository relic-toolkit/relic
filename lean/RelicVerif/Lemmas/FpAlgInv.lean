/-
The contract of the inversion routines of Model/FpAlg.lean (for a prime modulus: the canonical inverse of a non-zero element,
zero reported as an error) and fp_inv_monty: Kaliski's almost inverse keeps A·x1 ≡ u·2^k, A·x2 ≡ −v·2^k, u·x2 + v·x1 = p
and halves u or v in every iteration; the second phase multiplies by 2^(2m−k) in the Montgomery domain.
`invMonty_spec` holds for every odd modulus p > 1 and every operand coprime to it; the contract is its instance at a prime.
-/
import Mathlib.Data.ZMod.Basic
import Mathlib.Algebra.Field.ZMod
import Mathlib.Tactic.Ring
import Mathlib.Tactic.LinearCombination
import RelicVerif.Lemmas.FpAlgExp
import RelicVerif.Lemmas.ZModCast

namespace Relic.Model.FpAlg
open Relic.Lemmas.ZModCast (cast_inj_of_lt cast_eq_zero_iff_of_lt cast_mul_eq_one_iff)

structure Ctx.WF (c : Ctx) : Prop where
  prime : c.p.Prime
  odd : c.p % 2 = 1
  ltR : c.p < 2 ^ c.m
  rinv : 2 ^ c.m * c.rinv % c.p = 1
  fbits : c.p < 2 ^ c.fb
  width : 0 < c.width

theorem Ctx.WF.three_le {c : Ctx} (h : c.WF) : 3 ≤ c.p := by
  have := h.prime.two_le
  have := h.odd
  omega

theorem fpExpNat_of_le (c : Ctx) (h : c.WF) (a e : Nat) (ha : a < c.p) (he : e ≤ c.p) :
    fpExpNat c a e = some (a ^ e % c.p) :=
  fpExpNat_spec c a e ha h.width (by
    have : Rec.bitLen e ≤ c.fb := Rec.bitLen_le_of_lt (lt_of_le_of_lt he h.fbits)
    omega)

def InvContract (c : Ctx) (inv : Nat → Option Nat) : Prop :=
  ∀ a, a < c.p → (a = 0 → inv a = none) ∧ (a ≠ 0 → ∃ x, inv a = some x ∧ x < c.p ∧ a * x % c.p = 1)

theorem cast_fmul (p x y : Nat) : ((fmul p x y : Nat) : ZMod p) = (x : ZMod p) * y := by
  unfold fmul
  rw [ZMod.natCast_mod, Nat.cast_mul]

structure KalInv (p A u v x1 x2 k : Nat) : Prop where
  ex1 : (A : ZMod p) * x1 = u * 2 ^ k
  ex2 : (A : ZMod p) * x2 + v * 2 ^ k = 0
  cop : Nat.Coprime u v
  upos : 0 < u
  sum : u * x2 + v * x1 = p

namespace KalInv
variable {p A u v x1 x2 k : Nat}

theorem halve_v (h : KalInv p A u v x1 x2 k) (hv : v % 2 = 0) :
    KalInv p A u (v / 2) (2 * x1) x2 (k + 1) := by
  obtain ⟨t, rfl⟩ : ∃ t, v = 2 * t := ⟨v / 2, by omega⟩
  rw [Nat.mul_div_cancel_left t two_pos]
  obtain ⟨h1, h2, hc, hu, hs⟩ := h
  refine ⟨?_, ?_, hc.coprime_mul_left_right, hu, ?_⟩
  · push_cast; linear_combination 2 * h1
  · push_cast at h2 ⊢; linear_combination h2
  · rw [← hs]; ring

theorem halve_u (h : KalInv p A u v x1 x2 k) (hu : u % 2 = 0) :
    KalInv p A (u / 2) v x1 (2 * x2) (k + 1) := by
  obtain ⟨t, rfl⟩ : ∃ t, u = 2 * t := ⟨u / 2, by omega⟩
  rw [Nat.mul_div_cancel_left t two_pos]
  obtain ⟨h1, h2, hc, hu, hs⟩ := h
  refine ⟨?_, ?_, hc.coprime_mul_left, by omega, ?_⟩
  · push_cast at h1 ⊢; linear_combination h1
  · push_cast; linear_combination 2 * h2
  · rw [← hs]; ring

theorem sub_v (h : KalInv p A u v x1 x2 k) (hle : u ≤ v) : KalInv p A u (v - u) x1 (x2 + x1) k := by
  obtain ⟨d, rfl⟩ : ∃ d, v = u + d := ⟨v - u, by omega⟩
  rw [Nat.add_sub_cancel_left]
  obtain ⟨h1, h2, hc, hu, hs⟩ := h
  refine ⟨h1, ?_, Nat.coprime_self_add_right.1 hc, hu, ?_⟩
  · push_cast at h2 ⊢; linear_combination h1 + h2
  · rw [← hs]; ring

theorem sub_u (h : KalInv p A u v x1 x2 k) (hlt : v < u) : KalInv p A (u - v) v (x1 + x2) x2 k := by
  obtain ⟨d, rfl⟩ : ∃ d, u = v + d := ⟨u - v, by omega⟩
  rw [Nat.add_sub_cancel_left]
  obtain ⟨h1, h2, hc, hu, hs⟩ := h
  refine ⟨?_, h2, Nat.coprime_self_add_left.1 hc, by omega, ?_⟩
  · push_cast at h1 ⊢; linear_combination h1 + h2
  · rw [← hs]; ring

end KalInv

theorem half_lt_two_pow {n i : Nat} (hn : 0 < n) (h : n < 2 ^ i) : ∃ i', i = i' + 1 ∧ n / 2 < 2 ^ i' := by
  cases i with
  | zero => omega
  | succ i => exact ⟨i, rfl, by rw [pow_succ] at h; omega⟩

theorem cof_le_of_sum {p u v x1 x2 : Nat} (hs : u * x2 + v * x1 = p) (hu : 0 < u) (hv : 0 < v) : x1 ≤ p ∧ x2 ≤ p :=
  ⟨(Nat.le_mul_of_pos_left _ hv).trans (hs ▸ Nat.le_add_left _ _), (Nat.le_mul_of_pos_left _ hu).trans (hs ▸ Nat.le_add_right _ _)⟩

theorem odd_sub_half {u v : Nat} (hu : u % 2 = 1) (hv : v % 2 = 1) : (v - u) % 2 = 0 ∧ (v - u) / 2 ≤ v / 2 := by omega

theorem kalLoop_spec (p A : Nat) :
    ∀ (f u v x1 x2 k i j : Nat), KalInv p A u v x1 x2 k → x1 ≤ 2 * p →
      u < 2 ^ i → v < 2 ^ j → i + j < f →
      ∃ y k', kalLoop f u v x1 x2 k = some (y, k') ∧ k' ≤ k + i + j ∧
        (A : ZMod p) * (y : ZMod p) = 2 ^ k' ∧ y ≤ 2 * p := by
  intro f
  induction f with
  | zero => intro u v x1 x2 k i j _ _ _ _ hf; omega
  | succ f ih =>
    intro u v x1 x2 k i j h hx1 hui hvj hf
    rw [kalLoop]
    by_cases hv : v = 0
    · subst hv
      have hu1 : u = 1 := by simpa using h.cop
      subst hu1
      exact ⟨x1, k, if_pos rfl, by omega, by simpa using h.ex1, hx1⟩
    · rw [if_neg hv]
      have hu := h.upos
      obtain ⟨hx1p, hx2p⟩ := cof_le_of_sum h.sum hu (Nat.pos_of_ne_zero hv)
      -- every branch halves u or v: the exponent bound of that one drops by one
      obtain ⟨j', rfl, hj⟩ := half_lt_two_pow (Nat.pos_of_ne_zero hv) hvj
      obtain ⟨i', rfl, hi⟩ := half_lt_two_pow hu hui
      have hfv : i' + 1 + j' < f := Nat.lt_of_succ_lt_succ hf
      have hfu : i' + (j' + 1) < f := by omega
      by_cases hve : v % 2 = 0
      · rw [if_pos hve]
        obtain ⟨y, k', e, hk, hy⟩ := ih _ _ _ _ _ (i' + 1) j' (h.halve_v hve) (Nat.mul_le_mul_left 2 hx1p) hui hj hfv
        exact ⟨y, k', e, by omega, hy⟩
      · rw [if_neg hve]
        by_cases hue : u % 2 = 0
        · rw [if_pos hue]
          obtain ⟨y, k', e, hk, hy⟩ := ih _ _ _ _ _ i' (j' + 1) (h.halve_u hue) hx1 hi hvj hfu
          exact ⟨y, k', e, by omega, hy⟩
        · rw [if_neg hue]
          have hvo : v % 2 = 1 := Nat.mod_two_ne_zero.1 hve
          have huo : u % 2 = 1 := Nat.mod_two_ne_zero.1 hue
          by_cases hge : v ≥ u
          · rw [if_pos hge]
            obtain ⟨e2, hh⟩ := odd_sub_half huo hvo
            obtain ⟨y, k', e, hk, hy⟩ := ih _ _ _ _ _ (i' + 1) j' ((h.sub_v hge).halve_v e2) (Nat.mul_le_mul_left 2 hx1p)
              hui (lt_of_le_of_lt hh hj) hfv
            exact ⟨y, k', e, by omega, hy⟩
          · rw [if_neg hge]
            obtain ⟨e2, hh⟩ := odd_sub_half hvo huo
            obtain ⟨y, k', e, hk, hy⟩ := ih _ _ _ _ _ i' (j' + 1) ((h.sub_u (Nat.lt_of_not_ge hge)).halve_u e2)
              (by omega) (lt_of_le_of_lt hh hi) hvj hfu
            exact ⟨y, k', e, by omega, hy⟩

theorem subWhileGe_spec (p R : Nat) (hpR : p ≤ R) :
    ∀ f x, ∃ q, subWhileGe p R f x + q * p = x := by
  intro f
  induction f with
  | zero => intro x; exact ⟨0, by simp [subWhileGe]⟩
  | succ f ih =>
    intro x
    rw [subWhileGe]
    by_cases hx : x ≥ R
    · rw [if_pos hx]
      obtain ⟨q, hq⟩ := ih (x - p)
      exact ⟨q + 1, by rw [Nat.add_mul]; omega⟩
    · rw [if_neg hx]; exact ⟨0, by simp⟩

theorem kalReduce_spec (c : Ctx) (x1 : Nat) (hpR : c.p ≤ c.R) (hle : x1 ≤ 2 * c.p)
    (hnd : ¬ c.p ∣ x1) (hp : 0 < c.p) :
    kalReduce c x1 < c.p ∧ ∃ q, kalReduce c x1 + q * c.p = x1 := by
  simp only [kalReduce]
  obtain ⟨q, hq⟩ := subWhileGe_spec c.p c.R hpR x1 x1
  generalize subWhileGe c.p c.R x1 x1 = z at hq ⊢
  have hznd : ¬ c.p ∣ z := fun hd => hnd (by rw [← hq]; exact Dvd.dvd.add hd (dvd_mul_left _ _))
  have hz1 : z ≠ c.p := fun e => hznd (e ▸ dvd_rfl)
  have hz2 : z ≠ 2 * c.p := fun e => hznd (e ▸ dvd_mul_left _ _)
  have hzle : z ≤ 2 * c.p := by omega
  split_ifs with hgt
  · exact ⟨by omega, q + 1, by rw [Nat.add_mul]; omega⟩
  · exact ⟨by omega, q, hq⟩

theorem mont_cast (c : Ctx) (x y : Nat) :
    ((mont c x y : ℕ) : ZMod c.p) = (x : ZMod c.p) * y * c.rinv := by
  simp [mont, ZMod.natCast_mod]

theorem mont_conv_cast (c : Ctx) (hR : (2 : ZMod c.p) ^ c.m * (c.rinv : ZMod c.p) = 1) (x : Nat) :
    ((mont c x (c.R * c.R % c.p) : ℕ) : ZMod c.p) = (x : ZMod c.p) * 2 ^ c.m := by
  rw [mont_cast, ZMod.natCast_mod, Ctx.R]
  push_cast
  linear_combination ((x : ZMod c.p) * 2 ^ c.m) * hR

theorem kalPhase2_cast (c : Ctx) (hR : (2 : ZMod c.p) ^ c.m * (c.rinv : ZMod c.p) = 1) (y k : Nat) :
    ((kalPhase2 c y k : ℕ) : ZMod c.p) = (y : ZMod c.p) * 2 ^ (2 * c.m - k) := by
  unfold kalPhase2
  by_cases hkm : k ≤ c.m
  · have e : 2 * c.m - k = c.m + (2 * c.m - (k + c.m)) := by omega
    simp only [if_pos hkm]
    rw [mont_cast, mont_conv_cast c hR, mont_conv_cast c hR, e, pow_add]
    push_cast
    linear_combination ((y : ZMod c.p) * 2 ^ c.m * 2 ^ (2 * c.m - (k + c.m))) * hR
  · simp only [if_neg hkm]
    rw [mont_cast, mont_conv_cast c hR]
    push_cast
    linear_combination ((y : ZMod c.p) * 2 ^ (2 * c.m - k)) * hR

theorem invMonty_spec (c : Ctx) (h1 : 1 < c.p) (hodd : c.p % 2 = 1) (hltR : c.p < 2 ^ c.m) (hrinv : 2 ^ c.m * c.rinv % c.p = 1)
    (a : Nat) (ha : a < c.p) (hcop : Nat.Coprime a c.p) :
    ∃ x, invMonty c a = some x ∧ x < c.p ∧ a * x % c.p = 1 := by
  have h0 : a ≠ 0 := by rintro rfl; rw [Nat.coprime_zero_left] at hcop; omega
  have : Fact (1 < c.p) := ⟨h1⟩
  have hRz : (2 : ZMod c.p) ^ c.m * (c.rinv : ZMod c.p) = 1 := by
    simpa only [Nat.cast_pow, Nat.cast_ofNat] using (cast_mul_eq_one_iff h1).2 hrinv
  have h2u : ∀ k, IsUnit ((2 : ZMod c.p) ^ k) := fun k =>
    ((isUnit_pow_iff (fun e => by rw [e] at hltR; omega : c.m ≠ 0)).1 (IsUnit.of_mul_eq_one _ hRz)).pow k
  simp only [invMonty, if_neg h0]
  have hAz : ((a * c.R % c.p : ℕ) : ZMod c.p) = (a : ZMod c.p) * 2 ^ c.m := by
    simp [Ctx.R, ZMod.natCast_mod]
  have hAlt : a * c.R % c.p < c.p := Nat.mod_lt _ (by omega)
  have hAcop : Nat.Coprime (a * c.R % c.p) c.p := by
    rw [Nat.Coprime, ← Nat.gcd_rec, Nat.gcd_comm]
    exact Nat.Coprime.mul_left hcop ((Nat.coprime_two_left.2 (Nat.odd_iff.2 hodd)).pow_left c.m)
  generalize a * c.R % c.p = A at hAz hAlt hAcop ⊢
  obtain ⟨x1, k, hloop, hk, hx1z, hx1le⟩ :=
    kalLoop_spec c.p A (2 * c.m + 1) A c.p 1 0 0 c.m c.m
      ⟨by simp, by simp, hAcop, Nat.pos_of_ne_zero fun e => by rw [e, Nat.coprime_zero_left] at hAcop; omega, by simp⟩
      (by omega) (lt_trans hAlt hltR) hltR (by omega)
  simp only [hloop]
  refine ⟨_, rfl, Nat.mod_lt _ (by omega), ?_⟩
  have hx1nd : ¬ c.p ∣ x1 := fun hd => by
    rw [(ZMod.natCast_eq_zero_iff _ _).2 hd, mul_zero] at hx1z
    exact (h2u k).ne_zero hx1z.symm
  obtain ⟨_, q, hq⟩ := kalReduce_spec c x1 hltR.le hx1le hx1nd (by omega)
  have hyz : ((kalReduce c x1 : ℕ) : ZMod c.p) = x1 := by
    have := congrArg (Nat.cast : Nat → ZMod c.p) hq
    simpa using this
  have hpw : (2 : ZMod c.p) ^ k * 2 ^ (2 * c.m - k) = 2 ^ c.m * 2 ^ c.m := by
    rw [← pow_add, ← pow_add]; congr 1; omega
  -- a·R·x1 = 2^k and the result is x1·2^(2m−k)·R⁻¹
  rw [← cast_mul_eq_one_iff h1, ZMod.natCast_mod, Nat.cast_mul, kalPhase2_cast c hRz, hyz]
  rw [hAz] at hx1z
  linear_combination (2 ^ (2 * c.m - k) * (c.rinv : ZMod c.p) ^ 2) * hx1z + (c.rinv : ZMod c.p) ^ 2 * hpw +
    ((2 : ZMod c.p) ^ c.m * c.rinv + 1 - a * x1 * 2 ^ (2 * c.m - k) * c.rinv) * hRz

theorem fpInv_spec (c : Ctx) (h : c.WF) : InvContract c (fpInv c) := fun a ha =>
  ⟨fun h0 => by simp [fpInv, invMonty, h0],
    fun h0 => invMonty_spec c h.prime.one_lt h.odd h.ltR h.rinv a ha (Nat.coprime_of_lt_prime h0 ha h.prime).symm⟩

end Relic.Model.FpAlg
