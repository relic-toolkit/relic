/-
ψ sends a natural number to the class of its polynomial in K F = GF(2)[z]/(f): additive, multiplicative, zero on f for every f,
injective on reduced elements (`ψ_inj`, the only way back). The identities of the field operations of Spec/Gf2.lean (square
root, trace, half-trace, inverse, the even/odd square root and the trace from selected coefficients of Model/Fb.lean) are proved
in K F. For the polynomial of the running library the driver evaluates z^(2^m) = z mod f (`FrobFix`); it makes the m-fold
Frobenius the identity of K F.
-/
import Mathlib.RingTheory.AdjoinRoot
import Mathlib.FieldTheory.Finite.Basic
import Mathlib.Algebra.CharP.Two
import Mathlib.Tactic.Ring
import Mathlib.Tactic.Linarith
import Mathlib.Tactic.LinearCombination
import RelicVerif.Lemmas.Gf2Poly
import RelicVerif.Lemmas.CharTwo
import RelicVerif.Model.Fb

namespace Relic.Lemmas.Gf2Field
open Polynomial Relic.Spec.Gf2 Relic.Lemmas.Gf2Poly Relic.Model.Fb

/-- z^(2^m) ≡ z (mod f): checked by the driver on the polynomial of the running library (`checkFParam`) -/
def FrobFix (F : Field) : Prop := F.sqrN F.m 2 = 2

/-- GF(2)[z]/(f) -/
abbrev K (F : Field) := AdjoinRoot (toPoly F.f)

/-- class of the polynomial a natural number denotes -/
noncomputable def ψ (F : Field) (a : Nat) : K F := AdjoinRoot.mk (toPoly F.f) (toPoly a)

theorem K.two_eq_zero (F : Field) : (2 : K F) = 0 := by
  have h := congrArg (AdjoinRoot.mk (toPoly F.f)) (CharTwo.two_eq_zero : (2 : (ZMod 2)[X]) = 0)
  rwa [RingHom.map_zero, map_ofNat] at h

theorem ψ_xor (F : Field) (a b : Nat) : ψ F (a ^^^ b) = ψ F a + ψ F b := by
  rw [ψ, toPoly_xor, RingHom.map_add]; rfl

theorem ψ_zero (F : Field) : ψ F 0 = 0 := by
  rw [ψ, toPoly_zero, RingHom.map_zero]

theorem ψ_one (F : Field) : ψ F 1 = 1 := by
  rw [ψ, toPoly_one, RingHom.map_one]

theorem ψ_two (F : Field) : ψ F 2 = AdjoinRoot.root (toPoly F.f) := by
  rw [ψ, toPoly_two, AdjoinRoot.mk_X]

theorem ψ_f (F : Field) : ψ F F.f = 0 := AdjoinRoot.mk_self

theorem ψ_clmul (F : Field) (a b : Nat) : ψ F (clmul a b) = ψ F a * ψ F b := by
  rw [ψ, toPoly_clmul, RingHom.map_mul]; rfl

theorem ψ_shl (F : Field) (x j : Nat) : ψ F (x <<< j) = ψ F 2 ^ j * ψ F x := by
  rw [← clmul_two_pow, clmul_comm, ψ_clmul, ψ, toPoly_two_pow, RingHom.map_pow, ← toPoly_two]; rfl

theorem ψ_pmod (F : Field) (a : Nat) : ψ F (pmod a F.f) = ψ F a := by
  obtain ⟨q, hq⟩ := pmod_eq_xor_clmul a F.f
  rw [hq, ψ_xor, ψ_clmul, ψ_f, mul_zero, add_zero]

theorem ψ_mul (F : Field) (a b : Nat) : ψ F (F.mul a b) = ψ F a * ψ F b := by
  rw [Field.mul, ψ_pmod, ψ_clmul]

theorem ψ_sqr (F : Field) (a : Nat) : ψ F (F.sqr a) = ψ F a ^ 2 := by
  rw [Field.sqr, ψ_mul, pow_two]

theorem ψ_sqrN (F : Field) (n a : Nat) : ψ F (F.sqrN n a) = ψ F a ^ (2 ^ n) := by
  induction n generalizing a with
  | zero => simp [Field.sqrN]
  | succ n ih => rw [Field.sqrN, ih, ψ_sqr, ← pow_mul, pow_succ']

theorem ψ_inj (F : Field) (hF : F.wellFormed = true) {a b : Nat} (ha : bitLen a ≤ F.m) (hb : bitLen b ≤ F.m)
    (h : ψ F a = ψ F b) : a = b := by
  obtain ⟨h1, _, _, hf⟩ := wf_parts hF
  by_contra hne
  have hx : toPoly (a ^^^ b) ≠ 0 := by
    rw [Ne, toPoly_eq_zero_iff]
    intro h0
    apply hne
    have := congrArg (· ^^^ b) h0
    simpa [Nat.xor_assoc] using this
  have hlt : bitLen (a ^^^ b) < bitLen F.f := by
    have := bitLen_xor_le ha hb
    omega
  apply AdjoinRoot.mk_ne_zero_of_degree_lt (monic_toPoly F.f hf) hx (degree_toPoly_lt_of_bitLen_lt hlt)
  change ψ F (a ^^^ b) = 0
  rw [ψ_xor, h, Char2.add_self (K.two_eq_zero F)]

theorem ψ_eq_zero (F : Field) (hF : F.wellFormed = true) {a : Nat} (ha : bitLen a ≤ F.m) (h : ψ F a = 0) : a = 0 :=
  ψ_inj F hF ha (Nat.zero_le _) (h.trans (ψ_zero F).symm)

theorem isElem_one (F : Field) (hF : F.wellFormed = true) : bitLen 1 ≤ F.m := by
  have := (wf_parts hF).2.2.1
  exact le_trans (by decide : bitLen 1 ≤ 2) this

theorem ψ_mul_eq_one_iff (F : Field) (hF : F.wellFormed = true) (a x : Nat) : ψ F a * ψ F x = 1 ↔ F.mul a x = 1 := by
  rw [← ψ_mul, ← ψ_one]
  exact ⟨ψ_inj F hF (isElem_mul F hF a x) (isElem_one F hF), congrArg _⟩

theorem toPoly_of_ψ (F : Field) (hF : F.wellFormed = true) {r : Nat} (hr : bitLen r ≤ F.m) (p : (ZMod 2)[X])
    (h : ψ F r = AdjoinRoot.mk (toPoly F.f) p) : toPoly r = p %ₘ toPoly F.f := by
  obtain ⟨h1, _, _, hf⟩ := wf_parts hF
  rw [← pmod_elem F hF hr, toPoly_pmod _ _ hf]
  apply modByMonic_eq_of_dvd_sub (monic_toPoly F.f hf)
  rw [← AdjoinRoot.mk_eq_mk]
  exact h

theorem pow_go_spec (F : Field) (hF : F.wellFormed = true) : ∀ (fuel base e acc : Nat), bitLen e ≤ fuel → bitLen acc ≤ F.m →
    bitLen (Field.pow.go F fuel base e acc) ≤ F.m ∧ ψ F (Field.pow.go F fuel base e acc) = ψ F acc * ψ F base ^ e := by
  intro fuel
  induction fuel with
  | zero =>
    intro base e acc h ha
    have : e = 0 := by
      rw [bitLen_le_iff] at h; omega
    subst this
    exact ⟨ha, by simp [Field.pow.go]⟩
  | succ n ih =>
    intro base e acc h ha
    rw [Field.pow.go]
    by_cases h0 : e = 0
    · subst h0; exact ⟨by simpa using ha, by simp⟩
    · rw [if_neg h0]
      obtain ⟨i1, i2⟩ := ih (F.sqr base) (e / 2) (if e % 2 = 1 then F.mul acc base else acc) (bitLen_half_le e n h)
        (by split; exacts [isElem_mul F hF _ _, ha])
      refine ⟨i1, ?_⟩
      rw [i2, ψ_sqr, ← pow_mul]
      -- a^e = (a²)^(e/2) · a^(e mod 2)
      conv_rhs => rw [← Nat.div_add_mod e 2, pow_add]
      by_cases h1 : e % 2 = 1
      · rw [if_pos h1, ψ_mul, h1, pow_one, mul_assoc, mul_comm (ψ F base)]
      · rw [if_neg h1, show e % 2 = 0 by omega, pow_zero, mul_one]

theorem toPoly_pow (F : Field) (hF : F.wellFormed = true) (a e : Nat) :
    toPoly (F.pow a e) = (toPoly a ^ e) %ₘ toPoly F.f := by
  obtain ⟨h1, h2⟩ := pow_go_spec F hF (bitLen e) (pmod a F.f) e (pmod 1 F.f) le_rfl (isElem_pmod F hF _)
  apply toPoly_of_ψ F hF h1
  rw [h2, ψ_pmod, ψ_pmod, ψ_one, one_mul, ψ, RingHom.map_pow]

theorem isElem_sqrN (F : Field) (hF : F.wellFormed = true) (n : Nat) {a : Nat} (ha : bitLen a ≤ F.m) :
    bitLen (F.sqrN n a) ≤ F.m := by
  induction n generalizing a with
  | zero => exact ha
  | succ n ih => exact ih (isElem_sqr F hF a)

theorem toPoly_sqrN (F : Field) (hF : F.wellFormed = true) (n a : Nat) (hn : 0 < n) :
    toPoly (F.sqrN n a) = (toPoly a ^ (2 ^ n)) %ₘ toPoly F.f := by
  obtain ⟨k, rfl⟩ : ∃ k, n = k + 1 := ⟨n - 1, by omega⟩
  apply toPoly_of_ψ F hF (isElem_sqrN F hF k (isElem_sqr F hF a))
  rw [← Field.sqrN, ψ_sqrN, ψ, RingHom.map_pow]

theorem sqr_sqrN (F : Field) (n a : Nat) : F.sqr (F.sqrN n a) = F.sqrN n (F.sqr a) := by
  induction n generalizing a with
  | zero => rfl
  | succ n ih => rw [Field.sqrN, Field.sqrN, ih]

theorem sqr_mul (F : Field) (hF : F.wellFormed = true) (a b : Nat) : F.sqr (F.mul a b) = F.mul (F.sqr a) (F.sqr b) := by
  apply ψ_inj F hF (isElem_sqr F hF _) (isElem_mul F hF _ _)
  rw [ψ_sqr, ψ_mul, ψ_mul, ψ_sqr, ψ_sqr, mul_pow]

theorem frob_fix_all (F : Field) (hz : FrobFix F) (x : K F) : x ^ (2 ^ F.m) = x := by
  have hroot : AdjoinRoot.root (toPoly F.f) ^ (2 ^ F.m) = AdjoinRoot.root (toPoly F.f) := by
    have := congrArg (ψ F) hz
    rwa [ψ_sqrN, ψ_two] at this
  induction x using AdjoinRoot.induction_on with
  | ih p =>
    induction p using Polynomial.induction_on' with
    | add p q hp hq => rw [RingHom.map_add, Char2.add_pow_two_pow (K.two_eq_zero F), hp, hq]
    | monomial n a =>
      rw [← C_mul_X_pow_eq_monomial, RingHom.map_mul, RingHom.map_pow, AdjoinRoot.mk_X, mul_pow, ← pow_mul, mul_comm n,
        pow_mul, hroot, ← RingHom.map_pow, ← C_pow, ZMod.pow_card_pow]

theorem sqrN_m_eq (F : Field) (hF : F.wellFormed = true) (hz : FrobFix F) (a : Nat) (ha : bitLen a ≤ F.m) :
    F.sqrN F.m a = a := by
  apply ψ_inj F hF (isElem_sqrN F hF _ ha) ha
  rw [ψ_sqrN, frob_fix_all F hz]

theorem sqr_sqrt (F : Field) (hF : F.wellFormed = true) (hz : FrobFix F) (a : Nat) (ha : bitLen a ≤ F.m) :
    F.sqr (F.sqrt a) = a := by
  have h3 := (wf_parts hF).2.2.1
  rw [Field.sqrt, sqr_sqrN, ← Field.sqrN, show (F.m - 1).succ = F.m by omega, sqrN_m_eq F hF hz a ha]

theorem sqrt_unique (F : Field) (hF : F.wellFormed = true) (hz : FrobFix F) (a r : Nat) (hr : bitLen r ≤ F.m)
    (h : F.sqr r = a) : r = F.sqrt a := by
  have h3 := (wf_parts hF).2.2.1
  rw [Field.sqrt, ← h, ← Field.sqrN, show (F.m - 1).succ = F.m by omega, sqrN_m_eq F hF hz r hr]

theorem xor_of_ψ_sum (F : Field) (hF : F.wellFormed = true) (T : Nat → Nat) (n : Nat) (e : Nat → Nat)
    (hT : ∀ a, bitLen (T a) ≤ F.m ∧ ψ F (T a) = ∑ i ∈ Finset.range n, ψ F a ^ 2 ^ e i) (a b : Nat) :
    T (a ^^^ b) = T a ^^^ T b := by
  apply ψ_inj F hF (hT _).1 (bitLen_xor_le (hT _).1 (hT _).1)
  rw [ψ_xor, (hT _).2, (hT _).2, (hT _).2, ψ_xor]
  simp only [Char2.add_pow_two_pow (K.two_eq_zero F), Finset.sum_add_distrib]

/-- after k steps the trace loop holds a^(2^k) and Σ_{i ≤ k} a^(2^i) -/
theorem trace_sum (F : Field) (hF : F.wellFormed = true) (a : Nat) :
    bitLen (F.trace a) ≤ F.m ∧ ψ F (F.trace a) = ∑ i ∈ Finset.range F.m, ψ F a ^ (2 ^ i) := by
  have h := Loops.foldl_range_ind (fun (st : Nat × Nat) _ => (F.sqr st.1, st.2 ^^^ F.sqr st.1))
    (fun k st => bitLen st.2 ≤ F.m ∧ ψ F st.1 = ψ F a ^ 2 ^ k ∧ ψ F st.2 = ∑ i ∈ Finset.range (k + 1), ψ F a ^ 2 ^ i)
    (init := (pmod a F.f, pmod a F.f)) ⟨isElem_pmod F hF a, by simp [ψ_pmod], by simp [ψ_pmod]⟩ (F.m - 1)
    (fun k st _ ⟨h1, h2, h3⟩ => ⟨bitLen_xor_le h1 (isElem_sqr F hF _), by dsimp only; rw [ψ_sqr, h2, ← pow_mul, pow_succ],
      by dsimp only; rw [ψ_xor, ψ_sqr, h2, h3, Finset.sum_range_succ _ (k + 1), ← pow_mul, pow_succ]⟩)
  rw [Nat.sub_add_cancel (by have := (wf_parts hF).2.2.1; omega)] at h
  exact ⟨h.1, h.2.2⟩

theorem trace_xor (F : Field) (hF : F.wellFormed = true) (a b : Nat) : F.trace (a ^^^ b) = F.trace a ^^^ F.trace b :=
  xor_of_ψ_sum F hF F.trace F.m (fun i => i) (trace_sum F hF) a b

theorem trace_zero (F : Field) (hF : F.wellFormed = true) : F.trace 0 = 0 := by
  have h := trace_xor F hF 0 0
  rwa [Nat.xor_self, Nat.xor_self] at h

theorem trace_sqr (F : Field) (hF : F.wellFormed = true) (hz : FrobFix F) (a : Nat) :
    F.trace (F.sqr a) = F.trace a := by
  apply ψ_inj F hF (trace_sum F hF _).1 (trace_sum F hF _).1
  rw [(trace_sum F hF _).2, (trace_sum F hF _).2, ψ_sqr]
  have e1 := Finset.sum_range_succ' (fun i => ψ F a ^ (2 ^ i)) F.m
  have e2 := Finset.sum_range_succ (fun i => ψ F a ^ (2 ^ i)) F.m
  rw [frob_fix_all F hz] at e2
  simp only [pow_zero, pow_one] at e1
  have e3 : ∑ i ∈ Finset.range F.m, (ψ F a ^ 2) ^ (2 ^ i) = ∑ i ∈ Finset.range F.m, ψ F a ^ (2 ^ (i + 1)) := by
    apply Finset.sum_congr rfl; intro i _; rw [← pow_mul, pow_succ']
  rw [e3]
  exact add_right_cancel (e1.symm.trans e2)

/-- after k steps the half-trace loop holds a^(4^k) and Σ_{i ≤ k} a^(4^i) -/
theorem halfTrace_sum (F : Field) (hF : F.wellFormed = true) (a : Nat) :
    bitLen (F.halfTrace a) ≤ F.m ∧
      ψ F (F.halfTrace a) = ∑ i ∈ Finset.range ((F.m - 1) / 2 + 1), ψ F a ^ (2 ^ (2 * i)) := by
  have h := Loops.foldl_range_ind (fun (st : Nat × Nat) _ => (F.sqr (F.sqr st.1), st.2 ^^^ F.sqr (F.sqr st.1)))
    (fun k st => bitLen st.2 ≤ F.m ∧ ψ F st.1 = ψ F a ^ 2 ^ (2 * k) ∧
      ψ F st.2 = ∑ i ∈ Finset.range (k + 1), ψ F a ^ 2 ^ (2 * i))
    (init := (pmod a F.f, pmod a F.f)) ⟨isElem_pmod F hF a, by simp [ψ_pmod], by simp [ψ_pmod]⟩ ((F.m - 1) / 2)
    (fun k st _ ⟨h1, h2, h3⟩ => by
      have e : ψ F (F.sqr (F.sqr st.1)) = ψ F a ^ 2 ^ (2 * (k + 1)) := by
        rw [ψ_sqr, ψ_sqr, h2, ← pow_mul, ← pow_mul, ← pow_two, ← pow_add, ← Nat.mul_succ]
      exact ⟨bitLen_xor_le h1 (isElem_sqr F hF _), e, by dsimp only; rw [ψ_xor, e, h3, Finset.sum_range_succ _ (k + 1)]⟩)
  exact ⟨h.1, h.2.2⟩

theorem halfTrace_xor (F : Field) (hF : F.wellFormed = true) (a b : Nat) :
    F.halfTrace (a ^^^ b) = F.halfTrace a ^^^ F.halfTrace b :=
  xor_of_ψ_sum F hF F.halfTrace _ (fun i => 2 * i) (halfTrace_sum F hF) a b

theorem halfTrace_spec (F : Field) (hF : F.wellFormed = true) (hz : FrobFix F) (hodd : F.m % 2 = 1) (a : Nat) (ha : bitLen a ≤ F.m) :
    F.sqr (F.halfTrace a) ^^^ F.halfTrace a = a ^^^ F.trace a := by
  apply ψ_inj F hF (bitLen_xor_le (isElem_sqr F hF _) (halfTrace_sum F hF _).1) (bitLen_xor_le ha (trace_sum F hF _).1)
  -- H² + H = Σ_{j ≤ m} a^(2^j), and the last term is a^(2^m) = a
  rw [ψ_xor, ψ_xor, ψ_sqr, (halfTrace_sum F hF _).2, (trace_sum F hF _).2, Char2.halfTrace_sq_add (K.two_eq_zero F),
    show 2 * ((F.m - 1) / 2) + 2 = F.m + 1 by omega, Finset.sum_range_succ, frob_fix_all F hz, add_comm]

theorem trcBits_cons (a t : Nat) (ts : List Nat) :
    trcBits a (t :: ts) = (if a.testBit t then 1 else 0) ^^^ trcBits a ts := by
  unfold trcBits
  rw [List.foldl_cons, foldl_xor_init, Nat.zero_xor]

theorem trcBits_zero (ts : List Nat) : trcBits 0 ts = 0 := by
  induction ts with
  | nil => rfl
  | cons t ts ih => rw [trcBits_cons, ih]; simp

theorem trcBits_xor (a b : Nat) (ts : List Nat) : trcBits (a ^^^ b) ts = trcBits a ts ^^^ trcBits b ts := by
  induction ts with
  | nil => simp [trcBits]
  | cons t ts ih =>
    rw [trcBits_cons, trcBits_cons, trcBits_cons, ih, Nat.testBit_xor]
    have e1 : ∀ p q : Bool, (if (p ^^ q) = true then 1 else 0 : Nat)
        = (if p = true then 1 else 0) ^^^ (if q = true then 1 else 0) := by decide
    have e2 : ∀ x y A B : Nat, (x ^^^ y) ^^^ (A ^^^ B) = (x ^^^ A) ^^^ (y ^^^ B) := by
      intro x y A B; ac_rfl
    rw [e1, e2]

theorem trcBits_two_pow (k : Nat) (ts : List Nat) (hnd : ts.Nodup) :
    trcBits (2 ^ k) ts = if k ∈ ts then 1 else 0 := by
  induction ts with
  | nil => rfl
  | cons t ts ih =>
    rw [List.nodup_cons] at hnd
    rw [trcBits_cons, ih hnd.2, Nat.testBit_two_pow]
    by_cases hkt : k = t
    · subst hkt; simp [hnd.1]
    · have : ¬ t = k := fun e => hkt e.symm
      simp [hkt]

/-- fb_trcn_low (ts = the positions i with Tr(z^i) = 1) -/
theorem trace_bits (F : Field) (hF : F.wellFormed = true) (ts : List Nat) (hnd : ts.Nodup)
    (hts : ∀ i, i < F.m → F.trace (2 ^ i) = if i ∈ ts then 1 else 0) (a : Nat) (ha : a < 2 ^ F.m) :
    F.trace a = trcBits a ts :=
  NatBits.additive_ext F.trace (trcBits · ts) (trace_zero F hF) (trcBits_zero ts) (trace_xor F hF) (trcBits_xor · · ts) F.m
    (fun i hi => by rw [hts i hi, trcBits_two_pow i ts hnd]) a ha

theorem testBit_compress_loop (a off n i : Nat) :
    ((List.range n).foldl (fun c i => if a.testBit (2 * i + off) then c ^^^ (1 <<< i) else c) 0).testBit i
      = (decide (i < n) && a.testBit (2 * i + off)) := by
  induction n with
  | zero => simp
  | succ n ih =>
    rw [Loops.foldl_range_succ]
    have step : ∀ c : Nat, (if a.testBit (2 * n + off) then c ^^^ 1 <<< n else c).testBit i
        = (c.testBit i ^^ (decide (n = i) && a.testBit (2 * n + off))) := by
      intro c; cases a.testBit (2 * n + off) <;> simp [Nat.testBit_xor, Nat.one_shiftLeft, Nat.testBit_two_pow]
    rw [step, ih]
    by_cases h : n = i
    · subst h; simp
    · have : i < n + 1 ↔ i < n := by omega
      simp [h, this]

theorem testBit_compress (a off m i : Nat) (ha : a < 2 ^ m) : (compress a off m).testBit i = a.testBit (2 * i + off) := by
  rw [compress, testBit_compress_loop]
  by_cases hlt : i < (m + 1) / 2
  · simp [hlt]
  · simpa [hlt] using (Nat.testBit_lt_two_pow (lt_of_lt_of_le ha (Nat.pow_le_pow_right (by norm_num) (by omega)))).symm

theorem clmul_two (x : Nat) : clmul 2 x = x <<< 1 := by
  rw [clmul_comm]; exact clmul_two_pow x 1

theorem split_recombine (a m : Nat) (ha : a < 2 ^ m) :
    clmul (compress a 0 m) (compress a 0 m) ^^^ clmul 2 (clmul (compress a 1 m) (compress a 1 m)) = a := by
  apply Nat.eq_of_testBit_eq
  intro j
  rw [Nat.testBit_xor, clmul_two, Nat.testBit_shiftLeft]
  rcases Nat.even_or_odd' j with ⟨i, rfl | rfl⟩
  · have h2 : (decide (2 * i ≥ 1) && (clmul (compress a 1 m) (compress a 1 m)).testBit (2 * i - 1)) = false := by
      by_cases hi : i = 0
      · subst hi; simp
      · rw [show 2 * i - 1 = 2 * (i - 1) + 1 by omega, clmul_self_testBit_odd]; simp
    rw [clmul_self_testBit_even, testBit_compress _ _ _ _ ha, h2, Bool.xor_false, Nat.add_zero]
  · rw [clmul_self_testBit_odd, Bool.false_xor, Nat.add_sub_cancel, clmul_self_testBit_even,
      testBit_compress _ _ _ _ ha]
    simp

/-- fb_srtn_low -/
theorem srtSplit_spec (F : Field) (hF : F.wellFormed = true) (srz : Nat) (hsrz : F.sqr srz = 2) (a : Nat) (ha : a < 2 ^ F.m) :
    F.sqr (srtSplit F.mul srz F.m a) = a := by
  rw [srtSplit, Field.sqr_xor, sqr_mul F hF, hsrz]
  unfold Field.sqr Field.mul
  rw [pmod_clmul_pmod_right, ← pmod_xor, split_recombine a F.m ha]
  exact pmod_elem F hF ((bitLen_le_iff _ _).2 ha)

theorem inv_unique (F : Field) (hF : F.wellFormed = true) (a c c' : Nat) (hc : bitLen c ≤ F.m) (hc' : bitLen c' ≤ F.m)
    (h : F.mul a c = 1) (h' : F.mul a c' = 1) : c = c' := by
  have h1 := (wf_parts hF).1
  calc c = F.mul c 1 := (Field.mul_one F c (by omega)).symm
    _ = F.mul c (F.mul a c') := by rw [h']
    _ = F.mul (F.mul a c) c' := by rw [← Field.mul_assoc, Field.mul_comm F c a]
    _ = F.mul c' 1 := by rw [h, Field.mul_comm]
    _ = c' := Field.mul_one F c' (by omega)

theorem Field.mul_eq_zero (F : Field) (hF : F.wellFormed = true) (hirr : Irreducible (toPoly F.f)) (a b : Nat)
    (ha : bitLen a ≤ F.m) (hb : bitLen b ≤ F.m) (h : F.mul a b = 0) : a = 0 ∨ b = 0 := by
  have := Fact.mk hirr
  have e : ψ F a * ψ F b = 0 := by rw [← ψ_mul, h, ψ_zero]
  exact (_root_.mul_eq_zero.1 e).imp (ψ_eq_zero F hF ha) (ψ_eq_zero F hF hb)

/-- after k steps the loop of the Fermat inverse holds a^(2^k) and a^(2^(k+1) - 2), i.e. c with c·a² = a^(2^(k+1)) -/
theorem invFermat_pow (F : Field) (hF : F.wellFormed = true) (a : Nat) :
    bitLen (F.invFermat a) ≤ F.m ∧ ψ F (F.invFermat a) * ψ F a ^ 2 = ψ F a ^ 2 ^ F.m := by
  have h := Loops.foldl_range_ind (fun (st : Nat × Nat) _ => (F.sqr st.1, F.mul st.2 (F.sqr st.1)))
    (fun k st => bitLen st.2 ≤ F.m ∧ ψ F st.1 = ψ F a ^ 2 ^ k ∧ ψ F st.2 * ψ F a ^ 2 = ψ F a ^ 2 ^ (k + 1))
    (init := (pmod a F.f, pmod 1 F.f)) ⟨isElem_pmod F hF 1, by simp [ψ_pmod], by simp [ψ_pmod, ψ_one]⟩ (F.m - 1)
    (fun k st _ ⟨_, h2, h3⟩ => ⟨isElem_mul F hF _ _, by dsimp only; rw [ψ_sqr, h2, ← pow_mul, pow_succ], by
      dsimp only
      rw [ψ_mul, ψ_sqr, h2, mul_right_comm, h3, ← pow_mul, ← pow_succ, ← pow_add, ← two_mul, ← pow_succ']⟩)
  rw [Nat.sub_add_cancel (by have := (wf_parts hF).2.2.1; omega)] at h
  exact ⟨h.1, h.2.2⟩

theorem invFermat_spec (F : Field) (hF : F.wellFormed = true) (hz : FrobFix F) (hirr : Irreducible (toPoly F.f)) (a : Nat)
    (ha : bitLen a ≤ F.m) (ha0 : a ≠ 0) : F.mul a (F.invFermat a) = 1 := by
  have := Fact.mk hirr
  have hx : ψ F a ≠ 0 := fun e => ha0 (ψ_eq_zero F hF ha e)
  apply (ψ_mul_eq_one_iff F hF _ _).1
  apply mul_left_cancel₀ hx
  rw [mul_one, ← mul_assoc, ← pow_two, mul_comm, (invFermat_pow F hF a).2, frob_fix_all F hz]

theorem isElem_inv (F : Field) (hF : F.wellFormed = true) (a : Nat) : bitLen (F.inv a) ≤ F.m := by
  unfold Field.inv
  dsimp only
  split_ifs
  · exact isElem_pmod F hF _
  · exact (invFermat_pow F hF a).1

theorem inv_spec (F : Field) (hF : F.wellFormed = true) (hz : FrobFix F) (hirr : Irreducible (toPoly F.f)) (a : Nat)
    (ha : bitLen a ≤ F.m) (ha0 : a ≠ 0) : F.mul a (F.inv a) = 1 := by
  unfold Field.inv
  dsimp only
  split_ifs with h
  · exact h
  · exact invFermat_spec F hF hz hirr a ha ha0

end Relic.Lemmas.Gf2Field
