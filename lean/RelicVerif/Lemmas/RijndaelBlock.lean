/-
The two block functions of the library, key setup followed by one block (Model/Rijndael.lean `aesE`, `aesD`: rijndaelKeySetupEnc +
rijndaelEncrypt, rijndaelKeySetupDec + rijndaelDecrypt), are the FIPS 197 Cipher / InvCipher under the FIPS 197 key expansion.
-/
import RelicVerif.Lemmas.RijndaelDec
import RelicVerif.Lemmas.RijndaelKey

namespace Relic.Lemmas.Rijndael
open Relic.Spec.Aes Relic.Model

theorem aesE_eq (key blk : Bytes) (hk : key.length = 16 ∨ key.length = 24 ∨ key.length = 32) (hb : blk.length = 16) :
    Rijndael.aesE key blk = cipher (keyExpansion key) blk := by
  obtain ⟨rk, hks, hok, hlen⟩ := Key.keySetupEnc_ok key hk
  unfold Rijndael.aesE
  rw [hks]
  exact encrypt_eq rk (keyExpansion key) (key.length / 4 + 6) hok hlen (by omega) (Aes.keyExpansion_length key hk).2 blk hb

theorem aesD_eq (key blk : Bytes) (hk : key.length = 16 ∨ key.length = 24 ∨ key.length = 32) (hb : blk.length = 16) :
    Rijndael.aesD key blk = invCipher (keyExpansion key) blk := by
  obtain ⟨rk, hks, hok⟩ := Key.keySetupDec_ok key hk
  have hlen := Aes.length_keyExpansion key
  obtain ⟨hne, h16⟩ := Aes.keyExpansion_length key hk
  unfold Rijndael.aesD
  rw [hks]
  have := Dec.decrypt_eq rk (eqInvKeys (keyExpansion key)) (key.length / 4 + 6) hok
    (by rw [AesEqInv.eqInvKeys_length _ hne, hlen]) (by omega) (AesEqInv.eqInvKeys_length16 _ hne h16) blk hb
  simp only at this ⊢
  rw [this]
  exact AesEqInv.eqInvCipher_keyExpansion key blk hk hb

theorem aesE_length (key blk : Bytes) (hk : key.length = 16 ∨ key.length = 24 ∨ key.length = 32) (hb : blk.length = 16) :
    (Rijndael.aesE key blk).length = 16 := by
  rw [aesE_eq key blk hk hb]; exact Aes.cipher_length key blk hk

theorem aesD_length (key blk : Bytes) (hk : key.length = 16 ∨ key.length = 24 ∨ key.length = 32) (hb : blk.length = 16) :
    (Rijndael.aesD key blk).length = 16 := by
  rw [aesD_eq key blk hk hb]; exact Aes.invCipher_length key blk hk

end Relic.Lemmas.Rijndael
