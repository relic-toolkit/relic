/-
Inversion algorithms of Model/FpAlg.lean, second part: the invariants of the loops of binary extended Euclid and of Euclid
with quotients (`Cof`: g·a ≡ u modulo p for every pair of a remainder u and its cofactor g), Fermat through fp_exp, the two passes of
simultaneous inversion as instances of Lemmas/SimInv, and the sign handling of the exponentiations (which invert through
fp_inv = fp_inv_monty).  The contracts of fp_inv_basic / fp_inv_lower (`invFermat_spec`) and of the three signed exponentiations
(`expContract_signed`) stand here; the theorems about the other routines are in Props/C02B.
-/
import Mathlib.Data.Nat.ModEq
import Mathlib.Data.Nat.GCD.Basic
import Mathlib.FieldTheory.Finite.Basic
import Mathlib.Tactic.Ring
import Mathlib.Tactic.LinearCombination
import RelicVerif.Lemmas.SimInv
import RelicVerif.Lemmas.FpAlgInv

namespace Relic.Model.FpAlg
open Relic.Model.Rec

theorem fpInv_pow (c : Ctx) (h : c.WF) (a n : Nat) (ha : a < c.p) (hn : 0 < n) :
    (a ≠ 0 → ∃ x, fpInv c (a ^ n % c.p) = some x ∧ x < c.p ∧ x * a ^ n % c.p = 1) ∧
    (a = 0 → fpInv c (a ^ n % c.p) = none) := by
  have hp := h.prime.pos
  have hr : a ^ n % c.p < c.p := Nat.mod_lt _ hp
  constructor
  · intro ha0
    have hr0 : a ^ n % c.p ≠ 0 := by
      intro h0
      have := h.prime.dvd_of_dvd_pow (Nat.dvd_of_mod_eq_zero h0)
      have := Nat.le_of_dvd (Nat.pos_of_ne_zero ha0) this
      omega
    obtain ⟨x, hx, hxlt, hx1⟩ := (fpInv_spec c h _ hr).2 hr0
    refine ⟨x, hx, hxlt, ?_⟩
    rw [Nat.mul_mod, Nat.mod_mod, ← Nat.mul_mod] at hx1
    rw [Nat.mul_comm]; exact hx1
  · intro ha0
    subst ha0
    rw [Nat.zero_pow hn, Nat.zero_mod]
    exact (fpInv_spec c h 0 hp).1 rfl

/-- g is a cofactor of a in u modulo p: g·a ≡ u (mod p).  The binary and the Euclidean inversion keep it for both of their rows
    (remainder, cofactor), start from the rows (a, 1) and (p, 0), and read the inverse off a row whose remainder is 1. -/
def Cof (p a u : Nat) (g : Int) : Prop := g * a ≡ u [ZMOD p]

theorem Cof.init (p a : Nat) : Cof p a a 1 ∧ Cof p a p 0 :=
  ⟨by rw [Cof, one_mul], by rw [Cof, zero_mul]; exact (Int.modEq_zero_iff_dvd.2 dvd_rfl).symm⟩

theorem Cof.add_modulus {p a u : Nat} {g : Int} (h : Cof p a u g) : Cof p a u (g + p) := by
  rw [Cof, add_mul]; exact Int.ModEq.trans (Int.add_mul_emod_self_left _ _ _) h

theorem Cof.exit {p a : Nat} (hp : 1 < p) {g : Int} (h : Cof p a 1 g) :
    (g % (p : Int)).toNat < p ∧ a * (g % (p : Int)).toNat % p = 1 := by
  have hp0 : (0 : Int) < p := by exact_mod_cast (by omega : 0 < p)
  have hx : ((g % (p : Int)).toNat : Int) = g % p := Int.toNat_of_nonneg (Int.emod_nonneg _ (ne_of_gt hp0))
  constructor
  · have : ((g % (p : Int)).toNat : Int) < p := by rw [hx]; exact Int.emod_lt_of_pos g hp0
    exact_mod_cast this
  · have h1 : (a : Int) * (g % p) ≡ ((1 : Nat) : Int) [ZMOD p] := ((Int.mod_modEq g p).mul_left a).trans (mul_comm g (a : Int) ▸ h)
    have : ((a * (g % (p : Int)).toNat % p : Nat) : Int) = 1 := by
      push_cast
      rw [hx, h1, Nat.cast_one]
      exact Int.emod_eq_of_lt zero_le_one (by exact_mod_cast hp)
    exact_mod_cast this

theorem invContract_of_cofactor (c : Ctx) (h : c.WF) (inv : Nat → Option Nat) (h0 : inv 0 = none)
    (hg : ∀ a, 0 < a → a < c.p → Nat.Coprime a c.p →
      ∃ g : Int, inv a = some (g % (c.p : Int)).toNat ∧ Cof c.p a 1 g) : InvContract c inv := by
  intro a ha
  refine ⟨fun e => e ▸ h0, fun hne => ?_⟩
  obtain ⟨g, e, hd⟩ := hg a (Nat.pos_of_ne_zero hne) ha (Nat.coprime_of_lt_prime hne ha h.prime).symm
  obtain ⟨h1, h2⟩ := hd.exit h.prime.one_lt
  exact ⟨_, e, h1, h2⟩

theorem Cof.mod {p a u v : Nat} {g1 g2 : Int} (h1 : Cof p a u g1) (h2 : Cof p a v g2) :
    Cof p a (v % u) (g2 - ((v / u : Nat) : Int) * g1) := by
  rw [Cof, Int.natCast_mod, Int.emod_def, Int.natCast_div, sub_mul, mul_assoc, mul_comm (u : Int)]
  exact h2.sub (h1.mul_left _)

theorem exgcdLoop_spec (p a : Nat) : ∀ (fuel u v : Nat) (g1 g2 : Int),
    0 < u → u < fuel → Nat.Coprime u v → Cof p a u g1 → Cof p a v g2 →
    ∃ g, exgcdLoop fuel u v g1 g2 = some g ∧ Cof p a 1 g := by
  intro fuel
  induction fuel with
  | zero => intro u v g1 g2 _ h; omega
  | succ f ih =>
    intro u v g1 g2 hu hf hc h1 h2
    unfold exgcdLoop
    by_cases hu1 : u = 1
    · subst hu1; rw [if_pos rfl]; exact ⟨g1, rfl, h1⟩
    · have hu0 : u ≠ 0 := by omega
      rw [if_neg hu1, if_neg hu0]
      have hmod : 0 < v % u := by
        rcases Nat.eq_zero_or_pos (v % u) with h0 | h0
        · exact absurd (Nat.Coprime.eq_one_of_dvd hc (Nat.dvd_of_mod_eq_zero h0)) hu1
        · exact h0
      have hlt : v % u < u := Nat.mod_lt _ hu
      have hc' : Nat.Coprime (v % u) u := by
        show Nat.gcd (v % u) u = 1
        rw [← Nat.gcd_rec]; exact hc
      exact ih (v % u) u _ g1 hmod (by omega) hc' (h1.mod h2) h1

theorem invFermat_spec (c : Ctx) (h : c.WF) : InvContract c (invBasic c) := by
  intro a ha
  unfold invBasic
  have hp := h.prime
  have hp3 := h.three_le
  refine ⟨fun h0 => by simp [h0], fun h0 => ?_⟩
  refine ⟨a ^ (c.p - 2) % c.p, ?_, Nat.mod_lt _ hp.pos, ?_⟩
  · simp only [if_neg h0]; exact fpExpNat_of_le c h a _ ha (Nat.sub_le _ _)
  · rw [Nat.mul_mod_mod]
    have h1 := Nat.ModEq.pow_card_sub_one_eq_one hp (Nat.coprime_of_lt_prime h0 ha hp).symm
    unfold Nat.ModEq at h1
    rw [Nat.mod_eq_of_lt (by omega : 1 < c.p)] at h1
    have e : a * a ^ (c.p - 2) = a ^ (c.p - 1) := by
      rw [← pow_succ']; congr 1; omega
    rw [e]; exact h1

theorem dvd_of_dvd_two_mul (p : Nat) (hodd : p % 2 = 1) (X : Int) (h : (p : Int) ∣ 2 * X) : (p : Int) ∣ X := by
  obtain ⟨k, hk⟩ : ∃ k : Int, (p : Int) = 2 * k + 1 := ⟨((p / 2 : Nat) : Int), by omega⟩
  have e : X = p * X - k * (2 * X) := by rw [hk]; ring
  rw [e]; exact dvd_sub (dvd_mul_right _ _) (Dvd.dvd.mul_left h _)

theorem Cof.halve {p a u : Nat} (hodd : p % 2 = 1) {g : Int} (hu : u % 2 = 0) (h : Cof p a u g) :
    Cof p a (u / 2) (if g % 2 ≠ 0 then (g + p) / 2 else g / 2) := by
  rw [Cof, Int.modEq_comm, Int.modEq_iff_dvd] at h ⊢
  apply dvd_of_dvd_two_mul p hodd
  have hu2 : (u : Int) = 2 * ((u / 2 : Nat) : Int) := by omega
  split
  · rename_i hg
    have hG : g + (p : Int) = 2 * ((g + p) / 2) := by omega
    have e : 2 * ((g + (p : Int)) / 2 * a - ((u / 2 : Nat) : Int)) = (g * a - u) + p * a := by
      linear_combination (-(a : Int)) * hG + hu2
    rw [e]; exact dvd_add h (dvd_mul_right _ _)
  · rename_i hg
    have hG : g = 2 * (g / 2) := by omega
    have e : 2 * (g / 2 * a - ((u / 2 : Nat) : Int)) = g * a - u := by
      linear_combination (-(a : Int)) * hG + hu2
    rw [e]; exact h

theorem halve_spec (p a : Nat) (hodd : p % 2 = 1) : ∀ (fuel u : Nat) (g : Int),
    0 < u → u < fuel → Cof p a u g →
    ∃ u' g', halve p fuel u g = some (u', g') ∧ u' % 2 = 1 ∧ u' ∣ u ∧ Cof p a u' g' := by
  intro fuel
  induction fuel with
  | zero => intro u g _ h; omega
  | succ f ih =>
    intro u g hu hf hd
    rw [halve, if_neg (by omega)]
    by_cases hev : u % 2 = 0
    · rw [if_pos hev]
      obtain ⟨u', g', h1, h2, h3, h4⟩ := ih (u / 2) _ (by omega) (by omega) (hd.halve hodd hev)
      exact ⟨u', g', h1, h2, Dvd.dvd.trans h3 (Nat.div_dvd_of_dvd (Nat.dvd_of_mod_eq_zero hev)), h4⟩
    · rw [if_neg hev]
      exact ⟨u, g, rfl, by omega, dvd_refl _, hd⟩

/-- the fuel of the loop counts u + v -/
theorem binLoop_fuel_sub {u v u' v' f : Nat} (hu : u' ≤ u) (hv : v' ≤ v) (ho : v' % 2 = 1) (hlt : v' < u') (hf : u + v < f + 1) :
    0 < u' - v' ∧ 0 < v' ∧ u' - v' + v' < f := by omega

theorem Cof.sub {p a u v : Nat} {g1 g2 : Int} (hle : v ≤ u) (h1 : Cof p a u g1) (h2 : Cof p a v g2) :
    Cof p a (u - v) (g1 - g2) := by
  rw [Cof, Nat.cast_sub hle, sub_mul]; exact Int.ModEq.sub h1 h2

theorem binLoop_spec (p a : Nat) (hodd : p % 2 = 1) : ∀ (fuel u v : Nat) (g1 g2 : Int),
    0 < u → 0 < v → u + v < fuel → Nat.Coprime u v → Cof p a u g1 → Cof p a v g2 →
    ∃ b g, binLoop p fuel u v g1 g2 = some (b, g) ∧ Cof p a 1 g := by
  intro fuel
  induction fuel with
  | zero => intro u v g1 g2 _ _ h; omega
  | succ f ih =>
    intro u v g1 g2 hu hv hf hc h1 h2
    obtain ⟨u', g1', hh1, hu'odd, hu'dvd, hu'c⟩ := halve_spec p a hodd (u + 1) u g1 hu (Nat.lt_succ_self u) h1
    have hu'le := Nat.le_of_dvd hu hu'dvd
    rw [binLoop]
    simp only [hh1]
    by_cases hu1 : u' = 1
    · rw [if_pos hu1]; subst hu1
      exact ⟨true, g1', rfl, hu'c⟩
    · rw [if_neg hu1]
      obtain ⟨v', g2', hh2, hv'odd, hv'dvd, hv'c⟩ := halve_spec p a hodd (v + 1) v g2 hv (Nat.lt_succ_self v) h2
      have hv'le := Nat.le_of_dvd hv hv'dvd
      simp only [hh2]
      by_cases hv1 : v' = 1
      · rw [if_pos hv1]; subst hv1
        exact ⟨false, g2', rfl, hv'c⟩
      · rw [if_neg hv1]
        have hc' : Nat.Coprime u' v' := (hc.coprime_dvd_left hu'dvd).coprime_dvd_right hv'dvd
        have hne : u' ≠ v' := by
          intro he; rw [he] at hc'; exact hv1 ((Nat.coprime_self v').1 hc')
        by_cases hgt : u' > v'
        · rw [if_pos hgt]
          obtain ⟨m1, m0, m2⟩ := binLoop_fuel_sub hu'le hv'le hv'odd hgt hf
          exact ih (u' - v') v' _ _ m1 m0 m2 ((Nat.coprime_sub_self_left (le_of_lt hgt)).2 hc')
            (hu'c.sub (le_of_lt hgt) hv'c) hv'c
        · rw [if_neg hgt]
          have hlt : u' < v' := lt_of_le_of_ne (Nat.le_of_not_gt hgt) hne
          obtain ⟨m1, m0, m2⟩ := binLoop_fuel_sub hv'le hu'le hu'odd hlt (Nat.add_comm u v ▸ hf)
          exact ih u' (v' - u') _ _ m0 m1 (Nat.add_comm _ _ ▸ m2) ((Nat.coprime_sub_self_right (le_of_lt hlt)).2 hc') hu'c
            (hv'c.sub (le_of_lt hlt) hu'c)

theorem invBinar_cof (c : Ctx) (hodd : c.p % 2 = 1) (hp : 0 < c.p) (a : Nat) (h0 : 0 < a) (hcop : Nat.Coprime a c.p) :
    ∃ g : Int, invBinar c a = some (g % (c.p : Int)).toNat ∧ Cof c.p a 1 g := by
  obtain ⟨_, g, hg, hd⟩ := binLoop_spec c.p a hodd (a + c.p + 1) a c.p 1 0 h0 hp (by omega) hcop (Cof.init c.p a).1 (Cof.init c.p a).2
  exact ⟨g, by simp only [invBinar, if_neg h0.ne', hg], hd⟩

theorem invExgcd_cof (c : Ctx) (a : Nat) (h0 : 0 < a) (hcop : Nat.Coprime a c.p) :
    ∃ g : Int, invExgcd c a = some (g % (c.p : Int)).toNat ∧ Cof c.p a 1 g := by
  obtain ⟨g, hg, hd⟩ := exgcdLoop_spec c.p a (a + 1) a c.p 1 0 h0 (by omega) hcop (Cof.init c.p a).1 (Cof.init c.p a).2
  refine ⟨if g < 0 then g + c.p else g, by simp only [invExgcd, if_neg h0.ne', hg], ?_⟩
  split
  · exact hd.add_modulus
  · exact hd

theorem simProds_eq (p : Nat) : simProds p = Relic.Lemmas.SimInv.prods (fmul p) := by
  funext acc as
  induction as generalizing acc with
  | nil => rfl
  | cons a as ih => rw [simProds, Relic.Lemmas.SimInv.prods, ih]

theorem simBack_eq (p : Nat) : simBack p = Relic.Lemmas.SimInv.back (fmul p) := by
  funext cs as u acc
  induction cs generalizing as u acc with
  | nil => simp [simBack, Relic.Lemmas.SimInv.back]
  | cons c cs ih =>
    cases as with
    | nil => simp [simBack, Relic.Lemmas.SimInv.back]
    | cons a as => rw [simBack, Relic.Lemmas.SimInv.back, ih]

def ExpContract (c : Ctx) (a : Nat) (e : Int) (r : Option Nat) : Prop :=
  (0 ≤ e → r = some (a ^ e.toNat % c.p)) ∧
  (e < 0 → a ≠ 0 → ∃ x, r = some x ∧ x < c.p ∧ x * a ^ e.natAbs % c.p = 1) ∧
  (e < 0 → a = 0 → r = none)

/-- the frame shared by fp_exp_basic / monty / slide -/
theorem expContract_signed (c : Ctx) (h : c.WF) (a : Nat) (ha : a < c.p) (e : Int) (r : Option Nat)
    (hr : e ≠ 0 → r = some (a ^ e.natAbs % c.p)) :
    ExpContract c a e (if e = 0 then some (1 % c.p) else withSign c (decide (e < 0)) r) := by
  by_cases he : e = 0
  · subst he; simp [ExpContract]
  rw [if_neg he, hr he]
  rcases lt_or_gt_of_ne he with hneg | hpos
  · have hn : 0 < e.natAbs := Int.natAbs_pos.2 he
    obtain ⟨h1, h2⟩ := fpInv_pow c h a e.natAbs ha hn
    simp only [withSign, hneg, decide_true, if_true]
    exact ⟨fun h0 => absurd h0 (by omega), fun _ ha0 => h1 ha0, fun _ ha0 => h2 ha0⟩
  · have hn : ¬ e < 0 := by omega
    have ht : e.toNat = e.natAbs := by omega
    simp only [withSign, hn, decide_false]
    refine ⟨fun _ => by simp [ht], fun h0 => absurd h0 hn, fun h0 => absurd h0 hn⟩

end Relic.Model.FpAlg
