/-
FIPS 197 §5.3.5: the Equivalent Inverse Cipher (InvMixColumns applied to the middle round keys, rounds
InvSubBytes / InvShiftRows / InvMixColumns / AddRoundKey) equals the straightforward InvCipher of Spec/Aes.lean,
for an arbitrary list of 16-byte round keys; MixColumns / InvMixColumns are GF(2)-linear.
-/
import RelicVerif.Lemmas.Aes
import RelicVerif.Spec.AesEqInv
namespace Relic.Lemmas.AesEqInv
open Relic.Spec.Aes Relic.Lemmas.Aes

theorem mixCols_addRoundKey (m0 m1 m2 m3 : UInt8) (s k : Bytes) (hs : s.length = 16) (hk : k.length = 16) :
    (List.range 4).flatMap (fun c => mixColumn [m0, m1, m2, m3] (((addRoundKey s k).drop (4 * c)).take 4)) =
      addRoundKey
        ((List.range 4).flatMap (fun c => mixColumn [m0, m1, m2, m3] ((s.drop (4 * c)).take 4)))
        ((List.range 4).flatMap (fun c => mixColumn [m0, m1, m2, m3] ((k.drop (4 * c)).take 4))) := by
  obtain ⟨a0, a1, a2, a3, a4, a5, a6, a7, a8, a9, a10, a11, a12, a13, a14, a15, rfl⟩ := exists_sixteen s hs
  obtain ⟨b0, b1, b2, b3, b4, b5, b6, b7, b8, b9, b10, b11, b12, b13, b14, b15, rfl⟩ := exists_sixteen k hk
  simp only [addRoundKey, List.zipWith_cons_cons, List.zipWith_nil_left]
  rw [mixColumns_sixteen, mixColumns_sixteen, mixColumns_sixteen]
  simp only [mixColumn_four, List.cons_append, List.nil_append, List.zipWith_cons_cons,
    List.zipWith_nil_left, row_xor]

theorem invMixColumns_addRoundKey (s k : Bytes) (hs : s.length = 16) (hk : k.length = 16) :
    invMixColumns (addRoundKey s k) = addRoundKey (invMixColumns s) (invMixColumns k) :=
  mixCols_addRoundKey 0x0e 0x0b 0x0d 0x09 s k hs hk

theorem mixColumns_addRoundKey (s k : Bytes) (hs : s.length = 16) (hk : k.length = 16) :
    mixColumns (addRoundKey s k) = addRoundKey (mixColumns s) (mixColumns k) :=
  mixCols_addRoundKey 2 3 1 1 s k hs hk

theorem mixColumn_invMixColumn (a b c d : UInt8) :
    mixColumn [2, 3, 1, 1] (mixColumn [0x0e, 0x0b, 0x0d, 0x09] [a, b, c, d]) = [a, b, c, d] := by
  obtain ⟨-, h0, h1, h2, h3⟩ := circ_inv
  rw [mixColumn_mul, h0, h1, h2, h3, mixColumn_unit]

theorem mixColumns_invMixColumns (s : Bytes) (h : s.length = 16) : mixColumns (invMixColumns s) = s :=
  mixCols_mixCols _ _ _ _ _ _ _ _ mixColumn_invMixColumn s h

theorem invShiftRows_invSubBytes (s : Bytes) (h : s.length = 16) :
    invShiftRows (invSubBytes s) = invSubBytes (invShiftRows s) :=
  invShiftRows_map invSbox s h

theorem shiftRows_subBytes (s : Bytes) (h : s.length = 16) :
    shiftRows (subBytes s) = subBytes (shiftRows s) :=
  shiftRows_map sbox s h

theorem eqInvKeys_length (rk : List Bytes) (hne : rk ≠ []) : (eqInvKeys rk).length = rk.length := by
  have hpos : 0 < rk.length := List.length_pos_iff.mpr hne
  simp only [eqInvKeys, List.length_map, List.length_range]
  omega

theorem eqInvKeys_ne_nil (rk : List Bytes) : eqInvKeys rk ≠ [] := by
  intro h
  have := congrArg List.length h
  simp [eqInvKeys] at this

theorem eqInvKeys_getD (rk : List Bytes) (i : Nat) (hi : i < rk.length) :
    (eqInvKeys rk).getD i [] =
      if i = 0 ∨ i = rk.length - 1 then rk.getD i [] else invMixColumns (rk.getD i []) := by
  have hi' : i < rk.length - 1 + 1 := by omega
  simp only [eqInvKeys, List.getD_eq_getElem?_getD, List.getElem?_map, List.getElem?_range hi',
    Option.map_some, Option.getD_some]

theorem eqInvKeys_length16 (rk : List Bytes) (hne : rk ≠ []) (hk : ∀ k ∈ rk, k.length = 16) :
    ∀ k ∈ eqInvKeys rk, k.length = 16 := by
  have hpos : 0 < rk.length := List.length_pos_iff.mpr hne
  intro k hmem
  simp only [eqInvKeys, List.mem_map, List.mem_range] at hmem
  obtain ⟨r, hr, rfl⟩ := hmem
  split
  · exact getD_length16 rk hk r (by omega)
  · exact invMixColumns_length _

/-! ## EqInvCipher = InvCipher -/

/-- the two decryption loops run in step: equal states, of 16 bytes -/
theorem eq_fold (rk : List Bytes) (hk : ∀ k ∈ rk, k.length = 16) (l : List Nat)
    (hl : ∀ r ∈ l, r < rk.length - 1 - 1) (s : Bytes) (hs : s.length = 16) :
    l.foldl (fun s r => addRoundKey (invMixColumns (invShiftRows (invSubBytes s)))
        ((eqInvKeys rk).getD (rk.length - 1 - 1 - r) [])) s =
    l.foldl (fun s r => invMixColumns (addRoundKey (invSubBytes (invShiftRows s))
        (rk.getD (rk.length - 1 - 1 - r) []))) s ∧
    (l.foldl (fun s r => invMixColumns (addRoundKey (invSubBytes (invShiftRows s))
        (rk.getD (rk.length - 1 - 1 - r) []))) s).length = 16 :=
  List.foldl_rel (r := fun (a b : Bytes) => a = b ∧ b.length = 16) ⟨rfl, hs⟩ fun r hr a b ⟨e, hb⟩ => by
    have hr := hl r hr
    subst e
    rw [eqInvKeys_getD rk _ (by omega), if_neg (by omega), invShiftRows_invSubBytes a hb,
      ← invMixColumns_addRoundKey _ _ (by rw [invSubBytes_length, invShiftRows_length])
        (getD_length16 rk hk _ (by omega))]
    exact ⟨rfl, invMixColumns_length _⟩

theorem eqInvCipher_eq (rk : List Bytes) (hne : rk ≠ []) (hk : ∀ k ∈ rk, k.length = 16)
    (b : Bytes) (hb : b.length = 16) : eqInvCipher (eqInvKeys rk) b = invCipher rk b := by
  have hpos : 0 < rk.length := List.length_pos_iff.mpr hne
  obtain ⟨hf, hlen⟩ := eq_fold rk hk (List.range (rk.length - 1 - 1)) (fun r hr => List.mem_range.mp hr) _
    (addRoundKey_length16 _ _ hb (getD_length16 rk hk (rk.length - 1) (by omega)))
  simp only [eqInvCipher, invCipher]
  rw [eqInvKeys_length rk hne, eqInvKeys_getD rk (rk.length - 1) (by omega), if_pos (Or.inr rfl),
    eqInvKeys_getD rk 0 hpos, if_pos (Or.inl rfl), hf, invShiftRows_invSubBytes _ hlen]

theorem eqInvCipher_keyExpansion (key b : Bytes)
    (hk : key.length = 16 ∨ key.length = 24 ∨ key.length = 32) (hb : b.length = 16) :
    eqInvCipher (eqInvKeys (keyExpansion key)) b = invCipher (keyExpansion key) b :=
  eqInvCipher_eq _ (keyExpansion_length key hk).1 (keyExpansion_length key hk).2 b hb

theorem eqInvCipher_cipher (key b : Bytes)
    (hk : key.length = 16 ∨ key.length = 24 ∨ key.length = 32) (hb : b.length = 16) :
    eqInvCipher (eqInvKeys (keyExpansion key)) (cipher (keyExpansion key) b) = b := by
  rw [eqInvCipher_keyExpansion key _ hk (cipher_length key b hk), invCipher_cipher key b hk hb]

theorem eqInvCipher_length (dk : List Bytes) (hne : dk ≠ []) (hk : ∀ k ∈ dk, k.length = 16) (b : Bytes) :
    (eqInvCipher dk b).length = 16 := by
  have hpos : 0 < dk.length := List.length_pos_iff.mpr hne
  simp only [eqInvCipher]
  exact addRoundKey_length16 _ _ (invShiftRows_length _) (getD_length16 dk hk _ hpos)

end Relic.Lemmas.AesEqInv
