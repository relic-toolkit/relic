/-
The model of src/md/blake2s-ref.c (Model/Blake2s.lean: init / init_key / update with
the buffer-fill logic / counter with carry / final) equals the RFC 7693 function of Spec/Blake2s.lean for
every chunking, keyed and unkeyed.
-/
import RelicVerif.Model.Blake2s
import RelicVerif.Lemmas.Loops

namespace Relic.Lemmas.Blake2s
open Relic.Spec.Blake2s (F loop IV outBytes initH blake2sK)
open Relic.Model.Blake2s (State incrementCounter compress updLoop update initParam init initKey finalState final run)

def tOf (S : State) : Nat := S.t0.toNat + 2 ^ 32 * S.t1.toNat

theorem loop_last (h : Array UInt32) (t fuel : Nat) (rest : List UInt8) (hr : rest.length ≤ 64) :
    loop h t (fuel + 1) rest = F h (rest ++ List.replicate (64 - rest.length) 0) (t + rest.length) true := by
  rw [loop, if_neg (by omega)]

theorem tOf_increment (S : State) (inc : UInt32) (h : tOf S + inc.toNat < 2 ^ 64) :
    tOf (incrementCounter S inc) = tOf S + inc.toNat := by
  have h0 := S.t0.toNat_lt
  have h1 := S.t1.toNat_lt
  have hi := inc.toNat_lt
  unfold tOf at *
  simp only [incrementCounter, UInt32.lt_iff_toNat_lt, UInt32.toNat_add]
  split <;> simp only [UInt32.toNat_one, UInt32.toNat_zero] <;> omega

/-- the state has consumed exactly the whole blocks `pre`: on `pre` followed by more data the RFC loop arrives, after the
    steps over `pre`, at the chaining value and the counter of the state -/
structure Mid (h0 : Array UInt32) (S : State) (pre : List UInt8) : Prop where
  f0 : S.f0 = 0
  reach : ∃ k, pre.length = 64 * k ∧ tOf S = 64 * k ∧
    ∀ fuel rest, 0 < rest.length → loop h0 0 (fuel + k) (pre ++ rest) = loop S.h (64 * k) fuel rest

theorem mid_step (h0 : Array UInt32) (S : State) (pre blk : List UInt8) (hm : Mid h0 S pre)
    (hb : blk.length = 64) (hlen : pre.length + 64 < 2 ^ 64) :
    Mid h0 (compress (incrementCounter S 64) blk) (pre ++ blk) := by
  obtain ⟨hf, k, hp, ht, hl⟩ := hm
  have hinc : tOf (incrementCounter S 64) = 64 * k + 64 := by
    rw [tOf_increment S 64 (by rw [ht]; exact (by omega : 64 * k + 64 < 2 ^ 64)), ht]; rfl
  refine ⟨hf, k + 1, by rw [List.length_append, hp, hb]; omega, hinc.trans (by omega), fun fuel rest hr => ?_⟩
  have e : (compress (incrementCounter S 64) blk).h = F S.h blk (64 * k + 64) false := by
    show F S.h blk (tOf (incrementCounter S 64)) (S.f0 != 0) = _
    rw [hinc, hf]; rfl
  rw [List.append_assoc, ← Nat.add_assoc, Nat.add_right_comm, hl _ _ (by simp; omega), loop,
    if_pos (by simp; omega), ← hb, List.take_left, List.drop_left, e, hb, Nat.mul_succ]

theorem updLoop_spec (h0 : Array UInt32) (fuel : Nat) (S : State) (pre rest : List UInt8) (hm : Mid h0 S pre)
    (hr : 0 < rest.length) (hf : rest.length ≤ fuel) (hlen : pre.length + rest.length < 2 ^ 64) :
    ∃ pre2, Mid h0 (updLoop fuel S rest).1 pre2 ∧ pre ++ rest = pre2 ++ (updLoop fuel S rest).2 ∧
      0 < (updLoop fuel S rest).2.length ∧ (updLoop fuel S rest).2.length ≤ 64 ∧
      (updLoop fuel S rest).1.outlen = S.outlen := by
  induction fuel generalizing S pre rest with
  | zero => omega
  | succ fuel ih =>
    rw [updLoop]
    split
    · rename_i hgt
      have hstep := mid_step h0 S pre (rest.take 64) hm (by simp; omega) (by omega)
      obtain ⟨pre2, h1, h2, h3, h4, h6⟩ := ih (compress (incrementCounter S 64) (rest.take 64))
        (pre ++ rest.take 64) (rest.drop 64) hstep (by simp; omega) (by simp; omega)
        (by simp; omega)
      refine ⟨pre2, h1, ?_, h3, h4, h6⟩
      rw [← h2, List.append_assoc, List.take_append_drop]
    · rename_i hle
      exact ⟨pre, hm, rfl, hr, by simpa using hle, rfl⟩

structure Inv (h0 : Array UInt32) (nn : Nat) (S : State) (m : List UInt8) : Prop where
  outlen : S.outlen = nn
  buf : S.buf.length ≤ 64
  /-- blake2s_update compresses the buffer only when more data arrives, so the buffer is empty only before any data; `final_eq`
      needs this case apart because `Mid.reach` speaks of a non-empty rest -/
  fresh : S.buf = [] → m = [] ∧ S.h = h0
  split : ∃ pre, Mid h0 S pre ∧ m = pre ++ S.buf

theorem inv_update (h0 : Array UInt32) (nn : Nat) (S : State) (m inp : List UInt8) (hi : Inv h0 nn S m)
    (hlen : m.length + inp.length < 2 ^ 64) : Inv h0 nn (update S inp) (m ++ inp) := by
  obtain ⟨ho, hb, hne, pre, hm, hsplit⟩ := hi
  unfold update
  split
  · rename_i hpos
    simp only
    split
    · rename_i hgt
      -- the buffer is completed and compressed, then whole blocks directly from the input
      have hblk : (S.buf ++ inp.take (64 - S.buf.length)).length = 64 := by simp; omega
      have hplen : pre.length + S.buf.length = m.length := by rw [hsplit]; simp
      have hstep := mid_step h0 { S with buf := [] } pre _ ⟨hm.f0, hm.reach⟩ hblk (by omega)
      obtain ⟨pre2, h1, h2, h3, h4, h6⟩ := updLoop_spec h0 inp.length _ _ (inp.drop (64 - S.buf.length)) hstep
        (by simp; omega) (by simp) (by simp; omega)
      generalize hres : updLoop inp.length (compress (incrementCounter { S with buf := [] } 64)
        (S.buf ++ inp.take (64 - S.buf.length))) (inp.drop (64 - S.buf.length)) = res at *
      obtain ⟨S2, rest2⟩ := res
      simp only at h1 h2 h3 h4 h6 ⊢
      refine ⟨by rw [h6]; exact ho, h4, ?_, pre2, ⟨h1.f0, h1.reach⟩, ?_⟩
      · intro he; simp only at he; rw [he] at h3; simp at h3
      · simp only
        rw [← h2, hsplit]
        simp only [List.append_assoc, List.take_append_drop]
    · rename_i hle
      refine ⟨ho, by simp; omega, ?_, pre, ⟨hm.f0, hm.reach⟩, by simp [hsplit]⟩
      intro he
      simp only [List.append_eq_nil_iff] at he
      rw [he.2] at hpos; simp at hpos
  · rename_i hz
    have : inp = [] := List.eq_nil_of_length_eq_zero (by omega)
    subst this
    simpa using (⟨ho, hb, hne, pre, hm, hsplit⟩ : Inv h0 nn S m)

theorem final_eq (h0 : Array UInt32) (nn : Nat) (S : State) (m : List UInt8) (hi : Inv h0 nn S m)
    (hlen : m.length < 2 ^ 64) :
    final S nn = some (outBytes (loop h0 0 (m.length / 64 + 2) m) nn) := by
  obtain ⟨ho, hb, hne, pre, ⟨hf, k, hp, ht, hl⟩, hsplit⟩ := hi
  have hmlen : m.length = 64 * k + S.buf.length := by rw [hsplit]; simp [hp]
  unfold final
  rw [if_neg (by omega), hf]
  simp only [bne_self_eq_false, Bool.false_eq_true, if_false]
  congr 2
  have hbl : (UInt32.ofNat S.buf.length).toNat = S.buf.length := by
    rw [UInt32.toNat_ofNat']; omega
  have hinc := tOf_increment S (UInt32.ofNat S.buf.length) (by rw [hbl, ht]; omega)
  rw [hbl, ht] at hinc
  show F S.h (S.buf ++ List.replicate (64 - S.buf.length) 0)
    (tOf (incrementCounter S (UInt32.ofNat S.buf.length))) true = _
  rw [hinc, ← loop_last _ _ (m.length / 64 + 1 - k) _ hb]
  by_cases hempty : S.buf = []
  · obtain ⟨hm, hh⟩ := hne hempty
    have hk : k = 0 := by rw [hm, hempty] at hmlen; simp at hmlen; omega
    rw [hm, hh, hempty, hk]
    congr 1
  · rw [hsplit, ← hl _ _ (List.length_pos_iff.mpr hempty), ← hsplit]
    congr 1
    omega

theorem inv_init (nn kk : Nat) : Inv (initParam nn kk).h nn (initParam nn kk) [] :=
  ⟨rfl, by simp [initParam], fun _ => ⟨rfl, rfl⟩, [], ⟨rfl, 0, rfl, rfl, fun _ _ _ => by simp⟩, rfl⟩

/-- the first word of the parameter block as the library builds it (digest_length | key_length << 8 |
    fanout << 16 | depth << 24) is the RFC's 0x0101kknn -/
theorem param_word : ∀ nn, nn < 33 → ∀ kk, kk < 33 →
    (IV.getD 0 0 ^^^ (UInt32.ofNat nn ||| (UInt32.ofNat kk <<< 8) ||| 0x00010000 ||| 0x01000000))
      = (IV.getD 0 0 ^^^ (0x01010000 : UInt32) ^^^ (UInt32.ofNat kk <<< (8 : UInt32)) ^^^ UInt32.ofNat nn) := by
  decide +kernel

theorem initParam_h (nn kk : Nat) (hn : nn ≤ 32) (hk : kk ≤ 32) : (initParam nn kk).h = initH kk nn := by
  unfold initParam initH
  simp only
  rw [param_word nn (by omega) kk (by omega)]

theorem run_eq (nn : Nat) (key : List UInt8) (chunks : List (List UInt8)) (hn1 : 1 ≤ nn) (hn : nn ≤ 32)
    (hk : key.length ≤ 32) (hlen : 64 + chunks.flatten.length < 2 ^ 64) :
    run nn key chunks = some (blake2sK nn key chunks.flatten) := by
  -- from a state that has absorbed `d`: the chunks, then final
  have hfin : ∀ S d, Inv (initH key.length nn) nn S d → d.length ≤ 64 → final (chunks.foldl update S) nn =
      some (outBytes (loop (initH key.length nn) 0 ((d ++ chunks.flatten).length / 64 + 2) (d ++ chunks.flatten)) nn) :=
    fun S d hi hd => final_eq _ nn _ _ (Loops.foldl_chunks_inv update (Inv _ nn) _
      (fun S m c hi hle => inv_update _ nn S m c hi (by omega)) chunks S d hi (Nat.le_refl _)) (by rw [List.length_append]; omega)
  have hinit := inv_init nn key.length
  rw [initParam_h nn key.length hn hk] at hinit
  unfold run blake2sK
  by_cases hkey : key.length > 0
  · rw [if_pos hkey, initKey, if_neg (by omega), if_neg (by omega)]
    have h1 := inv_update _ nn _ [] (key ++ List.replicate (64 - key.length) 0) hinit (by simp; omega)
    simpa [hkey] using hfin _ _ h1 (by simp; omega)
  · have hk0 : key.length = 0 := by omega
    rw [if_neg hkey, init, if_neg (by omega)]
    rw [hk0] at hinit hfin
    simpa [hk0] using hfin _ _ hinit (by simp)

theorem oneshot_eq (nn : Nat) (key msg : List UInt8) (hn1 : 1 ≤ nn) (hn : nn ≤ 32) (hk : key.length ≤ 32)
    (hlen : 64 + msg.length < 2 ^ 64) :
    Relic.Model.Blake2s.blake2s nn msg key = some (blake2sK nn key msg) := by
  have := run_eq nn key [msg] hn1 hn hk (by simpa using hlen)
  unfold Relic.Model.Blake2s.blake2s
  rw [if_neg (by omega), if_neg (by omega)]
  simpa [run] using this

theorem unkeyed_eq (nn : Nat) (msg : List UInt8) : Relic.Spec.Blake2s.blake2s nn msg = blake2sK nn [] msg := by
  unfold Relic.Spec.Blake2s.blake2s blake2sK outBytes initH
  simp

end Relic.Lemmas.Blake2s
