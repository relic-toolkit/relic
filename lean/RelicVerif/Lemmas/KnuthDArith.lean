/-
The arithmetic of Knuth's algorithm D on plain naturals: the quotient-digit estimate (3-by-2 test), the
multiply-subtract / add-back step, carry chains, and undoing the normalising shift.
`A` is the current dividend, `W = B^k * V` the shifted divisor, `A3`/`V2` their leading three / two
digits, read off at a common scale `S / c` (`c` is `B` in the degenerate case of a one-digit divisor
and a two-digit dividend, else `1`).
-/
namespace Relic.Model

/-- `x = ⌊c * X / S⌋`: the leading part of `X` at scale `S / c` -/
def Lead (S c X x : Nat) : Prop := x * S ≤ c * X ∧ c * X < (x + 1) * S

theorem Lead.exact (c X : Nat) : Lead 1 c X (c * X) :=
  ⟨Nat.le_of_eq (Nat.mul_one _), by omega⟩

theorem Lead.of_add {S lo : Nat} (x : Nat) (h : lo < S) : Lead S 1 (lo + S * x) x := by
  constructor
  · rw [Nat.one_mul, Nat.mul_comm]; exact Nat.le_add_left _ _
  · rw [Nat.one_mul, Nat.add_mul, Nat.one_mul, Nat.mul_comm x S]; omega

theorem Lead.scale {S c X x : Nat} (P : Nat) (hP : 0 < P) (h : Lead S c X x) :
    Lead (P * S) c (P * X) x := by
  constructor
  · calc x * (P * S) = P * (x * S) := Nat.mul_left_comm _ _ _
      _ ≤ P * (c * X) := Nat.mul_le_mul_left _ h.1
      _ = c * (P * X) := Nat.mul_left_comm _ _ _
  · calc c * (P * X) = P * (c * X) := Nat.mul_left_comm _ _ _
      _ < P * ((x + 1) * S) := Nat.mul_lt_mul_of_pos_left h.2 hP
      _ = (x + 1) * (P * S) := Nat.mul_left_comm _ _ _

/-- the 3-by-2 test never rejects a value that is at most the true quotient digit -/
theorem qhat_lower {A W A3 V2 S c : Nat} (hA : Lead S c A A3) (hV : Lead S c W V2) {y : Nat}
    (hy : y * W ≤ A) : y * V2 ≤ A3 := by
  have h : y * V2 * S < (A3 + 1) * S :=
    calc y * V2 * S = y * (V2 * S) := Nat.mul_assoc _ _ _
      _ ≤ y * (c * W) := Nat.mul_le_mul_left _ hV.1
      _ = c * (y * W) := Nat.mul_left_comm _ _ _
      _ ≤ c * A := Nat.mul_le_mul_left _ hy
      _ < _ := hA.2
  exact Nat.le_of_lt_succ (Nat.lt_of_mul_lt_mul_right h)

/-- a value accepted by the 3-by-2 test exceeds the true quotient digit by at most one -/
theorem qhat_upper {A W A3 V2 S c : Nat} (hc : 0 < c) (hA : Lead S c A A3) (hV : Lead S c W V2)
    {q : Nat} (hq : q * V2 ≤ A3) (hqV : q ≤ V2 + 1) : (q - 1) * W ≤ A := by
  cases q with
  | zero => simp
  | succ p =>
    rw [Nat.add_sub_cancel]
    have h1 : p * (V2 + 1) ≤ A3 :=
      calc p * (V2 + 1) = p * V2 + p := by rw [Nat.mul_add, Nat.mul_one]
        _ ≤ p * V2 + V2 := by omega
        _ = (p + 1) * V2 := by rw [Nat.add_mul, Nat.one_mul]
        _ ≤ A3 := hq
    have h2 : c * (p * W) ≤ c * A :=
      calc c * (p * W) = p * (c * W) := Nat.mul_left_comm _ _ _
        _ ≤ p * ((V2 + 1) * S) := Nat.mul_le_mul_left _ (Nat.le_of_lt hV.2)
        _ = p * (V2 + 1) * S := (Nat.mul_assoc _ _ _).symm
        _ ≤ A3 * S := Nat.mul_le_mul_right _ h1
        _ ≤ c * A := hA.1
    exact Nat.le_of_mul_le_mul_left h2 hc

/-- Knuth vol. 2, 4.3.1: the 3-by-2 quotient capped at `B - 1` is the true quotient digit or one more -/
theorem qhat_correct {B A W S c A3 V2 : Nat} (hB : 0 < B) (hc : 0 < c) (hW : 0 < W)
    (hA : Lead S c A A3) (hV : Lead S c W V2) (hBV : B ≤ V2) (hinv : A < B * W) :
    A / W ≤ min (B - 1) (A3 / V2) ∧ min (B - 1) (A3 / V2) ≤ A / W + 1 := by
  have hqB : A / W < B := (Nat.div_lt_iff_lt_mul hW).2 hinv
  have h1 : A / W ≤ A3 / V2 :=
    (Nat.le_div_iff_mul_le (by omega)).2 (qhat_lower hA hV (Nat.div_mul_le_self A W))
  refine ⟨Nat.le_min.2 ⟨by omega, h1⟩, ?_⟩
  have hm : min (B - 1) (A3 / V2) * V2 ≤ A3 :=
    Nat.le_trans (Nat.mul_le_mul_right _ (Nat.min_le_right _ _)) (Nat.div_mul_le_self _ _)
  have hle := Nat.min_le_left (B - 1) (A3 / V2)
  have := (Nat.le_div_iff_mul_le hW).2 (qhat_upper hc hA hV hm (by omega))
  omega

theorem lead_lt {B A W S c A3 V2 : Nat} (hB : 0 < B) (hA : Lead S c A A3) (hV : Lead S c W V2)
    (hinv : A < B * W) : A3 < B * (V2 + 1) := by
  have h : A3 * S < B * (V2 + 1) * S :=
    calc A3 * S ≤ c * A := hA.1
      _ ≤ c * (B * W) := Nat.mul_le_mul_left _ (Nat.le_of_lt hinv)
      _ = B * (c * W) := Nat.mul_left_comm _ _ _
      _ < B * ((V2 + 1) * S) := Nat.mul_lt_mul_of_pos_left hV.2 hB
      _ = B * (V2 + 1) * S := (Nat.mul_assoc _ _ _).symm
  exact Nat.lt_of_mul_lt_mul_right h

/-- the first quotient estimate of bn_divn_low:
    `if (a[i] == b[t]) c = RLC_MASK(RLC_DIG); else RLC_DIV_DIG(c, carry, a[i], a[i - 1], b[t]);` -/
def qEst (B bt ai ai1 : Nat) : Nat := if ai = bt then B - 1 else ((ai * B + ai1) / bt) % B

/-- capping the 3-by-2 quotient at the first estimate is capping it at `B - 1` -/
theorem qEst_min {B ai ai1 ai2 bt bt1 : Nat} (hai1 : ai1 < B) (hai2 : ai2 < B) (hbt : 0 < bt)
    (h : ai2 + B * (ai1 + B * ai) < B * (bt1 + B * bt + 1)) (hbt1 : bt1 < B) :
    qEst B bt ai ai1 < B ∧
    min (qEst B bt ai ai1) ((ai2 + B * (ai1 + B * ai)) / (bt1 + B * bt))
      = min (B - 1) ((ai2 + B * (ai1 + B * ai)) / (bt1 + B * bt)) := by
  have hB : 0 < B := by omega
  unfold qEst
  by_cases he : ai = bt
  · rw [if_pos he]; exact ⟨by omega, rfl⟩
  · rw [if_neg he]
    have hlt : ai < bt := by
      have h1 : B * (B * ai) < B * (B * (bt + 1)) :=
        calc B * (B * ai) ≤ ai2 + B * (ai1 + B * ai) := by rw [Nat.mul_add B ai1]; omega
          _ < B * (bt1 + B * bt + 1) := h
          _ ≤ B * (B * (bt + 1)) := Nat.mul_le_mul_left _ (by rw [Nat.mul_add B bt]; omega)
      have := Nat.lt_of_mul_lt_mul_left (Nat.lt_of_mul_lt_mul_left h1)
      omega
    have hdiv : (ai * B + ai1) / bt < B := by
      rw [Nat.div_lt_iff_lt_mul hbt]
      calc ai * B + ai1 < (ai + 1) * B := by rw [Nat.add_mul, Nat.one_mul]; omega
        _ ≤ bt * B := Nat.mul_le_mul_right _ hlt
        _ = B * bt := Nat.mul_comm _ _
    rw [Nat.mod_eq_of_lt hdiv]
    have hle : (ai2 + B * (ai1 + B * ai)) / (bt1 + B * bt) ≤ (ai * B + ai1) / bt :=
      calc (ai2 + B * (ai1 + B * ai)) / (bt1 + B * bt)
          ≤ (ai2 + B * (ai1 + B * ai)) / (B * bt) :=
            Nat.div_le_div_left (Nat.le_add_left _ _) (Nat.mul_pos hB hbt)
        _ = (ai * B + ai1) / bt := by
            rw [← Nat.div_div_eq_div_mul, Nat.add_mul_div_left _ _ hB, Nat.div_eq_of_lt hai2,
              Nat.zero_add, Nat.mul_comm B ai, Nat.add_comm]
    exact ⟨hdiv, by rw [Nat.min_eq_right hle, Nat.min_eq_right (by omega)]⟩

/-- multiply-subtract without borrow: the estimate was the quotient digit -/
theorem sub_no_borrow {A W R qh : Nat} (hW : 0 < W) (hlo : A / W ≤ qh) (heq : R + qh * W = A) :
    qh = A / W ∧ R = A % W := by
  have h3 : qh = A / W :=
    Nat.le_antisymm ((Nat.le_div_iff_mul_le hW).2 (by omega)) hlo
  subst h3
  have := Nat.div_add_mod' A W
  exact ⟨rfl, by omega⟩

/-- multiply-subtract with borrow (modulo `P`), then add-back dropping the carry `c3` -/
theorem sub_borrow_addback {A W R qh P X c3 : Nat} (hlo : A / W ≤ qh) (hhi : qh ≤ A / W + 1)
    (heq : R + qh * W = A + P) (hR : R < P) (hA : A < P) (hadd : X + c3 * P = R + W) (hX : X < P) :
    qh = A / W + 1 ∧ X = A % W := by
  have hdm := Nat.div_add_mod' A W
  have h3 : qh = A / W + 1 := by
    rcases Nat.lt_or_ge (A / W) qh with h | h
    · omega
    · have := Nat.mul_le_mul_right W h
      omega
  subst h3
  rw [Nat.add_mul, Nat.one_mul] at heq
  refine ⟨rfl, ?_⟩
  rcases c3 with _ | _ | c3
  · omega
  · omega
  · simp only [Nat.add_mul, Nat.one_mul] at hadd
    omega

theorem pow_split3 (B : Nat) {k n l : Nat} (h : k + n ≤ l) :
    B ^ l = B ^ k * (B ^ n * B ^ (l - (n + k))) := by
  rw [← Nat.pow_add, ← Nat.pow_add]
  congr 1
  omega

/-- a two-stage carry (or borrow) chain under a common offset `Pk`: the low stage turns `o1` into `n1`
    consuming `x` and passes `c1` to the high stage, which turns `o2` into `n2` and leaves `c2` -/
theorem ripple {n1 o1 n2 o2 x c1 c2 Pk Pn Ph R A : Nat} (E1 : n1 + x = o1 + c1 * Pn)
    (E2 : n2 + c1 = o2 + c2 * Ph) (T : R + Pk * (o1 + Pn * o2) = A + Pk * (n1 + Pn * n2)) :
    R + Pk * x = A + c2 * (Pk * (Pn * Ph)) := by
  have e2 : Pn * n2 + c1 * Pn = Pn * o2 + c2 * (Pn * Ph) := by
    rw [Nat.mul_comm c1, ← Nat.mul_add, E2, Nat.mul_add, Nat.mul_left_comm]
  have e := congrArg (Pk * ·) (show n1 + Pn * n2 + x = o1 + Pn * o2 + c2 * (Pn * Ph) by omega)
  rw [Nat.mul_left_comm c2]
  simp only [Nat.mul_add] at e T
  omega

/-- undoing the normalisation: the remainder of the scaled operands is the scaled remainder -/
theorem scale_back (N Q Vb Va Rn : Nat) (hN : 0 < N) (heq : Q * (N * Vb) + Rn = N * Va)
    (hlt : Rn < N * Vb) : Q * Vb + Rn / N = Va ∧ Rn / N < Vb := by
  have hdvd : N ∣ Rn :=
    (Nat.dvd_add_right (Nat.mul_left_comm N Q Vb ▸ Nat.dvd_mul_right N (Q * Vb))).1
      (heq ▸ Nat.dvd_mul_right N Va)
  obtain ⟨r', rfl⟩ := hdvd
  rw [Nat.mul_div_cancel_left _ hN]
  refine ⟨Nat.eq_of_mul_eq_mul_left hN ?_, Nat.lt_of_mul_lt_mul_left hlt⟩
  rw [← heq, Nat.mul_add, Nat.mul_left_comm]

end Relic.Model
