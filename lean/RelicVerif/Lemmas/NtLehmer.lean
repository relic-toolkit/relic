/-
Proofs for Model/NtLehmer.lean (bn_gcd_lehme / bn_gcd_ext_lehme): the simulated cofactor matrix is unimodular, so applying it
keeps the gcd; the extended variant keeps x ≡ t4·Y₀, y ≡ d·Y₀ (mod X₀), from which the second cofactor is recovered by an exact
division.  Partial correctness: whenever the model returns (no dis_t overflow, no negative intermediate, fuel not exhausted).
-/
import RelicVerif.Lemmas.NtGcd
import RelicVerif.Model.NtLehmer
import RelicVerif.Lemmas.Ret

namespace Relic.Lemmas.NtLehmer
open Relic.Model.NtGcd Relic.Model.NtLehmer Relic.Lemmas.NtGcd

def det (m : Mat) : Int := m.a * m.d - m.b * m.c

def Unimod (m : Mat) : Prop := det m = 1 ∨ det m = -1

theorem unimod_id : Unimod Mat.id := Or.inl (by simp [det, Mat.id])

theorem simLoop_unimod (W : Nat) : ∀ (f y t q : Nat) (m : Mat), Unimod m → Ret (simLoop W f y t q m) Unimod
  | 0, _, _, _, _, _ => Ret.fail
  | f + 1, y, t, q, m, hm => by
    unfold simLoop
    refine Ret.ite (fun _ => Ret.ok hm) fun _ => Ret.ite (fun _ => simLoop_unimod W f _ _ _ _ ?_) fun _ => Ret.fail
    unfold Unimod det at hm ⊢
    rcases hm with hm | hm
    · right; linear_combination (-1 : Int) * hm
    · left; linear_combination (-1 : Int) * hm

theorem simPass_unimod (W xd yd : Nat) (m : Mat) (hm : Unimod m) : Ret (simPass W xd yd m) Unimod :=
  Ret.ite (fun _ => Ret.ok hm) fun _ => Ret.ite (fun _ => simLoop_unimod W _ _ _ _ m hm) fun _ => Ret.ok hm

theorem gcd_dvd_comb (x y a b : Int) : (Int.gcd x y : Int) ∣ x * a + y * b :=
  Int.dvd_add ((Int.gcd_dvd_left x y).mul_right a) ((Int.gcd_dvd_right x y).mul_right b)

/-- a unimodular combination keeps the gcd: (x, y) is recovered from the new pair by the adjugate times det = ±1 -/
theorem gcd_unimod (m : Mat) (hm : Unimod m) (x y : Int) :
    Int.gcd (x * m.a + y * m.b) (x * m.c + y * m.d) = Int.gcd x y := by
  have hs : det m * det m = 1 := by rcases hm with h | h <;> rw [h] <;> rfl
  unfold det at hs
  apply Nat.dvd_antisymm
  · apply Int.dvd_gcd
    · convert gcd_dvd_comb (x * m.a + y * m.b) (x * m.c + y * m.d) (det m * m.d) (-(det m * m.b)) using 1
      unfold det; linear_combination (-x) * hs
    · convert gcd_dvd_comb (x * m.a + y * m.b) (x * m.c + y * m.d) (-(det m * m.c)) (det m * m.a) using 1
      unfold det; linear_combination (-y) * hs
  · exact Int.dvd_gcd (gcd_dvd_comb x y _ _) (gcd_dvd_comb x y _ _)

/-- the matrix one outer iteration applies to the pair and, in the extended variant, to the tracked cofactors; the Euclid fallback
(x, y) ↦ (y, x − q·y) is ⟨0, 1; 1, −q⟩ -/
def stepMat (r : StepRes) : Mat := if r.euclid then ⟨0, 1, 1, -r.q⟩ else r.m

theorem lehmeStep_mat (W : Nat) (x y : Int) (hy : 0 < y) :
    Ret (lehmeStep W x y) fun r =>
      Unimod (stepMat r) ∧ r.x = x * (stepMat r).a + y * (stepMat r).b ∧ r.y = x * (stepMat r).c + y * (stepMat r).d ∧
      0 ≤ r.x ∧ 0 ≤ r.y := by
  unfold lehmeStep
  simp only []
  cases hm1 : simPass W _ _ Mat.id with
  | none => exact Ret.fail
  | some m1 =>
    have u1 := simPass_unimod _ _ _ _ unimod_id _ hm1
    refine Ret.ite (fun _ => Ret.ok
      ⟨Or.inr (by simp [stepMat, det]), by simp [stepMat], ?_, hy.le, Int.fmod_nonneg_of_pos x hy⟩) fun _ => ?_
    · rw [Int.fmod_def x y]; simp [stepMat]; ring
    · cases hm2 : simPass W _ _ m1 with
      | none => exact Ret.fail
      | some m2 =>
        exact Ret.ite (fun _ => Ret.fail) fun hneg => Ret.ok
          ⟨simPass_unimod _ _ _ _ u1 _ hm2, rfl, rfl, not_lt.1 fun h => hneg (Or.inl h), not_lt.1 fun h => hneg (Or.inr h)⟩

theorem multiDigit_iff (W : Nat) (y : Int) : multiDigit W y = true ↔ 2 ^ W ≤ y.natAbs := by
  simp [multiDigit]

theorem multiDigit_pos (W : Nat) (y : Int) (hy : 0 ≤ y) (h : multiDigit W y = true) : 0 < y := by
  have := Nat.two_pow_pos W
  rw [multiDigit_iff] at h
  omega

theorem lehmeLoop_spec (W f : Nat) (x y : Int) (hy : 0 ≤ y) :
    Ret (lehmeLoop W f x y) fun r => Int.gcd r.1 r.2 = Int.gcd x y ∧ 0 ≤ r.2 ∧ r.2.natAbs < 2 ^ W := by
  induction f generalizing x y with
  | zero => exact Ret.fail
  | succ f ih =>
    unfold lehmeLoop
    refine Ret.ite (fun hmd => ?_) fun hmd => Ret.ok ⟨rfl, hy, Nat.lt_of_not_le ((multiDigit_iff W y).not.1 hmd)⟩
    have hpos := multiDigit_pos W y hy hmd
    cases hr : lehmeStep W x y with
    | none => exact Ret.fail
    | some r =>
      obtain ⟨hu, e1, e2, -, hry⟩ := lehmeStep_mat W x y hpos r hr
      exact (ih r.x r.y hry).mono fun c ⟨g1, g⟩ => ⟨by rw [g1, e1, e2, gcd_unimod _ hu], g⟩

theorem dp0_small (W : Nat) (y : Int) (hy : 0 ≤ y) (h : y.natAbs < 2 ^ W) : ((dp0 W y : Nat) : Int) = y := by
  unfold dp0
  rw [Nat.mod_eq_of_lt h]
  omega

theorem lehmeExtLoop_succ (W f : Nat) (x y t4 d : Int) :
    lehmeExtLoop W (f + 1) x y t4 d =
      if multiDigit W y then
        (lehmeStep W x y).bind fun r => lehmeExtLoop W f r.x r.y (t4 * (stepMat r).a + d * (stepMat r).b)
          (t4 * (stepMat r).c + d * (stepMat r).d)
      else some (x, y, t4, d) := by
  rw [lehmeExtLoop]
  refine if_congr Iff.rfl ?_ rfl
  cases lehmeStep W x y with
  | none => rfl
  | some r =>
    simp only [Option.bind_some, stepMat]
    split
    · congr 1 <;> ring
    · rfl

theorem lehmeExtLoop_spec (W f : Nat) (X0 Y0 x y t4 d : Int) (hy : 0 ≤ y)
    (hx : ∃ k, x = k * X0 + t4 * Y0) (hyy : ∃ k, y = k * X0 + d * Y0) :
    Ret (lehmeExtLoop W f x y t4 d) fun r =>
      Int.gcd r.1 r.2.1 = Int.gcd x y ∧ 0 ≤ r.2.1 ∧ r.2.1.natAbs < 2 ^ W ∧
      (∃ k, r.1 = k * X0 + r.2.2.1 * Y0) ∧ (∃ k, r.2.1 = k * X0 + r.2.2.2 * Y0) := by
  induction f generalizing x y t4 d with
  | zero => exact Ret.fail
  | succ f ih =>
    rw [lehmeExtLoop_succ]
    refine Ret.ite (fun hmd => ?_) fun hmd => Ret.ok ⟨rfl, hy, Nat.lt_of_not_le ((multiDigit_iff W y).not.1 hmd), hx, hyy⟩
    have hpos := multiDigit_pos W y hy hmd
    refine Ret.bind (lehmeStep_mat W x y hpos) fun r ⟨hu, e1, e2, _, hry⟩ => ?_
    obtain ⟨k1, hk1⟩ := hx
    obtain ⟨k2, hk2⟩ := hyy
    refine (ih r.x r.y _ _ hry ⟨k1 * (stepMat r).a + k2 * (stepMat r).b, by rw [e1, hk1, hk2]; ring⟩
      ⟨k1 * (stepMat r).c + k2 * (stepMat r).d, by rw [e2, hk1, hk2]; ring⟩).mono fun c ⟨g1, g⟩ => ⟨?_, g⟩
    rw [g1, e1, e2, gcd_unimod _ hu]


/-- after the loop started at (X, Y, 0, 1) the single-digit step gives c = u·x' + v·y' ≡ (t4·u + d·v)·Y (mod X): the exact division
by X recovers the cofactor of X -/
theorem lehmeExt_finish (W f : Nat) (X Y : Int) (hX : X ≠ 0) (hY : 0 ≤ Y) :
    Ret (lehmeExtLoop W f X Y 0 1) fun l => ∀ r, r = gcdExtDig l.1 (dp0 W l.2.1) →
      r.1 = (Int.gcd X Y : Int) ∧
      X * Int.fdiv (r.1 - Y * (l.2.2.1 * r.2.1 + l.2.2.2 * r.2.2)) X + Y * (l.2.2.1 * r.2.1 + l.2.2.2 * r.2.2) = r.1 :=
  (lehmeExtLoop_spec W f X Y X Y 0 1 hY ⟨1, by ring⟩ ⟨0, by ring⟩).mono fun l ⟨g1, g2, g3, ⟨k1, g4⟩, ⟨k2, g5⟩⟩ r hr => by
    obtain ⟨hd1, hd2⟩ := gcdExtDig_spec l.1 (dp0 W l.2.1)
    rw [dp0_small W _ g2 g3, ← hr] at hd1 hd2
    have hK : r.1 - Y * (l.2.2.1 * r.2.1 + l.2.2.2 * r.2.2) = (k1 * r.2.1 + k2 * r.2.2) * X := by
      rw [← hd2, g4, g5]; ring
    rw [hK, Int.mul_fdiv_cancel _ hX]
    exact ⟨by rw [hd1, g1], by linear_combination (-1 : Int) * hK⟩

theorem gcdExtLehmeImp_spec (W : Nat) (a b : Int) (ha : 0 ≤ a) (hb : 0 ≤ b) :
    Ret (gcdExtLehmeImp W a b) fun r => r.1 = (Int.gcd a b : Int) ∧ a * r.2.1 + b * r.2.2 = r.1 := by
  have eA : (a.natAbs : Int) = a := Int.natAbs_of_nonneg ha
  have eB : (b.natAbs : Int) = b := Int.natAbs_of_nonneg hb
  unfold gcdExtLehmeImp
  refine Ret.ite (fun ha0 => Ret.ok (by subst ha0; exact ⟨by simp, by rw [eB]; ring⟩)) fun ha0 =>
    Ret.ite (fun hb0 => Ret.ok (by subst hb0; exact ⟨by simp, by rw [eA]; ring⟩)) fun hb0 => ?_
  simp only [eA, eB]
  by_cases hsw : a.natAbs < b.natAbs
  · simp only [hsw, decide_true, if_true, not_true_eq_false, if_false]
    cases hl : lehmeExtLoop W (lehmeFuel a b) b a 0 1 with
    | none => exact Ret.fail
    | some l =>
      obtain ⟨f1, f2⟩ := lehmeExt_finish W _ b a hb0 ha l hl _ rfl
      exact Ret.ok ⟨by rw [f1, Int.gcd_comm], by linear_combination f2⟩
  · simp only [hsw, decide_false, if_false, not_false_eq_true, if_true, Bool.false_eq_true]
    cases hl : lehmeExtLoop W (lehmeFuel a b) a b 0 1 with
    | none => exact Ret.fail
    | some l => exact Ret.ok (lehmeExt_finish W _ a b ha0 hb l hl _ rfl)


end Relic.Lemmas.NtLehmer
