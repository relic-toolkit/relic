/-
The many-point routines of Model/EpMul.lean (ep_mul_sim_lot plain / endomorphism with interleaved binary NAFs, the bucket form
above ten points, ep_mul_sim_dig) compute Σ kᵢ•Pᵢ, and the GLV loops (ep_mul_glv_imp, ep_mul_sim_endom) compute
k0•P + k1•ψ(P) (resp. the four-term sum) for an additive endomorphism ψ.
-/
import RelicVerif.Model.EpMul
import RelicVerif.Lemmas.EbMul

namespace Relic.Lemmas.EpSim
open Relic.Model Relic.Model.MulAlg Relic.Model.EbMul Relic.Model.EpMul Relic.Lemmas.EbMul

variable {G : Type} [AddCommGroup G]

theorem xor_neg_sg (ψ : G →+ G) (a b : Bool) (x : G) :
    (if a != b then gops.neg (ψ (sg a • x)) else ψ (sg a • x)) = sg b • ψ x := by
  rw [ite_xor_neg, map_zsmul, smul_smul, mul_right_comm, sg_mul_self, one_mul]

/-- ep_mul_sim_lot_plain and the n ≤ 10 branch of ep_mul_sim_lot_endom -/
theorem simLotNaf_spec (ps : List G) (nafs : List (List Int)) (l : Nat) (hl : ∀ nf ∈ nafs, nf.length ≤ l) :
    simLotNaf gops ps nafs l = ((ps.zip nafs).map fun pn => (Rec.eval 1 (pn.2.map Int.sign)) • pn.1).sum := by
  refine interleave_spec (ps.zip nafs) (fun pn => pn.1) (fun pn => pn.2.map Int.sign)
    (fun pn i r => if pn.2.getD i 0 > 0 then gops.add r pn.1 else if pn.2.getD i 0 < 0 then gops.sub r pn.1 else r)
    (fun a _ i r => by rw [signStep, getD_map_sign]) l ?_
  intro pn hpn
  obtain ⟨a, b⟩ := pn
  simpa using hl _ (List.of_mem_zip hpn).2

/-- an entry is (P, k, NAF of |k|); the point is negated for a negative k -/
theorem simLotNaf_plain (L : List (G × ℤ × List ℤ)) (cap l : Nat)
    (h : ∀ t ∈ L, Rec.recNaf cap t.2.1.natAbs 2 = some t.2.2 ∧ t.2.2.length ≤ l) :
    simLotNaf gops (L.map fun t => if t.2.1 < 0 then -t.1 else t.1) (L.map fun t => t.2.2) l
      = (L.map fun t => t.2.1 • t.1).sum := by
  rw [simLotNaf_spec _ _ l (by
    intro nf hnf
    obtain ⟨t, ht, rfl⟩ := List.mem_map.1 hnf
    exact (h t ht).2), List.zip_map', List.map_map]
  congr 1
  apply List.map_congr_left
  intro t ht
  obtain ⟨hv, hd, _⟩ := Rec.recNaf_spec cap _ 2 (le_refl _) _ (h t ht).1
  simp only [Function.comp]
  rw [map_sign_of_small _ (fun d hdm => by rcases hd d hdm with h0 | ⟨_, h1⟩ <;> [(subst h0; simp); (simp at h1; omega)]), hv]
  rw [apply_ite ((t.2.1.natAbs : ℤ) • ·), smul_neg]
  exact neg_natAbs_zsmul _ _

/-- the summation trick of eb_mul_halve -/
theorem combineHigh_eq (bs : List G) : combineHigh gops bs = (bs.sum, (sufL bs).sum) := by
  induction bs with
  | nil => rfl
  | cons b t ih =>
    simp only [combineHigh, ih, gops_add, sufL_cons, sufL_head, List.sum_cons]
    rw [add_comm t.sum b, add_comm (sufL t).sum]

theorem combineRow_spec (bk : List G) : combineRow gops bk = wsumR wtOdd 0 bk := by
  cases bk with
  | nil => rfl
  | cons b t =>
    rw [wsumR, ← sufL_sum]
    simp only [combineRow, combineHigh_eq, gops_add, gops_dbl, wtOdd]
    push_cast
    module

theorem rowsFold (i : ℕ) : ∀ (L : List (G × (List ℤ × List ℤ))) (b1 b2 : List G),
    (∀ pn ∈ L, (pn.2.1.getD i 0 = 0 ∨ (pn.2.1.getD i 0 % 2 ≠ 0 ∧ (pn.2.1.getD i 0).natAbs < 2 * b1.length)) ∧
      (pn.2.2.getD i 0 = 0 ∨ (pn.2.2.getD i 0 % 2 ≠ 0 ∧ (pn.2.2.getD i 0).natAbs < 2 * b2.length))) →
    wsumR wtOdd 0 (L.foldl (fun (b : List G × List G) (pn : G × (List Int × List Int)) =>
      (bucketAdd gops b.1 (pn.2.1.getD i 0) pn.1, bucketAdd gops b.2 (pn.2.2.getD i 0) pn.1)) (b1, b2)).1
      = wsumR wtOdd 0 b1 + (L.map fun pn => pn.2.1.getD i 0 • pn.1).sum ∧
    wsumR wtOdd 0 (L.foldl (fun (b : List G × List G) (pn : G × (List Int × List Int)) =>
      (bucketAdd gops b.1 (pn.2.1.getD i 0) pn.1, bucketAdd gops b.2 (pn.2.2.getD i 0) pn.1)) (b1, b2)).2
      = wsumR wtOdd 0 b2 + (L.map fun pn => pn.2.2.getD i 0 • pn.1).sum := by
  intro L
  induction L with
  | nil => intro b1 b2 _; exact ⟨(add_zero _).symm, (add_zero _).symm⟩
  | cons a t ih =>
    intro b1 b2 h
    rw [List.foldl_cons]
    obtain ⟨h1, h2⟩ := ih (bucketAdd gops b1 (a.2.1.getD i 0) a.1) (bucketAdd gops b2 (a.2.2.getD i 0) a.1)
      (fun pn hpn => by rw [bucketAdd_length, bucketAdd_length]; exact h pn (List.mem_cons_of_mem _ hpn))
    obtain ⟨g1, g2⟩ := h a List.mem_cons_self
    rw [h1, h2, bucketAdd_wsum wtOdd id b1 _ _ (digitVal_odd _) g1, bucketAdd_wsum wtOdd id b2 _ _ (digitVal_odd _) g2]
    simp only [List.map_cons, List.sum_cons, id, add_assoc, and_self]

/-- ep_mul_sim_lot_endom, n > 10 -/
theorem simLotBucket_spec (ψ : G →+ G) (ps : List G) (nafs : List (List Int × List Int)) (c l : Nat)
    (hd : ∀ nf ∈ nafs, (∀ d ∈ nf.1, d = 0 ∨ (d % 2 ≠ 0 ∧ d.natAbs < 2 * c)) ∧ (∀ d ∈ nf.2, d = 0 ∨ (d % 2 ≠ 0 ∧ d.natAbs < 2 * c)))
    (hl : ∀ nf ∈ nafs, nf.1.length ≤ l ∧ nf.2.length ≤ l) :
    simLotBucket gops ψ ps nafs c l
      = ((ps.zip nafs).map fun pn => Rec.eval 1 pn.2.1 • pn.1 + Rec.eval 1 pn.2.2 • ψ pn.1).sum := by
  unfold simLotBucket
  generalize hZ : ps.zip nafs = Z
  have hmem : ∀ pn ∈ Z, pn.2 ∈ nafs := by
    intro pn hpn
    obtain ⟨a, b⟩ := pn
    rw [← hZ] at hpn
    exact (List.of_mem_zip hpn).2
  have hgood : ∀ i, ∀ pn ∈ Z, (pn.2.1.getD i 0 = 0 ∨ (pn.2.1.getD i 0 % 2 ≠ 0 ∧ (pn.2.1.getD i 0).natAbs < 2 * c)) ∧
      (pn.2.2.getD i 0 = 0 ∨ (pn.2.2.getD i 0 % 2 ≠ 0 ∧ (pn.2.2.getD i 0).natAbs < 2 * c)) := fun i pn hpn =>
    ⟨getD_zero_prop _ _ (Or.inl rfl) (hd _ (hmem pn hpn)).1 i, getD_zero_prop _ _ (Or.inl rfl) (hd _ (hmem pn hpn)).2 i⟩
  have key := lot_master (Z.map (fun pn => (pn.1, pn.2.1)) ++ Z.map (fun pn => (ψ pn.1, pn.2.2)))
    Prod.fst (fun a i => a.2.getD i 0) 2 l
    (fun i s =>
      let rows := Z.foldl (fun (b : List G × List G) (pn : G × (List Int × List Int)) =>
        (bucketAdd gops b.1 (pn.2.1.getD i 0) pn.1, bucketAdd gops b.2 (pn.2.2.getD i 0) pn.1))
        (List.replicate c gops.zero, List.replicate c gops.zero)
      let t := gops.add (ψ gops.zero) (combineRow gops rows.2)
      let t := gops.add (ψ t) (combineRow gops rows.1)
      gops.add (gops.dbl s) t)
    (fun i s => by
      obtain ⟨h1, h2⟩ := rowsFold i Z (List.replicate c (0 : G)) (List.replicate c (0 : G))
        (by simp only [List.length_replicate]; exact hgood i)
      simp only [gops_zero, gops_add, gops_dbl, combineRow_spec, h1, h2, wsumR_replicate, zero_add, map_zero,
        map_list_sum, List.map_map, List.map_append, List.sum_append, Function.comp_def, map_zsmul]
      abel)
  refine key.trans ?_
  rw [List.map_append, List.sum_append, List.map_map, List.map_map, List.sum_map_add]
  congr 1
  · apply congrArg; apply List.map_congr_left
    intro pn hpn
    simp only [Function.comp]
    rw [eval_eq_sum 1 2 rfl l _ (hl _ (hmem pn hpn)).1]
  · apply congrArg; apply List.map_congr_left
    intro pn hpn
    simp only [Function.comp]
    rw [eval_eq_sum 1 2 rfl l _ (hl _ (hmem pn hpn)).2]

theorem stepTab_getD (f : G → G) (hf : ∀ (n : ℤ) x, f (n • x) = n • f x) (q : G) (tab : List G) (n : ℕ)
    (hn : tab.length = n) (htab : ∀ i, i < n → tab.getD i 0 = (2 * (i : ℤ) + 1) • q) (ds : List ℤ)
    (hd : ∀ d ∈ ds, d = 0 ∨ (d % 2 ≠ 0 ∧ d.natAbs < 2 * n)) (i : ℕ) (r : G) :
    stepTab gops f tab r (ds.getD i 0) = r + ds.getD i 0 • f q := by
  subst hn
  exact signedStep f hf q tab htab r _ (getD_zero_prop _ ds (Or.inl rfl) hd i)

theorem ite_neg_zsmul (s : Bool) (f : G → G) (hf : ∀ (n : ℤ) x, f (n • x) = n • f x) (n : ℤ) (x : G) :
    (if s then gops.neg (f (n • x)) else f (n • x)) = n • (if s then gops.neg (f x) else f x) := by
  rw [ite_neg, ite_neg, hf, smul_comm]

theorem mulGlv_spec (ψ : G →+ G) (p : G) (tabLen : Nat) (neg0 neg1 : Bool) (naf0 naf1 : List Int)
    (hd0 : ∀ d ∈ naf0, d = 0 ∨ (d % 2 ≠ 0 ∧ d.natAbs < 2 * tabLen))
    (hd1 : ∀ d ∈ naf1, d = 0 ∨ (d % 2 ≠ 0 ∧ d.natAbs < 2 * tabLen)) :
    mulGlv gops ψ p tabLen neg0 neg1 naf0 naf1
      = (sg neg0 * Rec.eval 1 naf0) • p + (sg neg1 * Rec.eval 1 naf1) • ψ p := by
  unfold mulGlv
  rw [ite_neg]
  obtain ⟨hlen, htab⟩ := tabOdd_spec (sg neg0 • p) tabLen
  refine (interleave_spec [(id, naf0), (fun x => if neg0 != neg1 then gops.neg (ψ x) else ψ x, naf1)]
    (fun a => a.1 (sg neg0 • p)) (fun a => a.2)
    (fun a i r => stepTab gops a.1 (tabOdd gops (sg neg0 • p) tabLen) r (a.2.getD i 0))
    (forall_mem_two (stepTab_getD id id_zsmul _ _ _ hlen htab naf0 hd0)
      (stepTab_getD _ (ite_neg_zsmul (neg0 != neg1) ψ (map_zsmul ψ)) _ _ _ hlen htab naf1 hd1)) _
    (forall_mem_two (le_max_left _ _) (le_max_right _ _))).trans ?_
  simp only [List.map_cons, List.map_nil, List.sum_cons, List.sum_nil, add_zero, id, xor_neg_sg, smul_smul, mul_comm]

/-- ep_mul_sim_inter / ep_mul_sim_gen on endomorphism curves -/
theorem simEndom_spec (ψ : G →+ G) (p q : G) (tabLen : Nat) (sk0 sk1 sl0 sl1 : Bool) (n0 n1 n2 n3 : List Int)
    (hd : ∀ nf ∈ [n0, n1, n2, n3], ∀ d ∈ nf, d = 0 ∨ (d % 2 ≠ 0 ∧ d.natAbs < 2 * tabLen)) :
    simEndom gops ψ (tabOdd gops p tabLen) (tabOdd gops q tabLen) sk0 sk1 sl0 sl1 n0 n1 n2 n3
      = (sg sk0 * Rec.eval 1 n0) • p + (sg sk1 * Rec.eval 1 n1) • ψ p
        + (sg sl0 * Rec.eval 1 n2) • q + (sg sl1 * Rec.eval 1 n3) • ψ q := by
  simp only [List.forall_mem_cons] at hd
  obtain ⟨h0, h1, h2, h3, _⟩ := hd
  unfold simEndom
  obtain ⟨hlP, htP⟩ := tabOdd_spec p tabLen
  obtain ⟨hlQ, htQ⟩ := tabOdd_spec q tabLen
  have hψ : ∀ (n : ℤ) (x : G), ψ (n • x) = n • ψ x := map_zsmul ψ
  refine (interleave_spec
    [(fun x => if sk0 then gops.neg (id x) else id x, tabOdd gops p tabLen, p, n0),
     (fun x => if sk1 then gops.neg (ψ x) else ψ x, tabOdd gops p tabLen, p, n1),
     (fun x => if sl0 then gops.neg (id x) else id x, tabOdd gops q tabLen, q, n2),
     (fun x => if sl1 then gops.neg (ψ x) else ψ x, tabOdd gops q tabLen, q, n3)]
    (fun a => a.1 a.2.2.1) (fun a => a.2.2.2) (fun a i r => stepTab gops a.1 a.2.1 r (a.2.2.2.getD i 0))
    (forall_mem_four (stepTab_getD _ (ite_neg_zsmul sk0 id id_zsmul) _ _ _ hlP htP n0 h0)
      (stepTab_getD _ (ite_neg_zsmul sk1 ψ hψ) _ _ _ hlP htP n1 h1)
      (stepTab_getD _ (ite_neg_zsmul sl0 id id_zsmul) _ _ _ hlQ htQ n2 h2)
      (stepTab_getD _ (ite_neg_zsmul sl1 ψ hψ) _ _ _ hlQ htQ n3 h3)) _
    (le_max_four _ _ _ _ _)).trans ?_
  simp only [List.map_cons, List.map_nil, List.sum_cons, List.sum_nil, add_zero, ← add_assoc, ite_neg, id, smul_smul,
    mul_comm]

end Relic.Lemmas.EpSim
