/-
The single-digit binary loop of bn_smb_jac computes the Jacobi symbol (Mathlib's `jacobiSym`) for every n and every odd d,
and hence the whole function does for every odd positive modulus that fits one digit (`outer_one_digit`; assembled in
Props/C09Smb.smb_jac_exact_partial).
Invariant: jacobiSym n₀ d₀ = sgn t * jacobiSym n d with d odd, where sgn t = (-1)^(bit 1 of t).
-/
import Mathlib.NumberTheory.LegendreSymbol.JacobiSymbol
import Mathlib.Data.Nat.Bitwise
import RelicVerif.Lemmas.NtSmbInner

namespace Relic.Lemmas.NtSmb
open Relic.Model.NtSmb

def sgn (t : ℕ) : ℤ := if t.testBit 1 then -1 else 1

/-- the value of (2/d) for odd d -/
def eps (d : ℕ) : ℤ := if d % 8 = 3 ∨ d % 8 = 5 then -1 else 1

theorem sgn_xor (a b : ℕ) : sgn (a ^^^ b) = sgn a * sgn b := by
  unfold sgn
  rw [Nat.testBit_xor]
  cases a.testBit 1 <;> cases b.testBit 1 <;> simp

theorem testBit_one (x : ℕ) : x.testBit 1 = decide (x / 2 % 2 = 1) := by
  rw [show (1 : ℕ) = 0 + 1 from rfl, Nat.testBit_succ, Nat.testBit_zero]

theorem testBit_two (x : ℕ) : x.testBit 2 = decide (x / 4 % 2 = 1) := by
  rw [show (2 : ℕ) = 0 + 1 + 1 from rfl, Nat.testBit_succ, Nat.testBit_succ, Nat.testBit_zero, Nat.div_div_eq_div_mul]

theorem sgn_and_odd {n d : ℕ} (hn : n % 2 = 1) (hd : d % 2 = 1) :
    sgn (d &&& n) = if n % 4 = 3 ∧ d % 4 = 3 then -1 else 1 := by
  unfold sgn
  rw [Nat.testBit_and, testBit_one, testBit_one]
  refine if_congr ?_ rfl rfl
  rw [Bool.and_eq_true, decide_eq_true_eq, decide_eq_true_eq]
  omega

/-- bit 1 of the Gray code of an odd d says whether d ≡ ±3 (mod 8): bits 1 and 2 of d differ -/
theorem sgn_gray {d : ℕ} (hd : d % 2 = 1) : sgn (d ^^^ (d >>> 1)) = eps d := by
  unfold sgn eps
  rw [Nat.testBit_xor, Nat.testBit_shiftRight, testBit_one, testBit_two]
  refine if_congr ?_ rfl rfl
  rw [bne_iff_ne, Ne, decide_eq_decide]
  -- d mod 8 in terms of bits 1 and 2, then the four bit patterns
  have h8 : d % 8 = 4 * (d / 4 % 2) + 2 * (d / 2 % 2) + 1 := by omega
  have ha : d / 2 % 2 < 2 := Nat.mod_lt _ (by decide)
  have hb : d / 4 % 2 < 2 := Nat.mod_lt _ (by decide)
  rw [h8]
  generalize d / 2 % 2 = a at ha
  generalize d / 4 % 2 = b at hb
  interval_cases a <;> interval_cases b <;> simp

theorem sgn_and_shl (x z : ℕ) : sgn (x &&& (z <<< 1)) = sgn x ^ z := by
  unfold sgn
  rw [Nat.testBit_and, Nat.testBit_shiftLeft, Nat.sub_self, Nat.testBit_zero, decide_eq_true (le_refl 1), Bool.true_and]
  cases x.testBit 1
  · rw [Bool.false_and, if_neg Bool.false_ne_true, one_pow]
  · rw [Bool.true_and, if_pos rfl]
    rcases Nat.even_or_odd z with h | h
    · rw [h.neg_one_pow, if_neg (by rw [decide_eq_true_eq]; have := Nat.even_iff.mp h; omega)]
    · rw [h.neg_one_pow, if_pos (decide_eq_true (Nat.odd_iff.mp h))]

theorem tz_spec (n : ℕ) : n = 2 ^ tz n * (n >>> tz n) := by
  rw [Nat.shiftRight_eq_div_pow, Nat.mul_div_cancel' (two_pow_tz_dvd n)]

open scoped NumberTheorySymbols

theorem jac_two {d : ℕ} (hd : d % 2 = 1) : J(2 | d) = eps d := by
  have h := jacobiSym.even_odd (a := 2) (b := d) (by norm_num) hd
  rw [show (2 : ℤ) / 2 = 1 by norm_num, jacobiSym.one_left] at h
  unfold eps
  rw [← h]

theorem jac_two_pow_mul {d : ℕ} (hd : d % 2 = 1) (z m : ℕ) : J(((2 ^ z * m : ℕ) : ℤ) | d) = eps d ^ z * J((m : ℤ) | d) := by
  push_cast
  rw [jacobiSym.mul_left, jacobiSym.pow_left, jac_two hd]

theorem jac_sub_half {n d : ℕ} (hn : n % 2 = 1) (hd : d % 2 = 1) (hle : d ≤ n) :
    J((n : ℤ) | d) = eps d * J((((n - d) >>> 1 : ℕ) : ℤ) | d) := by
  have h1 : J((n : ℤ) | d) = J(((n - d : ℕ) : ℤ) | d) := by
    apply jacobiSym.mod_left'
    rw [Nat.cast_sub hle, Int.sub_emod_right]
  have h2 := jacobiSym.even_odd (a := ((n - d : ℕ) : ℤ)) (b := d) (by omega) hd
  rw [h1, ← h2, Nat.shiftRight_eq_div_pow, pow_one, Int.natCast_div, Nat.cast_ofNat]
  unfold eps
  split
  · rw [neg_one_mul]
  · rw [one_mul]

theorem finish_eq {d t : ℕ} (hd : d % 2 = 1) : finish d t = sgn t * J((0 : ℤ) | d) := by
  unfold finish
  split
  · next h1 =>
    subst h1
    rw [jacobiSym.one_right, mul_one]
    unfold sgn
    have : t &&& 2 = if t.testBit 1 then 2 else 0 := by
      have := Nat.and_two_pow t 1
      rw [pow_one] at this
      rw [this]
      cases t.testBit 1 <;> simp
    rw [this]
    split <;> simp
  · next h1 =>
    rw [jacobiSym.zero_left (by omega), mul_zero]

theorem single_zero (d t : ℕ) : single 0 d t = (d, t) := by
  rw [single, dif_pos rfl]

theorem jacSingle_eq (n d t : ℕ) (hd : d % 2 = 1) : jacSingle n d t = sgn t * J((n : ℤ) | d) := by
  unfold jacSingle
  induction n, d, t using single.induct with
  | case1 d t =>
    rw [single_zero]
    exact finish_eq hd
  | case2 n d t h0 h1 hlt ih =>
    -- swap (quadratic reciprocity), subtract, halve
    rw [single, dif_neg h0, dif_pos h1, dif_pos hlt, ih h1, sgn_xor, sgn_xor, sgn_and_odd h1 hd, sgn_gray h1,
      ← jacobiSym.quadratic_reciprocity_if (a := n) (b := d) h1 hd, jac_sub_half hd h1 (le_of_lt hlt)]
    split <;> ring
  | case3 n d t h0 h1 hge ih =>
    rw [single, dif_neg h0, dif_pos h1, dif_neg hge, ih hd, sgn_xor, sgn_gray hd, jac_sub_half h1 hd (by omega), mul_assoc]
  | case4 n d t h0 h1 ih =>
    rw [single, dif_neg h0, dif_neg h1, ih hd, sgn_xor, sgn_and_shl, sgn_gray hd, mul_assoc]
    conv_rhs => rw [tz_spec n, jac_two_pow_mul hd]

theorem used_one {w x : ℕ} (hx : x < 2 ^ w) : used w x = 1 := by
  unfold used
  split
  · rfl
  · next h0 =>
    have : Nat.log2 x < w := (Nat.log2_lt h0).mpr hx
    rw [Nat.div_eq_of_lt this]

theorem dig_zero {w x : ℕ} (hx : x < 2 ^ w) : dig w x 0 = x := by
  unfold dig
  simp [Nat.mod_eq_of_lt hx]

theorem outer_one_digit {w : ℕ} (fuel : ℕ) {t0 t1 : ℕ} (t : ℕ) (tr : Trace) (h0 : t0 < 2 ^ w) (h1 : t1 < 2 ^ w) :
    (outer w (fuel + 1) t0 t1 t tr).map (·.1) = some (jacSingle t0 t1 t) := by
  rw [outer]
  simp only [used_one h0, used_one h1, max_self, if_true, Option.map_some, dig_zero h0, dig_zero h1]

end Relic.Lemmas.NtSmb
