/-
Algebra of the maps to a curve over an arbitrary field (all field elements, no bound).  Every map ends the same way: the
abscissa is the first of two or three candidates whose value g(x) is a square, the last one unconditionally (`pickSq`), so
the output lies on y² = g(x) as soon as the last candidate's value is a square whenever the others' are not; that
implication is the content of each map.
* simplified SWU: g(Z u² x1) = (Z u²)³ g(x1) off the exceptional set (`sswu_key`); on it the condition "g(B/(ZA)) is a square"
  on Z decides; the C code (Model/EpMap.lean: patch of the denominator, shortcut u³t⁶·g(x1) for g(x2)) equals the RFC text.
* Shallue–van de Woestijne and SwiftEC share one identity (`sw_key`): with d = 3z² + A and c = g(2z), for x1,2 = −z ∓ m and
  x3 = 2z + w², where (m w)² = −(d w² + c):   w⁶·g(x1)·g(x2) = c²·g(x3).  In SvdW z = −c2 = Z/2, m = tv4,
  w = 2·c3·(1+s)/((1−s)·D); in SwiftEC (A = 0) z = u/2, m = X/(2Y), w = 2Y and the hypothesis is the conic
  X² + 3u²Y² = −g(u).
The oracles `is_square` / `sqrt` enter through the contract `Oracle` (is_square decides `IsSquare`, sqrt returns a root of
every square, non-square × non-square = square: the quadratic character of a finite field, `Props.C13.nonsq_mul_finite`).
-/
import Mathlib.Algebra.Field.Defs
import Mathlib.Algebra.Field.Basic
import Mathlib.Algebra.Group.Even
import Mathlib.Tactic.FieldSimp
import Mathlib.Tactic.Ring
import Mathlib.Tactic.LinearCombination
import Mathlib.Tactic.SplitIfs
import Mathlib.Algebra.CharP.Two
import RelicVerif.Spec.HashToCurve
import RelicVerif.Model.EpMap
import RelicVerif.Spec.HashToCurveEd

namespace Relic.Lemmas.MapToCurve
open Relic.Spec.H2C Relic.Model.EpMap

set_option linter.unusedSectionVars false

variable {F : Type} [Field F] [DecidableEq F]

def fOps (isSq : F → Bool) (sqrt : F → F) (sgn0 : F → Bool) : MapOps F :=
  { zero := 0, one := 1, add := (· + ·), sub := (· - ·), mul := (· * ·), neg := Neg.neg, inv0 := fun a => a⁻¹,
    isZero := fun a => decide (a = 0), isSq := isSq, sqrt := sqrt, sgn0 := sgn0, ofNat := fun n => (n : F) }

/-- contract of the oracles `is_square` and `sqrt` (RFC 9380 §4) over a field in which the squares have index ≤ 2 -/
structure Oracle (isSq : F → Bool) (sqrt : F → F) : Prop where
  isSq_iff : ∀ a, isSq a = true ↔ IsSquare a
  sqrt_sq : ∀ a, IsSquare a → sqrt a * sqrt a = a
  nonsq_mul : ∀ a b : F, ¬ IsSquare a → ¬ IsSquare b → IsSquare (a * b)

def gF (a b x : F) : F := x ^ 3 + a * x + b

/-! ### the identity of simplified SWU; squares and non-squares -/

theorem sswu_key (a b w : F) (ha : a ≠ 0) (hw : w * w + w ≠ 0) :
    gF a b (w * (-b * a⁻¹ * (1 + (w * w + w)⁻¹))) = w ^ 3 * gF a b (-b * a⁻¹ * (1 + (w * w + w)⁻¹)) := by
  have h1 : a * a⁻¹ = 1 := mul_inv_cancel₀ ha
  have h2 : (w * w + w)⁻¹ * (w * w + w) = 1 := inv_mul_cancel₀ hw
  have hx : a * (-b * a⁻¹ * (1 + (w * w + w)⁻¹)) * (w * w + w) = -b * (w * w + w + 1) := by
    linear_combination (-b * ((w * w + w) + (w * w + w)⁻¹ * (w * w + w))) * h1 + (-b) * h2
  unfold gF
  linear_combination (1 - w) * hx

theorem ne_zero_of_not_isSquare {Z : F} (hZ : ¬ IsSquare Z) : Z ≠ 0 := fun h => hZ (h ▸ IsSquare.zero)

theorem isSquare_of_three (nm : ∀ a b : F, ¬ IsSquare a → ¬ IsSquare b → IsSquare (a * b)) {x y w : F}
    (h : IsSquare (x * y * w)) (hy : ¬ IsSquare y) (hw : ¬ IsSquare w) : IsSquare x := by
  obtain ⟨r, hr⟩ := h
  obtain ⟨s, hs⟩ := nm y w hy hw
  have hs0 : s ≠ 0 := by
    intro h0
    rw [h0, mul_zero] at hs
    exact mul_ne_zero (ne_zero_of_not_isSquare hy) (ne_zero_of_not_isSquare hw) hs
  exact ⟨r / s, by field_simp; linear_combination hr - x * hs⟩

/-! ### the identity Shallue–van de Woestijne and SwiftEC share -/

theorem sw_key (A B z m w : F) (hm : m ^ 2 * w ^ 2 = -((3 * z ^ 2 + A) * w ^ 2 + gF A B (2 * z))) :
    w ^ 6 * (gF A B (-z - m) * gF A B (-z + m)) = gF A B (2 * z) ^ 2 * gF A B (2 * z + w ^ 2) := by
  have hl : w ^ 6 * (gF A B (-z - m) * gF A B (-z + m)) =
      (w ^ 3 * gF A B (-z) - 3 * z * w * (m ^ 2 * w ^ 2)) ^ 2 -
        m ^ 2 * w ^ 2 * ((3 * z ^ 2 + A) * w ^ 2 + m ^ 2 * w ^ 2) ^ 2 := by
    unfold gF; ring
  rw [hl, hm]
  unfold gF
  ring

theorem sw_square (A B z m w : F) (hw : w ≠ 0)
    (hm : m ^ 2 * w ^ 2 = -((3 * z ^ 2 + A) * w ^ 2 + gF A B (2 * z))) :
    IsSquare (gF A B (-z - m) * gF A B (-z + m) * gF A B (2 * z + w ^ 2)) := by
  refine ⟨gF A B (2 * z) * gF A B (2 * z + w ^ 2) / w ^ 3, ?_⟩
  rw [div_mul_div_comm, eq_div_iff (mul_ne_zero (pow_ne_zero 3 hw) (pow_ne_zero 3 hw))]
  linear_combination gF A B (2 * z + w ^ 2) * sw_key A B z m w hm

/-! ### the selection; simplified SWU -/

section maps
variable (isSq : F → Bool) (sqrt : F → F) (sgn0 : F → Bool)

theorem g_eq (a b x : F) : g (fOps isSq sqrt sgn0) ⟨a, b⟩ x = gF a b x := by
  simp only [g, fOps, gF]; ring

theorem rhsC_eq (a b x : F) : rhsC (fOps isSq sqrt sgn0) a b x = gF a b x := by
  simp only [rhsC, fOps, gF]; ring

theorem ite_neg_mul_self (c : Prop) [Decidable c] (y : F) : (if c then -y else y) * (if c then -y else y) = y * y := by
  split_ifs
  exacts [neg_mul_neg y y, rfl]

theorem fixSign_sq (u y : F) :
    fixSign (fOps isSq sqrt sgn0) u y * fixSign (fOps isSq sqrt sgn0) u y = y * y :=
  ite_neg_mul_self _ y

theorem Oracle.not_sq {isSq : F → Bool} {sqrt : F → F} (H : Oracle isSq sqrt) {a : F} (h : ¬ isSq a = true) :
    ¬ IsSquare a := fun hs => h ((H.isSq_iff a).mpr hs)

/-- What every map does last: the abscissa is the first candidate whose value under g is a square, the last one
    unconditionally; the ordinate is a square root of its value. -/
def pickSq (g : F → F) : List F → F → F
  | [], d => d
  | x :: l, d => if isSq (g x) then x else pickSq g l d

theorem pickSq_isSquare {isSq : F → Bool} {sqrt : F → F} (H : Oracle isSq sqrt) (g : F → F) (l : List F) (d : F)
    (h : l.Forall (fun x => ¬ IsSquare (g x)) → IsSquare (g d)) : IsSquare (g (pickSq isSq g l d)) := by
  induction l with
  | nil => exact h trivial
  | cons x l ih =>
    unfold pickSq
    split_ifs with hx
    · exact (H.isSq_iff _).mp hx
    · exact ih fun hl => h ((List.forall_cons _ x l).mpr ⟨H.not_sq hx, hl⟩)

theorem pickSq_on_curve {isSq : F → Bool} {sqrt : F → F} (H : Oracle isSq sqrt) (g : F → F) (l : List F) (d u : F)
    (h : l.Forall (fun x => ¬ IsSquare (g x)) → IsSquare (g d)) :
    fixSign (fOps isSq sqrt sgn0) u (sqrt (g (pickSq isSq g l d))) *
      fixSign (fOps isSq sqrt sgn0) u (sqrt (g (pickSq isSq g l d))) = g (pickSq isSq g l d) := by
  rw [fixSign_sq, H.sqrt_sq _ (pickSq_isSquare H g l d h)]

/-- the first candidate of the simplified SWU map (x1 of RFC 9380 §6.6.2), written with field operations -/
def sswuX1 (a b Z u : F) : F :=
  let w := Z * (u * u)
  if (w * w + w)⁻¹ = 0 then b * (Z * a)⁻¹ else -b * a⁻¹ * (1 + (w * w + w)⁻¹)

/-- the abscissa the simplified SWU map selects -/
def sswuX (a b Z u : F) : F := pickSq isSq (gF a b) [sswuX1 a b Z u] (Z * (u * u) * sswuX1 a b Z u)

theorem sswu_unfold (a b Z u : F) :
    sswu (fOps isSq sqrt sgn0) ⟨a, b⟩ Z u =
      (sswuX isSq a b Z u, fixSign (fOps isSq sqrt sgn0) u (sqrt (gF a b (sswuX isSq a b Z u)))) := by
  simp only [sswu, sswuX, sswuX1, pickSq, g_eq]
  simp only [fOps, decide_eq_true_eq]
  split_ifs <;> rfl

theorem sswu_x2_isSquare (nm : ∀ a b : F, ¬ IsSquare a → ¬ IsSquare b → IsSquare (a * b)) (a b Z : F) (ha : a ≠ 0)
    (hZ : ¬ IsSquare Z) (hZ4 : IsSquare (gF a b (b * (Z * a)⁻¹))) (u : F)
    (h1 : ¬ IsSquare (gF a b (sswuX1 a b Z u))) : IsSquare (gF a b (Z * (u * u) * sswuX1 a b Z u)) := by
  unfold sswuX1 at h1 ⊢
  simp only at h1 ⊢
  split_ifs at h1 ⊢ with hw
  · -- exceptional: x1 = B/(ZA), whose value is a square by the choice of Z
    exact absurd hZ4 h1
  · -- g(x2) = (Z u²)³ g(x1) = (Z u³)² · (Z g(x1)), and Z g(x1) is a product of two non-squares
    rw [sswu_key a b (Z * (u * u)) ha fun h => hw (by rw [h, inv_zero]), show ∀ y : F,
      (Z * (u * u)) ^ 3 * y = Z * u ^ 3 * (Z * u ^ 3) * (Z * y) from fun y => by ring]
    exact (IsSquare.mul_self _).mul (nm Z _ hZ h1)

/-! ### the C code of TMPL_MAP_SSWU equals the RFC text -/

theorem applySign_eq (t : F) (xy : F × F) :
    applySign (fOps isSq sqrt sgn0) t xy = (xy.1, fixSign (fOps isSq sqrt sgn0) t xy.2) := by
  unfold applySign fixSign
  cases sgn0 t <;> cases h : sgn0 xy.2 <;> simp [fOps, h]

/-- TMPL_MAP_SSWU before the square root = the selection of the RFC map, for every t, given the constants as ep_curve_set_map
    defines them (c0 = −b/a, c2 = a, c3 = b, u = Z) and the two conditions on Z -/
theorem sswuPre_eq (H : Oracle isSq sqrt) (a b Z c0 c1 c4 : F) (ha : a ≠ 0) (hZ : ¬ IsSquare Z)
    (hZ4 : IsSquare (gF a b (b * (Z * a)⁻¹))) (hc0 : c0 * a + b = 0) (t : F) :
    sswuPre (fOps isSq sqrt sgn0) ⟨Z, c0, c1, a, b, c4⟩ t = (sswuX isSq a b Z t, gF a b (sswuX isSq a b Z t)) := by
  have hZ0 : Z ≠ 0 := ne_zero_of_not_isSquare hZ
  have hc : c0 = -b * a⁻¹ := by
    have h1 : a * a⁻¹ = 1 := mul_inv_cancel₀ ha
    linear_combination a⁻¹ * hc0 + (-c0) * h1
  have hw : t * t * Z = Z * (t * t) := by ring
  simp only [sswuPre, sswuX, sswuX1, pickSq, fOps, decide_eq_true_eq, hw]
  have hrhs : ∀ x : F, (x * x + a) * x + b = gF a b x := fun x => by unfold gF; ring
  simp only [hrhs]
  by_cases hD : Z * (t * t) * (Z * (t * t)) + Z * (t * t) = 0
  · -- exceptional: the denominator vanishes, −Z is inverted instead and the "+1" is skipped
    simp only [hD, inv_zero, if_true]
    have hx : (-Z)⁻¹ * c0 = b * (Z * a)⁻¹ := by
      rw [hc]; field_simp
    rw [hx]
    have h1 : isSq (gF a b (b * (Z * a)⁻¹)) = true := (H.isSq_iff _).mpr hZ4
    simp only [h1, if_true]
  · have hDi : ¬ (Z * (t * t) * (Z * (t * t)) + Z * (t * t))⁻¹ = 0 := fun h => hD (inv_eq_zero.mp h)
    simp only [hD, hDi, if_false]
    have hx : ((Z * (t * t) * (Z * (t * t)) + Z * (t * t))⁻¹ + 1) * c0 =
        -b * a⁻¹ * (1 + (Z * (t * t) * (Z * (t * t)) + Z * (t * t))⁻¹) := by rw [hc]; ring
    rw [hx]
    by_cases h1 : isSq (gF a b (-b * a⁻¹ * (1 + (Z * (t * t) * (Z * (t * t)) + Z * (t * t))⁻¹))) = true
    · simp only [h1, if_true]
    · simp only [h1, Bool.false_eq_true, if_false]
      rw [sswu_key a b (Z * (t * t)) ha hD]
      congr 1
      ring

/-! ### Shallue–van de Woestijne -/

/-- the three candidates of map_to_curve_svdw, written with field operations; c1..c4 as in RFC 9380 §6.6.1 -/
def svdwCand (c1 c2 c3 c4 Z u : F) : F × F × F :=
  let s := u * u * c1
  let tv3 := ((1 - s) * (1 + s))⁻¹
  let tv4 := u * (1 - s) * tv3 * c3
  let t := (1 + s) * (1 + s) * tv3
  (c2 - tv4, c2 + tv4, t * t * c4 + Z)

/-- the abscissa map_to_curve_svdw selects: x1 over x2 over x3 -/
def svdwX (a b : F) (c : F × F × F) : F := pickSq isSq (gF a b) [c.1, c.2.1] c.2.2

theorem svdwWith_unfold (a b Z u : F) (K : SvdwConst F) :
    svdwWith (fOps isSq sqrt sgn0) ⟨a, b⟩ K Z u =
      (svdwX isSq a b (svdwCand K.c1 K.c2 K.c3 K.c4 Z u),
        fixSign (fOps isSq sqrt sgn0) u (sqrt (gF a b (svdwX isSq a b (svdwCand K.c1 K.c2 K.c3 K.c4 Z u))))) := by
  simp only [svdwWith, svdwX, svdwCand, pickSq, g_eq]
  rfl

/-- conditions on the constants of the SvdW map (RFC 9380 §6.6.1 and the conditions on Z of Appendix H.1), as the driver
    evaluates them on the constants the library reports -/
structure SvdwOk (a b c1 c2 c3 c4 Z : F) : Prop where
  two : (2 : F) ≠ 0
  c1_def : c1 = gF a b Z
  c1_ne : c1 ≠ 0
  c2_def : 2 * c2 + Z = 0
  d_ne : 3 * Z ^ 2 + 4 * a ≠ 0
  c3_def : c3 * c3 = -c1 * (3 * Z ^ 2 + 4 * a)
  c4_def : c4 * (3 * Z ^ 2 + 4 * a) + 4 * c1 = 0
  exc : IsSquare (gF a b Z) ∨ IsSquare (gF a b c2)

/-- exceptional u: x1 = x2 = −Z/2, x3 = Z -/
theorem svdw_third (nm : ∀ a b : F, ¬ IsSquare a → ¬ IsSquare b → IsSquare (a * b))
    (a b c1 c2 c3 c4 Z u : F) (ok : SvdwOk a b c1 c2 c3 c4 Z)
    (h1 : ¬ IsSquare (gF a b (svdwCand c1 c2 c3 c4 Z u).1)) (h2 : ¬ IsSquare (gF a b (svdwCand c1 c2 c3 c4 Z u).2.1)) :
    IsSquare (gF a b (svdwCand c1 c2 c3 c4 Z u).2.2) := by
  unfold svdwCand at h1 h2 ⊢
  simp only at h1 h2 ⊢
  by_cases hP : (1 - u * u * c1) * (1 + u * u * c1) = 0
  · rw [hP, inv_zero] at h1 ⊢
    simp only [mul_zero, zero_mul, sub_zero, zero_add] at h1 ⊢
    exact ok.exc.resolve_right h1
  obtain ⟨h20, hc1, hc1n, hc2, hdn, hc3, hc4, _⟩ := ok
  have hq : 1 - u * u * c1 ≠ 0 := left_ne_zero_of_mul hP
  have hp : 1 + u * u * c1 ≠ 0 := right_ne_zero_of_mul hP
  obtain ⟨s, hs⟩ : ∃ s, s = u * u * c1 := ⟨_, rfl⟩
  rw [← hs] at hP hq hp h1 h2 ⊢
  obtain ⟨D, hD⟩ : ∃ D, D = 3 * Z ^ 2 + 4 * a := ⟨_, rfl⟩
  rw [← hD] at hdn hc3 hc4
  have hZ : 2 * -c2 = Z := by linear_combination -hc2
  have hD' : D = 4 * (3 * c2 ^ 2 + a) := by rw [hD, ← hZ]; ring
  have hc30 : c3 ≠ 0 := fun h => mul_ne_zero (neg_ne_zero.mpr hc1n) hdn (by rw [← hc3, h, mul_zero])
  -- `sw_key` with z = −c2, m = tv4 = u c3/(1 + s), w = 2 c3 (1 + s)/((1 − s) D)
  have hsq := sw_square a b (-c2) (u * (1 - s) * ((1 - s) * (1 + s))⁻¹ * c3) (2 * c3 * (1 + s) / ((1 - s) * D))
    (div_ne_zero (mul_ne_zero (mul_ne_zero h20 hc30) hp) (mul_ne_zero hq hdn)) (by
      rw [hZ, ← hc1]
      field_simp
      linear_combination (4 * u ^ 2 * (c3 ^ 2 - c1 * D) + (1 + s) ^ 2 * D) * hc3 - (1 + s) ^ 2 * c3 ^ 2 * hD' -
        4 * c1 * D ^ 2 * hs)
  have hx3 : (1 + s) * (1 + s) * ((1 - s) * (1 + s))⁻¹ * ((1 + s) * (1 + s) * ((1 - s) * (1 + s))⁻¹) * c4 + Z =
      2 * -c2 + (2 * c3 * (1 + s) / ((1 - s) * D)) ^ 2 := by
    rw [hZ]
    field_simp
    linear_combination (1 + s) ^ 2 * D * hc4 - 4 * (1 + s) ^ 2 * hc3
  rw [neg_neg, ← hx3, mul_comm, ← mul_assoc] at hsq
  exact isSquare_of_three nm hsq h1 h2

theorem svdwConst_ok (H : Oracle isSq sqrt) (a b Z : F) (h2 : (2 : F) ≠ 0) (hg : gF a b Z ≠ 0) (hd : 3 * Z ^ 2 + 4 * a ≠ 0)
    (hs : IsSquare (-gF a b Z * (3 * Z ^ 2 + 4 * a)))
    (hexc : IsSquare (gF a b Z) ∨ IsSquare (gF a b (-Z * (2 : F)⁻¹))) :
    SvdwOk a b (svdwConst (fOps isSq sqrt sgn0) ⟨a, b⟩ Z).c1 (svdwConst (fOps isSq sqrt sgn0) ⟨a, b⟩ Z).c2
      (svdwConst (fOps isSq sqrt sgn0) ⟨a, b⟩ Z).c3 (svdwConst (fOps isSq sqrt sgn0) ⟨a, b⟩ Z).c4 Z := by
  have ed2 : ((2 + 1 : F) * (Z * Z) + 4 * a) = 3 * Z ^ 2 + 4 * a := by ring
  simp only [svdwConst, g_eq]
  simp only [fOps, one_add_one_eq_two, two_add_two_eq_four, ed2]
  refine ⟨h2, rfl, hg, ?_, hd, ?_, ?_, hexc⟩
  · have : (2 : F) * 2⁻¹ = 1 := mul_inv_cancel₀ h2
    linear_combination (-Z) * this
  · have := H.sqrt_sq _ hs
    split_ifs
    · rw [neg_mul_neg]; exact this
    · exact this
  · have : (3 * Z ^ 2 + 4 * a)⁻¹ * (3 * Z ^ 2 + 4 * a) = 1 := inv_mul_cancel₀ hd
    linear_combination (-4 * gF a b Z) * this

/-- the inv0 of TMPL_MAP_SVDW (substitute g(u) for a vanishing value, invert, put 0 back) is the field inverse with 0⁻¹ = 0 -/
theorem inv_patch (x c : F) :
    (if decide (x = 0) = true then (0 : F) else (if decide (x = 0) = true then c else x)⁻¹) = x⁻¹ := by
  by_cases h : x = 0
  · simp [h]
  · simp [h]

/-- ctx c0..c3 are the RFC's c1..c4 -/
theorem svdwPre_eq (a b Z c0 c1 c2 c3 c4 : F) (t : F) :
    svdwPre (fOps isSq sqrt sgn0) a b ⟨Z, c0, c1, c2, c3, c4⟩ t =
      (svdwX isSq a b (svdwCand c0 c1 c2 c3 Z t), gF a b (svdwX isSq a b (svdwCand c0 c1 c2 c3 Z t))) := by
  simp only [svdwPre, svdwX, svdwCand, pickSq, rhsC_eq]
  simp only [fOps]
  have hA : t * t * c0 + 1 = 1 + t * t * c0 := by ring
  have hB : -(t * t * c0 - 1) = 1 - t * t * c0 := by ring
  simp only [hA, hB, inv_patch]
  by_cases h1 : isSq (gF a b (c1 - t * (1 - t * t * c0) * ((1 - t * t * c0) * (1 + t * t * c0))⁻¹ * c2)) = true
  · simp only [h1, if_true]
  · by_cases h2 : isSq (gF a b (c1 + t * (1 - t * t * c0) * ((1 - t * t * c0) * (1 + t * t * c0))⁻¹ * c2)) = true
    · simp only [h1, h2, Bool.false_eq_true, if_true, if_false]
    · simp only [h1, h2, Bool.false_eq_true, if_false]

/-! ### Horner's rule -/

theorem polyEval_append (cs : List F) (l x : F) :
    polyEval (fOps isSq sqrt sgn0) (cs ++ [l]) x = polyEval (fOps isSq sqrt sgn0) cs x + l * x ^ cs.length := by
  induction cs with
  | nil => simp [polyEval, fOps]
  | cons c cs ih =>
    have : polyEval (fOps isSq sqrt sgn0) (c :: (cs ++ [l])) x = c + polyEval (fOps isSq sqrt sgn0) (cs ++ [l]) x * x := rfl
    rw [List.cons_append, this, ih]
    have h2 : polyEval (fOps isSq sqrt sgn0) (c :: cs) x = c + polyEval (fOps isSq sqrt sgn0) cs x * x := rfl
    rw [h2, List.length_cons, pow_succ]; ring

theorem foldl_horner (rest : List F) (lead a : F) :
    rest.foldl (fun c ci => (fOps isSq sqrt sgn0).add ((fOps isSq sqrt sgn0).mul c a) ci) lead =
      polyEval (fOps isSq sqrt sgn0) (rest.reverse ++ [lead]) a := by
  induction rest generalizing lead with
  | nil => simp [polyEval, fOps]
  | cons r rest ih =>
    rw [List.foldl_cons, ih, List.reverse_cons, polyEval_append, polyEval_append, polyEval_append]
    simp only [fOps, List.length_append, List.length_reverse, List.length_cons, List.length_nil, pow_succ]
    ring

end maps

/-! ### SwiftEC (a = 0) -/

/-- the three SwiftEC candidates ((X/Y − u)/2, (−X/Y − u)/2, u + 4Y²) -/
def swiftCand (b sm3 u t : F) : F × F × F :=
  let X := (u * u * u + b - t * t) * (2 * t)⁻¹
  let Y := (X + t) * (u * sm3)⁻¹
  let r := X * Y⁻¹
  ((r - u) * 2⁻¹, (-r - u) * 2⁻¹, u + 4 * (Y * Y))

/-- the parameters SwiftEC excludes -/
theorem swift_den_ne {b sm3 u t : F} (hden : 2 * t * (u * sm3) * (u * u * u + b + t * t) ≠ 0) :
    t ≠ 0 ∧ u ≠ 0 ∧ sm3 ≠ 0 ∧ u * u * u + b + t * t ≠ 0 :=
  ⟨fun h => hden (by rw [h]; ring), fun h => hden (by rw [h]; ring), fun h => hden (by rw [h]; ring),
    right_ne_zero_of_mul hden⟩

theorem swift_one_square (nm : ∀ a b : F, ¬ IsSquare a → ¬ IsSquare b → IsSquare (a * b)) (b sm3 u t : F)
    (h2 : (2 : F) ≠ 0) (hs : sm3 * sm3 = -3) (hden : 2 * t * (u * sm3) * (u * u * u + b + t * t) ≠ 0)
    (h3' : ¬ IsSquare (gF 0 b (swiftCand b sm3 u t).2.2)) (h2' : ¬ IsSquare (gF 0 b (swiftCand b sm3 u t).2.1)) :
    IsSquare (gF 0 b (swiftCand b sm3 u t).1) := by
  obtain ⟨ht, hu, hsm, hsum⟩ := swift_den_ne hden
  have hi : (2 : F)⁻¹ * 2 = 1 := inv_mul_cancel₀ h2
  unfold swiftCand at h3' h2' ⊢
  simp only at h3' h2' ⊢
  -- the conic X² + 3u²Y² = −g(u) and its point (X, Y)
  obtain ⟨X, hXdef⟩ : ∃ X, X = (u * u * u + b - t * t) * (2 * t)⁻¹ := ⟨_, rfl⟩
  rw [← hXdef] at h3' h2' ⊢
  have hX : 2 * t * X = u * u * u + b - t * t := by rw [hXdef, mul_comm, inv_mul_cancel_right₀ (mul_ne_zero h2 ht)]
  obtain ⟨Y, hYdef⟩ : ∃ Y, Y = (X + t) * (u * sm3)⁻¹ := ⟨_, rfl⟩
  rw [← hYdef] at h3' h2' ⊢
  have hY : Y * (u * sm3) = X + t := by rw [hYdef, inv_mul_cancel_right₀ (mul_ne_zero hu hsm)]
  have hY0 : Y ≠ 0 := by
    rw [hYdef]
    refine mul_ne_zero (fun h => hsum ?_) (inv_ne_zero (mul_ne_zero hu hsm))
    linear_combination 2 * t * h - hX
  have conic : X ^ 2 + 3 * u ^ 2 * Y ^ 2 = -gF 0 b u := by
    unfold gF
    linear_combination (-1) * hX - (Y * (u * sm3) + X + t) * hY + Y ^ 2 * u ^ 2 * hs
  obtain ⟨r, hrdef⟩ : ∃ r, r = X * Y⁻¹ := ⟨_, rfl⟩
  rw [← hrdef] at h2' ⊢
  have hr : r * Y = X := by rw [hrdef, inv_mul_cancel_right₀ hY0]
  -- `sw_key` with z = u/2, m = r/2, w = 2Y
  have h2u : 2 * (u * 2⁻¹) = u := by linear_combination u * hi
  have e1 : r * 2⁻¹ * (2 * Y) = X := by linear_combination hr + r * Y * hi
  have e2 : u * 2⁻¹ * (2 * Y) = u * Y := by linear_combination u * Y * hi
  have hsq := sw_square 0 b (u * 2⁻¹) (r * 2⁻¹) (2 * Y) (mul_ne_zero h2 hY0) (by
    rw [h2u]
    linear_combination (r * 2⁻¹ * (2 * Y) + X) * e1 + 3 * (u * 2⁻¹ * (2 * Y) + u * Y) * e2 + conic)
  rw [show -(u * 2⁻¹) - r * 2⁻¹ = (-r - u) * 2⁻¹ by ring, show -(u * 2⁻¹) + r * 2⁻¹ = (r - u) * 2⁻¹ by ring,
    show 2 * (u * 2⁻¹) + (2 * Y) ^ 2 = u + 4 * (Y * Y) by linear_combination u * hi,
    mul_comm (gF 0 b _) (gF 0 b _)] at hsq
  exact isSquare_of_three nm hsq h2' h3'

section swiftmaps
variable (isSq : F → Bool) (sqrt : F → F) (sgn0 : F → Bool)

/-- the abscissa SwiftEC selects among the candidates: x3 over x2 over x1 -/
def swiftPick (b : F) (c : F × F × F) : F := pickSq isSq (gF 0 b) [c.2.2, c.2.1] c.1

theorem swiftX_unfold (b sm3 u t : F) :
    swiftX (fOps isSq sqrt sgn0) ⟨0, b⟩ sm3 u t =
      if 2 * t * (u * sm3) * (u * u * u + b + t * t) = 0 then none
      else some (swiftPick isSq b (swiftCand b sm3 u t)) := by
  simp only [swiftX, swiftPick, pickSq, swiftCand, g_eq]
  simp only [fOps, one_add_one_eq_two, two_add_two_eq_four, decide_eq_true_eq]
  -- the two sides differ in the `Decidable` instance of the test only
  congr 1

/-- the a = 0 branch of ep_map_swift_impl (h0 … h8, n1, n2, d1, one inversion) computes the three SwiftEC candidates, and
    detects exactly the exceptional parameters -/
theorem swiftC_eq (b tau u t : F) (h2 : (2 : F) ≠ 0) :
    swiftC (fOps isSq sqrt sgn0) b tau u t =
      if 2 * t * (u * tau) * (u * u * u + b + t * t) = 0 then none else some (swiftCand b tau u t) := by
  simp only [swiftC, swiftCand]
  simp only [fOps, decide_eq_true_eq]
  have hw : (t * t + t * t + (u * u * u + b - t * t)) * (u * tau * t + u * tau * t) +
      (t * t + t * t + (u * u * u + b - t * t)) * (u * tau * t + u * tau * t) =
      2 * (2 * t * (u * tau) * (u * u * u + b + t * t)) := by ring
  rw [hw]
  by_cases hden : 2 * t * (u * tau) * (u * u * u + b + t * t) = 0
  · rw [if_pos hden, if_pos (by rw [hden, mul_zero])]
  · rw [if_neg hden, if_neg (mul_ne_zero h2 hden)]
    obtain ⟨ht, hu, hta, hsum⟩ := swift_den_ne hden
    obtain ⟨S, hS⟩ : ∃ S, S = u * u * u + b + t * t := ⟨_, rfl⟩
    have hub : u * u * u + b = S - t * t := by rw [hS]; ring
    rw [← hS] at hsum ⊢
    rw [hub]
    have hXt : (S - t * t - t * t) * (2 * t)⁻¹ + t = S * (2 * t)⁻¹ := by
      field_simp; ring
    have hY0 : ((S - t * t - t * t) * (2 * t)⁻¹ + t) * (u * tau)⁻¹ ≠ 0 := by
      rw [hXt]
      exact mul_ne_zero (mul_ne_zero hsum (inv_ne_zero (mul_ne_zero h2 ht))) (inv_ne_zero (mul_ne_zero hu hta))
    have hh3 : t * t + t * t + (S - t * t - t * t) = S := by ring
    rw [hh3]
    congr 1
    refine Prod.ext ?_ (Prod.ext ?_ ?_)
    · simp only; rw [hXt]; field_simp; ring
    · simp only; rw [hXt]; field_simp; ring
    · simp only; rw [hXt]; field_simp; ring

theorem swiftSelC_eq (b : F) (c : F × F × F) (s : Bool) :
    swiftSelC (fOps isSq sqrt sgn0) 0 b c s =
      (swiftPick isSq b c,
        if sgn0 (sqrt (gF 0 b (swiftPick isSq b c))) == s then -(sqrt (gF 0 b (swiftPick isSq b c)))
        else sqrt (gF 0 b (swiftPick isSq b c))) := by
  simp only [swiftSelC, swiftSelPre, swiftPick, pickSq, rhsC_eq]
  simp only [fOps]
  by_cases h3 : isSq (gF 0 b c.2.2) = true <;> by_cases h2 : isSq (gF 0 b c.2.1) = true <;>
    simp only [h3, h2, Bool.false_eq_true, if_true, if_false] <;>
    (congr 1; cases sgn0 (sqrt _) <;> cases s <;> rfl)

end swiftmaps

/-! ### Elligator 2 -/

section edwards
open Relic.Spec.H2CEd
variable (isSq : F → Bool) (sqrt : F → F) (sgn0 : F → Bool)

def gMF (J x : F) : F := x ^ 3 + J * x ^ 2 + x

theorem gM_eq (J x : F) : gM (fOps isSq sqrt sgn0) J x = gMF J x := by
  simp only [gM, fOps, gMF]; ring

/-- the first candidate of Elligator 2 (x1 of RFC 9380 §6.7.1, after the patch of the exceptional case) -/
def ell2X1 (J Z u : F) : F := if -(J * (1 + Z * (u * u))⁻¹) = 0 then -J else -(J * (1 + Z * (u * u))⁻¹)

/-- g(x2) = Z u² g(x1) off the exceptional case (x2 = −x1 − J has the same cofactor x² + J x + 1 as x1); x1 = −J, x2 = 0
    in it -/
theorem ell2_x2_isSquare (nm : ∀ a b : F, ¬ IsSquare a → ¬ IsSquare b → IsSquare (a * b)) (J Z : F)
    (hZ : ¬ IsSquare Z) (u : F) (h1 : ¬ IsSquare (gMF J (ell2X1 J Z u))) :
    IsSquare (gMF J (-(ell2X1 J Z u) - J)) := by
  unfold ell2X1 at h1 ⊢
  split_ifs at h1 ⊢ with hx
  · have e : gMF J (- -J - J) = 0 := by unfold gMF; ring
    rw [e]
    exact IsSquare.zero
  · have hD : (1 + Z * (u * u)) ≠ 0 := by
      intro h; apply hx; rw [h, inv_zero, mul_zero, neg_zero]
    have hDi : (1 + Z * (u * u)) * (1 + Z * (u * u))⁻¹ = 1 := mul_inv_cancel₀ hD
    have e2 : - -(J * (1 + Z * (u * u))⁻¹) - J = Z * (u * u) * (-(J * (1 + Z * (u * u))⁻¹)) := by
      linear_combination J * hDi
    have e3 : gMF J (- -(J * (1 + Z * (u * u))⁻¹) - J) = u * u * (Z * gMF J (-(J * (1 + Z * (u * u))⁻¹))) := by
      unfold gMF
      linear_combination ((-(J * (1 + Z * (u * u))⁻¹)) ^ 2 + J * (-(J * (1 + Z * (u * u))⁻¹)) + 1) * e2
    rw [e3]
    exact (IsSquare.mul_self _).mul (nm _ _ hZ h1)

end edwards

/-! ### binary curves: the quadratic of eb_map -/

theorem eb_solution_on_curve (a b x l : F) (hx : x ≠ 0) (hl : l * l + l = (x ^ 3 + a * x ^ 2 + b) / (x * x)) :
    (l * x) * (l * x) + x * (l * x) = x ^ 3 + a * x ^ 2 + b := by
  have h : (l * x) * (l * x) + x * (l * x) = (l * l + l) * (x * x) := by ring
  rw [h, hl]; field_simp

/-- in characteristic 2 the other solution λ + 1 gives the opposite point (x, y + x) -/
theorem eb_other_root {R : Type} [CommRing R] [CharP R 2] (l : R) : (l + 1) * (l + 1) + (l + 1) = l * l + l := by
  have h2 : (2 : R) = 0 := CharTwo.two_eq_zero
  linear_combination (l + 1) * h2

/-! ### try-and-increment -/

/-- the predicate the try-and-increment loop tests (fp_smb(g(x)) = 1): g(x) is a non-zero square -/
def goodX (p a b x : Nat) : Prop := (x * x % p * x + a * x + b) % p ≠ 0 ∧ isSqMod p ((x * x % p * x + a * x + b) % p) = true

instance (p a b x : Nat) : Decidable (goodX p a b x) := by unfold goodX; infer_instance

theorem tryIncrement_none (p a b : Nat) (hp : 0 < p) : ∀ (fuel x : Nat), x < p → tryIncrement p a b fuel x = none →
    ∀ k, k < fuel → ¬ goodX p a b ((x + k) % p) := by
  intro fuel
  induction fuel with
  | zero => intro x _ _ k hk; omega
  | succ n ih =>
    intro x hx h k hk
    unfold tryIncrement at h
    simp only at h
    split_ifs at h with hg
    rcases k with _ | k
    · rw [Nat.add_zero, Nat.mod_eq_of_lt hx]; exact hg
    · have := ih ((x + 1) % p) (Nat.mod_lt _ hp) h k (by omega)
      rw [Nat.mod_add_mod] at this
      rw [show x + (k + 1) = x + 1 + k by omega]
      exact this

end Relic.Lemmas.MapToCurve
