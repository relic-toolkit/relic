/-
C08: the length bookkeeping of the modelled functions — a result either fits the storage it is written to
(capacity `cfg.cap` digits of a bn, the caller's recoding / byte / character buffer) or the function reports an
error (`none` / `.error`) and produces nothing.
The `example`s at the head show why the bounds have the shape they have.
-/
import RelicVerif.Lemmas.BnSqrBasic
import RelicVerif.Lemmas.Rec
import RelicVerif.Lemmas.BnConv
import RelicVerif.Lemmas.Md

namespace Relic.Lemmas.Bounds
open Relic.Model Relic.Model.Rec Relic.Model.Md
open Relic.Spec.Mac (Bytes Hash)

/-- `max cfg.cap 1`, not `cfg.cap`: `bn_trim` writes the single digit 0 for a zero result, so with `cfg.cap = 0` and empty
    operands the result has `used = 1 > 0`. For `0 < cfg.cap` the two coincide (`le_cap_of_pos`); `bnDbl_fits` and
    `bnMulDig_fits` give `cfg.cap` itself (their guard is `used + 1`). -/
example : (bnAdd { w := 8, cap := 0 } ⟨false, []⟩ ⟨false, []⟩).map (·.used) = some 1 ∧
    (bnSub { w := 8, cap := 0 } ⟨false, []⟩ ⟨false, []⟩).map (·.used) = some 1 ∧
    (bnMulBasic { w := 8, cap := 0 } ⟨false, []⟩ ⟨false, []⟩).map (·.used) = some 1 ∧
    (bnMulComba { w := 8, cap := 0 } ⟨false, []⟩ ⟨false, []⟩).map (·.used) = some 1 ∧
    (bnSqrBasic { w := 8, cap := 0 } ⟨false, []⟩).map (·.used) = some 1 ∧
    (bnLsh { w := 8, cap := 0 } ⟨false, []⟩ 0).map (·.used) = some 1 := by decide

/-- bn_rec_win with an empty buffer is refused, also for the zero scalar (`*len < 1`; its recoding is the single window 0).
    `recWin_fits` assumes `0 < w`: the window width 0 is outside the interface (the C code divides by it). -/
example : recWin 0 0 4 = none ∧ recWin 1 0 4 = some [0] := by decide

/-- why `bnWriteStr_length` assumes `radix = 2 → ∀ d ∈ a.dp, d < cfg.B`: in radix 2 the size is taken from bn_bits, which looks
    at the top digit only. Digit 8 in a one-bit-digit number: announced size 3 (2 characters + NUL), 4 characters written. -/
example : bnSizeStr { w := 1, cap := 8 } ⟨false, [8, 1]⟩ 2 = some 3 ∧
    (bnWriteStr { w := 1, cap := 8 } 3 ⟨false, [8, 1]⟩ 2).toOption = some "1010" := by decide

theorem le_cap_of_pos (cfg : Cfg) {n : Nat} (hc : 0 < cfg.cap) (h : n ≤ max cfg.cap 1) : n ≤ cfg.cap := by
  omega

variable (cfg : Cfg)

theorem fits_trim {neg : Bool} {l : List Nat} (h : l.length ≤ max cfg.cap 1) :
    Ret (some (bnTrim { neg := neg, dp := l })) fun c => c.used ≤ max cfg.cap 1 := by
  have := bnTrim_used_le { neg := neg, dp := l }
  exact .ok (by simp only [Bn.used] at this ⊢; omega)

attribute [local simp] addCore_length subCore_length Bn.used

theorem bnAddImp_fits (neg : Bool) (a b : Bn) (ha : a.used ≤ cfg.cap) :
    Ret (bnAddImp cfg neg a b) fun c => c.used ≤ max cfg.cap 1 := by
  rw [bnAddImp_eq]
  refine .ite (fun _ => fits_trim cfg (by simp at ha ⊢; omega)) fun _ => .guard fun _ =>
    .ite (fun _ => .guard fun hg => ?_) fun _ => ?_
  · exact fits_trim cfg (by simp at hg ⊢; omega)
  · exact fits_trim cfg (by simp at ha ⊢; omega)

theorem bnSubImp_fits (neg : Bool) (a b : Bn) (ha : a.used ≤ cfg.cap) :
    Ret (bnSubImp cfg neg a b) fun c => c.used ≤ max cfg.cap 1 := by
  rw [bnSubImp_eq]
  exact .ite (fun _ => fits_trim cfg (by simp at ha ⊢; omega)) fun _ => .guard fun _ =>
    fits_trim cfg (by simp at ha ⊢; omega)

theorem addSigned_fits (a b : Bn) (sb : Bool) (ha : a.used ≤ cfg.cap) (hb : b.used ≤ cfg.cap) :
    Ret (addSigned cfg a b sb) fun c => c.used ≤ max cfg.cap 1 := by
  unfold addSigned
  split <;> split
  · exact bnAddImp_fits cfg _ _ _ hb
  · exact bnAddImp_fits cfg _ _ _ ha
  · exact bnSubImp_fits cfg _ _ _ hb
  · exact bnSubImp_fits cfg _ _ _ ha

theorem bnAdd_fits (a b c : Bn) (ha : a.used ≤ cfg.cap) (hb : b.used ≤ cfg.cap) (h : bnAdd cfg a b = some c) :
    c.used ≤ max cfg.cap 1 :=
  addSigned_fits cfg a b b.neg ha hb c h

theorem bnSub_fits (a b c : Bn) (ha : a.used ≤ cfg.cap) (hb : b.used ≤ cfg.cap) (h : bnSub cfg a b = some c) :
    c.used ≤ max cfg.cap 1 :=
  addSigned_fits cfg a b (!b.neg) ha hb c (bnSub_eq cfg a b ▸ h)


theorem bnMulBasic_fits (a b c : Bn) (h : bnMulBasic cfg a b = some c) : c.used ≤ max cfg.cap 1 := by
  revert c
  rw [bnMulBasic_eq]
  refine Ret.guard fun hg => fits_trim cfg ?_
  rw [mulBasicFold_length _ _ _ _ _ fun i hi => by simpa using Nat.le_of_lt (Nat.lt_add_right _ (List.mem_range.1 hi))]
  simp at hg ⊢; omega

theorem bnMulComba_fits (a b c : Bn) (h : bnMulComba cfg a b = some c) : c.used ≤ max cfg.cap 1 := by
  revert c
  rw [bnMulComba_eq]
  refine Ret.guard fun hg => fits_trim cfg ?_
  unfold combaDigits
  split <;> (rw [muldLow_length _ _ _ _ _ (by omega)]; simp at hg; omega)

theorem bnSqrBasic_fits (a c : Bn) (h : bnSqrBasic cfg a = some c) : c.used ≤ max cfg.cap 1 := by
  revert c
  rw [bnSqrBasic_eq]
  exact Ret.guard fun hg => fits_trim cfg (by simp only [List.length_take]; omega)

set_option linter.unusedVariables false in
/-- (`ha` is not needed: the guard alone bounds the result) -/
theorem bnLsh_fits (a c : Bn) (k : Nat) (ha : a.used ≤ cfg.cap) (h : bnLsh cfg a k = some c) :
    c.used ≤ max cfg.cap 1 := by
  revert c
  rw [bnLsh_eq]
  refine Ret.guard fun hg => ?_
  split at hg
  · rw [if_pos ‹_›]
    exact .ite (fun _ => fits_trim cfg (by simp at hg ⊢; omega)) fun _ => fits_trim cfg (by simp at hg ⊢; omega)
  · rw [if_neg ‹_›]
    exact fits_trim cfg (by simp at hg ⊢; omega)

set_option linter.unusedVariables false in
/-- (`ha` is not needed: the guard alone bounds the result) -/
theorem bnDbl_fits (a c : Bn) (ha : a.used ≤ cfg.cap) (h : bnDbl cfg a = some c) : c.used ≤ cfg.cap := by
  revert c
  rw [bnDbl_eq]
  exact Ret.guard fun hg => .ite (fun _ => .ok (by simp at hg ⊢; omega)) fun _ => .ok (by simp at hg ⊢; omega)

set_option linter.unusedVariables false in
/-- (`ha` is not needed: the guard alone bounds the result) -/
theorem bnMulDig_fits (a c : Bn) (d : Nat) (ha : a.used ≤ cfg.cap) (h : bnMulDig cfg a d = some c) :
    c.used ≤ cfg.cap := by
  revert c
  rw [bnMulDig_eq]
  refine Ret.guard fun hg => .ok ?_
  have := bnTrim_used_le { neg := a.neg, dp := (mul1Low cfg.B a.dp d 0).1 ++ [(mul1Low cfg.B a.dp d 0).2] }
  simp at this hg ⊢; omega


theorem recWin_fits (cap k w : Nat) (hw : 0 < w) (ds : List Int) (h : recWin cap k w = some ds) : ds.length ≤ cap :=
  (recWin_length cap k w hw ds h).2

theorem recSlw_fits (cap k w : Nat) (hw : 0 < w) (ds : List Int) (h : recSlw cap k w = some ds) : ds.length ≤ cap :=
  (recSlw_spec cap k w hw ds h).2.2.2

theorem nafNext_small (w t : Nat) (hw : w < 2) : nafNext w t = t / 2 := by
  unfold nafNext
  split
  · rename_i ht
    have : w = 0 ∨ w = 1 := by omega
    rcases this with rfl | rfl
    · simp [nafU, Nat.mod_one]
    · simp [nafU, ht]; omega
  · rfl

theorem nafOut_length_small (w : Nat) (hw : w < 2) (f t : Nat) : ∀ c, t < 2 ^ c → (nafOut w f t).length ≤ c := by
  fun_induction nafOut w f t with
  | case1 | case2 => simp
  | case3 f t h0 ih =>
    intro c ht
    cases c with
    | zero => simp at ht; omega
    | succ c =>
      rw [nafNext_small w t hw] at ih ⊢
      have := ih c (by rw [Nat.pow_succ] at ht; omega)
      simp only [List.length_cons]; omega

theorem recNaf_fits (cap k w : Nat) (ds : List Int) (h : recNaf cap k w = some ds) : ds.length ≤ cap := by
  by_cases hw : 2 ≤ w
  · exact (recNaf_spec cap k w hw ds h).2.2.2.2
  · obtain ⟨hcap, rfl⟩ := recNaf_eq_some.1 h
    have := nafOut_length_small w (by omega) (bitLen k + 2) k (bitLen k) (lt_two_pow_bitLen k)
    omega

theorem recReg_fits (cap k n w : Nat) (ds : List Int) (h : recReg cap k n w = some ds) : ds.length ≤ cap := by
  have hl := recReg_length cap k n w ds h
  unfold recReg at h
  simp only at h
  split at h
  · exact absurd h (by simp)
  · omega

/-- (the C buffer holds the two rows at offset `max (bits k) (bits l) + 1`) -/
theorem recJsf_fits_both (cap k l : Nat) (a0 a1 : List Int) (h : recJsf cap k l = some (a0, a1)) :
    a0.length + a1.length ≤ cap ∧ a0.length ≤ max (bitLen k) (bitLen l) + 1 ∧
      a1.length ≤ max (bitLen k) (bitLen l) + 1 := by
  obtain ⟨_, _, _, _, he, hlen⟩ := recJsf_spec cap k l a0 a1 h
  unfold recJsf at h
  split at h
  · exact absurd h (by simp)
  · omega

theorem recJsf_fits (cap k l : Nat) (a0 a1 : List Int) (h : recJsf cap k l = some (a0, a1)) :
    a0.length ≤ cap ∧ a1.length ≤ cap := by
  have := recJsf_fits_both cap k l a0 a1 h
  omega


theorem bnWriteBin_length (w len : Nat) (a : Bn) (b : List UInt8) (h : bnWriteBin w len a = some b) : b.length = len :=
  Conv.writeBin_length b h

theorem log2_val_lt_bits (a : Bn) (hd : ∀ d ∈ a.dp, d < cfg.B) (hz : bnIsZero a = false)
    (hv : val cfg.B a.dp ≠ 0) : Nat.log2 (val cfg.B a.dp) < bnBitsW cfg.w a :=
  (Nat.log2_lt hv).2 (val_lt_two_pow_bits cfg a hd hz)

theorem bnWriteStr_length (a : Bn) (radix len : Nat) (hd : radix = 2 → ∀ d ∈ a.dp, d < cfg.B) (s : String)
    (h : bnWriteStr cfg len a radix = .ok s) : s.length + 1 ≤ len := by
  obtain ⟨l, hl, hle, hs⟩ := Conv.bnWriteStr_ok cfg a radix len s h
  unfold bnSizeStr at hl
  split at hl
  · exact absurd hl (by simp)
  split at hl
  · rename_i hz
    rw [if_pos hz] at hs
    simp only [Option.some.injEq] at hl
    subst hs hl
    exact hle
  rename_i hz
  rw [if_neg hz, ← String.toList_inj, String.toList_ofList] at hs
  rw [← String.length_toList, hs]
  simp only [List.length_append, List.length_map, List.length_reverse]
  have hneg : (if a.neg = true then ['-'] else []).length = if a.neg = true then 1 else 0 := by
    split <;> rfl
  rw [hneg]
  split at hl
  · rename_i h2
    subst h2
    simp only [Option.some.injEq] at hl
    have := (Conv.strDigits_length_le_iff (by omega) _ _ _ (Conv.lt_pow_self_succ (by omega) _)).2
      (val_lt_two_pow_bits cfg a (hd rfl) (by simpa using hz))
    omega
  · simp only [Option.some.injEq] at hl
    omega

theorem bnReadBin_fits (bin : List UInt8) (x : Bn) (h : bnReadBin cfg bin = some x) : x.used ≤ max cfg.cap 1 := by
  revert x
  unfold bnReadBin
  simp only
  generalize (if bin.length % (cfg.w / 8) = 0 then bin.length / (cfg.w / 8) else bin.length / (cfg.w / 8) + 1)
    = digs
  refine Ret.guard fun hg => fits_trim cfg ?_
  split
  · simp
  · simp only [List.length_map, List.length_range]; omega

theorem nistKdf_length (H : Hash) (hout : ∀ b, (H.h b).length = H.outLen) (hpos : 0 < H.outLen) (keyLen : Nat) (inp : Bytes)
    (v : Nat) : (nistKdf H keyLen inp v).length = keyLen := by
  rw [Md.nistKdf_eq H hout hpos]
  exact Loops.length_take_flatMap_ceil H.outLen hpos _ _ (fun _ => hout _) keyLen List.length_range

end Relic.Lemmas.Bounds
