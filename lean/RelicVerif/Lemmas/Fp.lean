/-
Prime-field digit level (Model/Fp.lean): modular add/sub/neg/dbl return the canonical residue (of hlv
only the shift half, `hlvShift_spec`; `fp_hlv_canonical` is in Props/C02), and product-scanning Montgomery
reduction computes T·R⁻¹ mod p in canonical form, whence mulm and sqrm. No primality needed here:
p is any odd modulus with n digits and u·p ≡ -1 (mod B).
-/
import RelicVerif.Model.Fp
import RelicVerif.Lemmas.BnLowMul
import RelicVerif.Lemmas.BnLowShift
import RelicVerif.Lemmas.Loops

namespace Relic.Model
open LowMul

structure FpCtx.WF (c : FpCtx) : Prop where
  hw : 0 < c.w
  hn : 0 < c.n
  hlen : c.p.length = c.n
  hdig : ∀ d ∈ c.p, d < c.B
  hodd : c.pv % 2 = 1
  hgt : 1 < c.pv
  hnB : c.n < c.B   -- the column sums of the Comba routines fit the three-digit register

def FpCtx.El (c : FpCtx) (a : List Nat) : Prop := a.length = c.n ∧ (∀ d ∈ a, d < c.B) ∧ val c.B a < c.pv

namespace FpAux

/-- fp_subm_low after a borrow: d = a + R − b, and adding p wraps around R to a + p − b -/
theorem subm_wrap {a b p R d s co : Nat} (hb : b < p) (hlt : a < b) (ev : d + b = a + R)
    (g1 : s + co * R = d + p) (g2 : co ≤ 1) (ho : s < R) : co = 1 ∧ s < p ∧ s = a + p - b := by
  have : co = 0 ∨ co = 1 := by omega
  rcases this with rfl | rfl <;> omega

theorem one_lt_B (c : FpCtx) (hc : c.WF) : 1 < c.B := by
  unfold FpCtx.B
  exact Nat.one_lt_two_pow (by have := hc.hw; omega)

theorem pv_lt_R (c : FpCtx) (hc : c.WF) : c.pv < c.R := by
  have := val_lt c.B c.p hc.hdig
  rwa [hc.hlen] at this

/-- the conditional final subtraction shared by addm, dblm and rdcn -/
theorem condSub_spec (c : FpCtx) (hc : c.WF) (s : List Nat) (carry : Nat) (hl : s.length = c.n)
    (hd : ∀ d ∈ s, d < c.B) (hcarry : carry ≤ 1) (hX : val c.B s + carry * c.R < 2 * c.pv) :
    c.El (if carry ≠ 0 ∨ dvCmp s c.p ≠ -1 then (subnLow c.B s c.p 0).1 else s)
    ∧ val c.B (if carry ≠ 0 ∨ dvCmp s c.p ≠ -1 then (subnLow c.B s c.p 0).1 else s)
        = (val c.B s + carry * c.R) % c.pv := by
  have hB := one_lt_B c hc
  have hpR := pv_lt_R c hc
  obtain ⟨s4, s3, hge, hlt⟩ := subnLow_cases c.B hB s c.p (by rw [hl, hc.hlen]) hd hc.hdig
  obtain ⟨_, hcmp, _⟩ := dvCmp_spec c.B s c.p (by rw [hl, hc.hlen]) hd hc.hdig
  rw [hl] at s4 hlt
  rw [show val c.B c.p = c.pv from rfl] at hge hlt hcmp
  rw [show c.B ^ c.n = c.R from rfl] at hlt
  by_cases hcond : carry ≠ 0 ∨ dvCmp s c.p ≠ -1
  · rw [if_pos hcond]
    by_cases hc0 : carry = 0
    · subst hc0
      have hsp : c.pv ≤ val c.B s :=
        Nat.le_of_not_lt fun h' => hcond.elim (fun h => h rfl) (fun h => h (hcmp.2 h'))
      rw [Nat.zero_mul, Nat.add_zero] at hX ⊢
      rw [mod_sub_once _ _ hsp hX, (hge hsp).2]
      exact ⟨⟨s4, s3, by rw [(hge hsp).2]; omega⟩, rfl⟩
    · obtain rfl : carry = 1 := by omega
      -- a carry out with the sum below 2p: the digits alone are below p, and subtracting p on n digits wraps around R
      have e := (hlt (by omega)).2
      rw [mod_sub_once _ _ (by omega) hX]
      exact ⟨⟨s4, s3, by omega⟩, by omega⟩
  · rw [if_neg hcond]
    have h0 : carry = 0 := by
      apply Classical.byContradiction; intro h; exact hcond (Or.inl h)
    have hlt : val c.B s < c.pv := by
      apply hcmp.1
      apply Classical.byContradiction; intro h; exact hcond (Or.inr h)
    subst h0
    simp only [Nat.zero_mul, Nat.add_zero]
    rw [Nat.mod_eq_of_lt hlt]
    exact ⟨⟨hl, hd, hlt⟩, rfl⟩

end FpAux
open FpAux

theorem fpAddm_spec (c : FpCtx) (hc : c.WF) (a b : List Nat) (ha : c.El a) (hb : c.El b) :
    c.El (fpAddm c a b) ∧ val c.B (fpAddm c a b) = (val c.B a + val c.B b) % c.pv := by
  have hB := one_lt_B c hc
  obtain ⟨al, ad, av⟩ := ha
  obtain ⟨bl, bd, bv⟩ := hb
  obtain ⟨h1, h2, h3, h4⟩ := addnLow_spec c.B hB a b 0 (by rw [al, bl]) (by omega) ad bd
  rw [al] at h1 h4
  have := condSub_spec c hc (addnLow c.B a b 0).1 (addnLow c.B a b 0).2 h4 h3 h2
    (by rw [show c.R = c.B ^ c.n from rfl, h1]; omega)
  rw [show c.R = c.B ^ c.n from rfl, h1, Nat.add_zero] at this
  exact this

theorem fpDblm_spec (c : FpCtx) (hc : c.WF) (a : List Nat) (ha : c.El a) :
    c.El (fpDblm c a) ∧ val c.B (fpDblm c a) = (2 * val c.B a) % c.pv := by
  have := fpAddm_spec c hc a a ha ha
  rw [← Nat.two_mul] at this
  exact this

theorem fpSubm_spec (c : FpCtx) (hc : c.WF) (a b : List Nat) (ha : c.El a) (hb : c.El b) :
    c.El (fpSubm c a b) ∧ val c.B (fpSubm c a b) = (val c.B a + c.pv - val c.B b) % c.pv := by
  have hB := one_lt_B c hc
  have hpR := pv_lt_R c hc
  obtain ⟨al, ad, av⟩ := ha
  obtain ⟨bl, bd, bv⟩ := hb
  obtain ⟨h4, h3, hge, hlt⟩ := subnLow_cases c.B hB a b (by rw [al, bl]) ad bd
  rw [al] at h4 hlt
  have e : fpSubm c a b = if (subnLow c.B a b 0).2 ≠ 0
      then (addnLow c.B (subnLow c.B a b 0).1 c.p 0).1 else (subnLow c.B a b 0).1 := rfl
  rw [e]
  by_cases hle : val c.B b ≤ val c.B a
  · obtain ⟨e0, ev⟩ := hge hle
    have hv : val c.B a + c.pv - val c.B b = val c.B a - val c.B b + c.pv := by omega
    rw [e0, if_neg (fun h => h rfl), ev, hv, Nat.add_mod_right,
      Nat.mod_eq_of_lt (Nat.lt_of_le_of_lt (Nat.sub_le _ _) av)]
    exact ⟨⟨h4, h3, by rw [ev]; exact Nat.lt_of_le_of_lt (Nat.sub_le _ _) av⟩, rfl⟩
  · obtain ⟨e1, ev⟩ := hlt (Nat.lt_of_not_le hle)
    obtain ⟨g1, g2, g3, g4⟩ := addnLow_spec c.B hB (subnLow c.B a b 0).1 c.p 0 (by rw [h4, hc.hlen])
      (by omega) h3 hc.hdig
    have ho := val_lt c.B _ g3
    rw [g4, h4] at ho
    rw [h4, Nat.add_zero] at g1
    obtain ⟨_, w1, w2⟩ := subm_wrap bv (Nat.lt_of_not_le hle) ev g1 g2 ho
    rw [e1, if_pos Nat.one_ne_zero, ← w2, Nat.mod_eq_of_lt w1]
    exact ⟨⟨g4.trans h4, g3, w1⟩, rfl⟩

theorem fpNegm_spec (c : FpCtx) (hc : c.WF) (a : List Nat) (ha : c.El a) :
    c.El (fpNegm c a) ∧ val c.B (fpNegm c a) = (c.pv - val c.B a) % c.pv := by
  have hB := one_lt_B c hc
  have hpR := pv_lt_R c hc
  have hgt := hc.hgt
  obtain ⟨al, ad, av⟩ := ha
  unfold fpNegm
  by_cases hz : a.all (· == 0) = true
  · rw [if_pos hz]
    have h0 := (all_zero_iff c.B (by omega) a).1 hz
    rw [h0, Nat.sub_zero, Nat.mod_self, val_replicate_zero]
    refine ⟨⟨by simp, ?_, by rw [val_replicate_zero]; omega⟩, rfl⟩
    intro d hd
    rw [List.mem_replicate] at hd
    omega
  · rw [if_neg hz]
    have h0 : val c.B a ≠ 0 := fun h => hz ((all_zero_iff c.B (by omega) a).2 h)
    obtain ⟨h4, h3, hge, _⟩ := subnLow_cases c.B hB c.p a (by rw [al, hc.hlen]) hc.hdig ad
    obtain ⟨_, ev⟩ := hge (Nat.le_of_lt av)
    rw [hc.hlen] at h4
    rw [ev, show val c.B c.p = c.pv from rfl, Nat.mod_eq_of_lt (by omega)]
    exact ⟨⟨h4, h3, by rw [ev]; show c.pv - val c.B a < c.pv; omega⟩, rfl⟩

/-- the high half of the product a·1 is 0, so the second half of RLC_COMBA_STEP_MUL does nothing -/
theorem combaAdd_eq_stepMul (B : Nat) (r : Nat × Nat × Nat) (a : Nat) (ha : a < B) :
    combaAdd B r a = combaStepMul B r a 1 := by
  simp [combaAdd, combaStepMul, Nat.mod_eq_of_lt ha, Nat.div_eq_of_lt ha]

theorem combaAdd_spec (B : Nat) (hB : 1 < B) (r : Nat × Nat × Nat) (a : Nat)
    (hr2 : r.1 < B) (hr1 : r.2.1 < B) (hr0 : r.2.2 < B) (ha : a < B)
    (hfit : regVal B r + a < B * B * B) :
    regVal B (combaAdd B r a) = regVal B r + a
    ∧ (combaAdd B r a).1 < B ∧ (combaAdd B r a).2.1 < B ∧ (combaAdd B r a).2.2 < B := by
  rw [combaAdd_eq_stepMul B r a ha]
  simpa only [Nat.mul_one] using combaStepMul_spec B hB r a 1 hr2 hr1 hr0 ha hB (by rwa [Nat.mul_one])

namespace FpAux

theorem xor_two_pow (x k : Nat) (hx : x < 2 ^ k) : x ^^^ 2 ^ k = x + 2 ^ k := by
  have h1 : (x ^^^ 2 ^ k) % 2 ^ k = x := by
    rw [Nat.xor_mod_two_pow, Nat.mod_self, Nat.xor_zero, Nat.mod_eq_of_lt hx]
  have h2 : (x ^^^ 2 ^ k) / 2 ^ k = 1 := by
    rw [Nat.xor_div_two_pow, Nat.div_eq_of_lt hx, Nat.div_self (Nat.two_pow_pos k), Nat.zero_xor]
  have := Nat.div_add_mod (x ^^^ 2 ^ k) (2 ^ k)
  rw [h1, h2] at this
  omega

/-- the second half of fp_hlvm_low: shift right by one bit and put the carry of the addition back as the top bit -/
theorem hlvShift_spec (w n : Nat) (hw : 0 < w) (hn : 0 < n) (t : List Nat) (carry : Nat) (tl : t.length = n)
    (td : ∀ d ∈ t, d < 2 ^ w) (hc : carry ≤ 1) (hev : (val (2 ^ w) t + carry * (2 ^ w) ^ n) % 2 = 0) :
    ∃ out, (if carry ≠ 0 then (rsh1Low w t).1.set (n - 1) ((rsh1Low w t).1.getD (n - 1) 0 ^^^ 2 ^ (w - 1))
        else (rsh1Low w t).1) = out ∧
      out.length = n ∧ (∀ d ∈ out, d < 2 ^ w) ∧ 2 * val (2 ^ w) out = val (2 ^ w) t + carry * (2 ^ w) ^ n := by
  obtain ⟨g1, _, g3, g4⟩ := rsh1Low_spec w hw t td
  have ht := val_lt _ t td
  rw [tl] at g4 ht
  generalize (rsh1Low w t).1 = r at g1 g3 g4 ⊢
  by_cases hcar : carry ≠ 0
  · obtain rfl : carry = 1 := by omega
    obtain ⟨k, rfl⟩ : ∃ k, n = k + 1 := ⟨n - 1, by omega⟩
    obtain ⟨v, rfl⟩ : ∃ v, w = v + 1 := ⟨w - 1, by omega⟩
    -- B^n = 2 · (B^k · 2^v), and the top digit of r is below 2^v
    have hBn : (2 ^ (v + 1)) ^ (k + 1) = 2 * ((2 ^ (v + 1)) ^ k * 2 ^ v) := by
      rw [Nat.pow_succ, Nat.pow_succ 2 v, Nat.mul_comm (2 ^ v) 2, Nat.mul_left_comm]
    have hx : r.getD k 0 < 2 ^ v := by
      have h5 := getD_mul_le (2 ^ (v + 1)) r k
      exact Nat.lt_of_mul_lt_mul_left (a := (2 ^ (v + 1)) ^ k) (by omega)
    have hs := val_set (2 ^ (v + 1)) r k (r.getD k 0 + 2 ^ v) (by omega)
    rw [Nat.add_mul, Nat.mul_comm (2 ^ v)] at hs
    rw [if_pos hcar, Nat.add_sub_cancel, Nat.add_sub_cancel, xor_two_pow _ _ hx]
    refine ⟨_, rfl, by rw [List.length_set, g4], fun d hd => ?_, by omega⟩
    rcases List.mem_or_eq_of_mem_set hd with hd | rfl
    · exact g3 d hd
    · rw [Nat.pow_succ]; omega
  · obtain rfl : carry = 0 := by omega
    exact ⟨r, if_neg hcar, g4, g3, by omega⟩

/-- body of the first loop of fp_rdcn_low (columns 0..n-1, quotient digits) -/
def rdcStep1 (B u : Nat) (a m : List Nat) (st : List Nat × (Nat × Nat × Nat)) (i : Nat) :
    List Nat × (Nat × Nat × Nat) :=
  let r0 := (List.range i).foldl
    (fun r j => combaStepMul B r (st.1.getD j 0) (m.getD (i - j) 0)) st.2
  let r1 := combaAdd B r0 (a.getD i 0)
  let qi := (r1.2.2 * u) % B
  let r2 := combaStepMul B r1 qi (m.getD 0 0)
  (st.1 ++ [qi], (0, r2.1, r2.2.1))

def rdcLoop1 (B u : Nat) (a m : List Nat) (cnt : Nat) : List Nat × (Nat × Nat × Nat) :=
  (List.range cnt).foldl (rdcStep1 B u a m) ([], (0, 0, 0))

/-- column k of the second loop of fp_rdcn_low (i = k + n): the products q_j·m_{i−j}, then the digit of T -/
def rdcProc2 (B n : Nat) (a m q : List Nat) (k : Nat) (r : Nat × Nat × Nat) : Nat × Nat × Nat :=
  combaAdd B ((List.range (n - (k + n - n + 1))).foldl
    (fun r jj => combaStepMul B r (q.getD (jj + (k + n - n + 1)) 0)
      (m.getD (k + n - (jj + (k + n - n + 1))) 0)) r) (a.getD (k + n) 0)

/-- a column step that appends the emitted digit, the order in which the C loop writes c[]; `colStep` conses it -/
def colStepR {γ : Type} (proc : γ → Nat × Nat × Nat → Nat × Nat × Nat)
    (st : List Nat × (Nat × Nat × Nat)) (c : γ) : List Nat × (Nat × Nat × Nat) :=
  (st.1 ++ [(proc c st.2).2.2], (0, (proc c st.2).1, (proc c st.2).2.1))

theorem foldl_colStepR {γ : Type} (proc : γ → Nat × Nat × Nat → Nat × Nat × Nat) :
    ∀ (cols : List γ) (st : List Nat × (Nat × Nat × Nat)), cols.foldl (colStepR proc) st =
      ((cols.foldl (colStep proc) (st.1.reverse, st.2)).1.reverse,
        (cols.foldl (colStep proc) (st.1.reverse, st.2)).2)
  | [], st => by simp
  | c :: cs, st => by
    rw [List.foldl_cons, List.foldl_cons, foldl_colStepR proc cs]
    simp [colStepR, colStep]

theorem fpRdcn_eq (c : FpCtx) (a : List Nat) : fpRdcn c a =
    let st1 := rdcLoop1 c.B c.u a c.p c.n
    let st2 := (List.range (c.n - 1)).foldl (colStepR (rdcProc2 c.B c.n a c.p st1.1)) ([], st1.2)
    let r := combaAdd c.B st2.2 (a.getD (2 * c.n - 1) 0)
    if r.2.1 ≠ 0 ∨ dvCmp (st2.1 ++ [r.2.2]) c.p ≠ -1 then (subnLow c.B (st2.1 ++ [r.2.2]) c.p 0).1
    else st2.1 ++ [r.2.2] := rfl

theorem foldl_range_last {σ : Type} (f : σ → Nat → σ) (s : σ) (n : Nat) (hn : 0 < n) :
    (List.range n).foldl f s = f ((List.range (n - 1)).foldl f s) (n - 1) := by
  obtain ⟨k, rfl⟩ : ∃ k, n = k + 1 := ⟨n - 1, by omega⟩
  exact Lemmas.Loops.foldl_range_succ f s k

/-- the last column, which has no products, is the column k = n − 1 of the same loop -/
theorem rdcProc2_last (B n : Nat) (a m q : List Nat) (r : Nat × Nat × Nat) (hn : 0 < n) :
    rdcProc2 B n a m q (n - 1) r = combaAdd B r (a.getD (2 * n - 1) 0) := by
  have e1 : n - (n - 1 + n - n + 1) = 0 := by omega
  have e2 : n - 1 + n = 2 * n - 1 := by omega
  rw [rdcProc2, e1, e2, List.range_zero, List.foldl_nil]

theorem colSum_append_lt (q m : List Nat) (x k : Nat) (hk : k < q.length) :
    colSum (q ++ [x]) m k = colSum q m k := by
  unfold colSum
  apply sumTo_congr
  intro i hi
  show (q ++ [x]).getD i 0 * _ = q.getD i 0 * _
  rw [getD_append_lt q [x] i (by omega)]

theorem colSum_append_eq (q m : List Nat) (x : Nat) :
    colSum (q ++ [x]) m q.length
      = sumTo (fun j => q.getD j 0 * m.getD (q.length - j) 0) q.length + x * m.getD 0 0 := by
  unfold colSum
  show sumTo _ q.length + (q ++ [x]).getD q.length 0 * m.getD (q.length - q.length) 0 = _
  rw [getD_mid q x [] _ rfl, Nat.sub_self]
  congr 1
  apply sumTo_congr
  intro i hi
  show (q ++ [x]).getD i 0 * _ = q.getD i 0 * _
  rw [getD_append_lt q [x] i hi]

/-- every product of two digits is at most (B-1)² = B² + 1 - 2B -/
theorem colVal_le (B : Nat) (hB : 0 < B) (a b : List Nat) (hda : ∀ d ∈ a, d < B) (hdb : ∀ d ∈ b, d < B) :
    ∀ pairs : List (Nat × Nat), colVal a b pairs ≤ pairs.length * (B * B + 1 - 2 * B)
  | [] => Nat.zero_le _
  | ij :: ps => by
    have := mul_le_sq B _ _ (getD_lt B hB a hda ij.1) (getD_lt B hB b hdb ij.2)
    have := colVal_le B hB a b hda hdb ps
    rw [colVal, List.length_cons, Nat.succ_mul]
    omega

theorem fit_bound (B n : Nat) (hB : 1 < B) (hn : n < B) :
    B * B + B + n * (B * B + 1 - 2 * B) ≤ B * B * B + 1 := by
  obtain ⟨b, rfl⟩ : ∃ b, B = b + 1 := ⟨B - 1, by omega⟩
  have hK : (b + 1) * (b + 1) + 1 - 2 * (b + 1) = b * b := by
    have : (b + 1) * (b + 1) = b * b + 2 * b + 1 := by grind
    omega
  rw [hK]
  have h1 : n * (b * b) ≤ b * (b * b) := Nat.mul_le_mul_right _ (by omega)
  have h2 : (b + 1) * (b + 1) + (b + 1) + b * (b * b) ≤ (b + 1) * (b + 1) * (b + 1) + 1 := by grind
  omega

/-- the last conjunct is the room the first loop needs for the product q_i·m_0 it adds next -/
theorem rdc_col (B : Nat) (hB : 1 < B) (q m : List Nat) (hq : ∀ d ∈ q, d < B) (hm : ∀ d ∈ m, d < B)
    (pairs : List (Nat × Nat)) (hlen : pairs.length + 1 < B) (d : Nat) (hd : d < B)
    (r : Nat × Nat × Nat) (h0 : r.1 = 0) (h1 : r.2.1 < B) (h2 : r.2.2 < B) :
    regVal B (combaAdd B (mulProc B q m pairs r) d) = regVal B r + colVal q m pairs + d
    ∧ (combaAdd B (mulProc B q m pairs r) d).1 < B
    ∧ (combaAdd B (mulProc B q m pairs r) d).2.1 < B
    ∧ (combaAdd B (mulProc B q m pairs r) d).2.2 < B
    ∧ regVal B (combaAdd B (mulProc B q m pairs r) d) + (B * B + 1 - 2 * B) < B * B * B := by
  have hr := reg_le B r h0 h1 h2
  have hf := fit_bound B (pairs.length + 1) hB hlen
  rw [Nat.succ_mul] at hf
  have f := colVal_le B (by omega) q m hq hm pairs
  obtain ⟨e, g1, g2, g3⟩ := mulProc_spec B hB q m hq hm pairs (by omega) r h0 h1 h2
  obtain ⟨e', k1, k2, k3⟩ := combaAdd_spec B hB _ d g1 g2 g3 hd (by omega)
  refine ⟨by rw [e', e], k1, k2, k3, by omega⟩

theorem mont_zero (B u m0 r0 : Nat) (hu : (u * m0 + 1) % B = 0) :
    (r0 + (r0 * u % B) * m0) % B = 0 := by
  obtain ⟨t, ht⟩ := Nat.dvd_of_mod_eq_zero hu
  have hdm := Nat.div_add_mod (r0 * u) B
  have key : r0 + (r0 * u % B) * m0 + B * ((r0 * u / B) * m0) = B * (r0 * t) := by
    generalize r0 * u / B = s at *
    generalize r0 * u % B = qi at *
    grind
  rw [← Nat.add_mul_mod_self_left _ B ((r0 * u / B) * m0), key, Nat.mul_mod_right]

theorem regVal_low (B : Nat) (r : Nat × Nat × Nat) (h : r.2.2 < B) : regVal B r % B = r.2.2 := by
  rw [regVal_eq, Nat.add_mul_mod_self_left, Nat.mod_eq_of_lt h]

/-- first-loop invariant: all emitted low digits vanished, the register holds the exact quotient
    (Σ_{k<i} column_k · B^k) / B^i -/
def Inv1 (B : Nat) (a m : List Nat) (i : Nat) (st : List Nat × (Nat × Nat × Nat)) : Prop :=
  st.1.length = i ∧ (∀ d ∈ st.1, d < B) ∧ st.2.1 = 0 ∧ st.2.2.1 < B ∧ st.2.2.2 < B
  ∧ B ^ i * regVal B st.2 = val B ((List.range i).map fun k => a.getD k 0 + colSum st.1 m k)

theorem rdcStep1_inv (B u : Nat) (hB : 1 < B) (a m : List Nat) (hda : ∀ d ∈ a, d < B)
    (hdm : ∀ d ∈ m, d < B) (hu : (u * m.getD 0 0 + 1) % B = 0) (i : Nat) (hi : i + 1 < B)
    (st : List Nat × (Nat × Nat × Nat)) (h : Inv1 B a m i st) :
    Inv1 B a m (i + 1) (rdcStep1 B u a m st i) := by
  obtain ⟨hl, hq, h0, h1, h2, hv⟩ := h
  have e0 : (List.range i).foldl
      (fun r j => combaStepMul B r (st.1.getD j 0) (m.getD (i - j) 0)) st.2
      = mulProc B st.1 m ((List.range i).map fun j => (j, i - j)) st.2 := by
    unfold mulProc; rw [List.foldl_map]
  have hai := getD_lt B (by omega) a hda i
  have hm0 := getD_lt B (by omega) m hdm 0
  obtain ⟨c1, c2, c3, c4, c5⟩ := rdc_col B hB st.1 m hq hdm ((List.range i).map fun j => (j, i - j))
    (by simpa using hi) (a.getD i 0) hai st.2 h0 h1 h2
  rw [colVal_map_range] at c1
  simp only [rdcStep1, e0]
  generalize combaAdd B (mulProc B st.1 m ((List.range i).map fun j => (j, i - j)) st.2)
    (a.getD i 0) = r1 at c1 c2 c3 c4 c5 ⊢
  have hqi : r1.2.2 * u % B < B := Nat.mod_lt _ (by omega)
  have hxy := mul_le_sq B _ _ hqi hm0
  obtain ⟨s1, s2, s3, s4⟩ := combaStepMul_spec B hB r1 _ _ c2 c3 c4 hqi hm0 (by omega)
  have hz : (combaStepMul B r1 (r1.2.2 * u % B) (m.getD 0 0)).2.2 = 0 := by
    rw [← regVal_low B _ s4, s1]
    rw [regVal_eq, Nat.add_right_comm, Nat.add_mul_mod_self_left]
    exact mont_zero B u _ _ hu
  generalize combaStepMul B r1 (r1.2.2 * u % B) (m.getD 0 0) = r2 at s1 s2 s3 s4 hz
  generalize r1.2.2 * u % B = qi at *
  refine ⟨by simp [hl], ?_, rfl, s2, s3, ?_⟩
  · intro d hd
    rcases List.mem_append.1 hd with hd | hd
    · exact hq d hd
    · simp at hd; omega
  · have hcong : (List.range i).map (fun k => a.getD k 0 + colSum (st.1 ++ [qi]) m k)
        = (List.range i).map (fun k => a.getD k 0 + colSum st.1 m k) := by
      apply List.map_congr_left
      intro k hk
      rw [colSum_append_lt _ _ _ _ (by rw [hl]; exact List.mem_range.1 hk)]
    have hlast : colSum (st.1 ++ [qi]) m i
        = sumTo (fun j => st.1.getD j 0 * m.getD (i - j) 0) i + qi * m.getD 0 0 := by
      have := colSum_append_eq st.1 m qi
      rwa [hl] at this
    rw [List.range_succ, List.map_append, val_append, hcong, ← hv, List.length_map,
      List.length_range, List.map_cons, List.map_nil, hlast]
    simp only [val, regVal, Nat.pow_succ] at *
    rw [hz] at s1
    grind

theorem rdcLoop1_inv (B u : Nat) (hB : 1 < B) (a m : List Nat) (hda : ∀ d ∈ a, d < B)
    (hdm : ∀ d ∈ m, d < B) (hu : (u * m.getD 0 0 + 1) % B = 0) :
    ∀ i, i < B → Inv1 B a m i (rdcLoop1 B u a m i) := fun i hi =>
  Lemmas.Loops.foldl_range_ind (rdcStep1 B u a m) (Inv1 B a m)
    ⟨rfl, by simp, rfl, Nat.zero_lt_of_lt hB, Nat.zero_lt_of_lt hB, by simp [regVal, val]⟩ i
    fun k st hk hP => rdcStep1_inv B u hB a m hda hdm hu k (by omega) st hP

/-- the index pairs of a column of the second loop, as the C loop counts them -/
theorem rdcPairs_eq (n k : Nat) :
    (List.range (n - (k + 1))).map (fun jj => (jj + (k + 1), k + n - (jj + (k + 1))))
      = (List.range (n - (k + 1))).map (fun j => (k + 1 + j, n - 1 - j)) :=
  List.map_congr_left fun jj hjj => by
    have := List.mem_range.1 hjj
    simp only [Prod.mk.injEq]
    omega

theorem rdcProc2_spec (B n : Nat) (hB : 1 < B) (hnB : n < B) (a m q : List Nat)
    (hda : ∀ d ∈ a, d < B) (hdm : ∀ d ∈ m, d < B) (hdq : ∀ d ∈ q, d < B)
    (hlm : m.length = n) (hlq : q.length = n) (k : Nat) (hk : k < n)
    (r : Nat × Nat × Nat) (h0 : r.1 = 0) (h1 : r.2.1 < B) (h2 : r.2.2 < B) :
    regVal B (rdcProc2 B n a m q k r) = regVal B r + (a.getD (n + k) 0 + colSum q m (n + k))
    ∧ (rdcProc2 B n a m q k r).1 < B ∧ (rdcProc2 B n a m q k r).2.1 < B
    ∧ (rdcProc2 B n a m q k r).2.2 < B := by
  have e0 : rdcProc2 B n a m q k r
      = combaAdd B (mulProc B q m ((List.range (n - (k + 1))).map fun j => (k + 1 + j, n - 1 - j)) r) (a.getD (n + k) 0) := by
    rw [← rdcPairs_eq, rdcProc2, mulProc, List.foldl_map, Nat.add_sub_cancel, Nat.add_comm n k]
  obtain ⟨c1, c2, c3, c4, _⟩ := rdc_col B hB q m hdq hdm
    ((List.range (n - (k + 1))).map fun j => (k + 1 + j, n - 1 - j))
    (by rw [List.length_map, List.length_range]; omega) (a.getD (n + k) 0) (getD_lt B (by omega) a hda (n + k)) r h0 h1 h2
  rw [colVal_map_range, seg_high q m n k (Nat.le_of_eq hlq) (Nat.le_of_eq hlm) hk] at c1
  rw [e0]
  exact ⟨by rw [c1, Nat.add_assoc, Nat.add_comm (colSum q m (n + k))], c2, c3, c4⟩

/-- the exact quotient computed by the two loops: the first leaves Σ_{k<n} column_k / B^n in the register, the
    second (with the last column) is a Comba pass over the columns n … 2n−1 -/
theorem rdc_core (B u n : Nat) (hB : 1 < B) (hnB : n < B) (a m : List Nat)
    (hla : a.length = 2 * n) (hlm : m.length = n) (hda : ∀ d ∈ a, d < B) (hdm : ∀ d ∈ m, d < B)
    (hu : (u * m.getD 0 0 + 1) % B = 0) (st : List Nat × (Nat × Nat × Nat))
    (hst : st = (List.range n).foldl (colStepR (rdcProc2 B n a m (rdcLoop1 B u a m n).1))
      ([], (rdcLoop1 B u a m n).2)) :
    ∃ Q, Q < B ^ n ∧ B ^ n * (val B st.1 + B ^ n * regVal B st.2) = val B a + Q * val B m
      ∧ st.1.length = n ∧ (∀ d ∈ st.1, d < B) ∧ st.2.1 = 0 := by
  obtain ⟨hl1, hq1, z1, b1, b2, hv1⟩ := rdcLoop1_inv B u hB a m hda hdm hu n hnB
  generalize rdcLoop1 B u a m n = st1 at *
  obtain ⟨q, r0⟩ := st1
  simp only at hl1 hq1 z1 b1 b2 hv1 hst
  obtain ⟨e, d2, z2⟩ := colFold_spec B (rdcProc2 B n a m q)
    (fun k => a.getD (n + k) 0 + colSum q m (n + k)) (List.range n)
    (fun k hk => rdcProc2_spec B n hB hnB a m q hda hdm hq1 hlm hl1 k (List.mem_range.1 hk))
    ([], r0) z1 b1 b2 (by simp)
  have l2 := colFold_length (rdcProc2 B n a m q) (List.range n) ([], r0)
  rw [foldl_colStepR, List.reverse_nil] at hst
  generalize List.foldl (colStep (rdcProc2 B n a m q)) ([], r0) (List.range n) = S at *
  subst hst
  simp only [List.reverse_nil, val, List.length_nil, Nat.pow_zero, Nat.one_mul, Nat.zero_add,
    List.length_range] at e l2
  rw [l2] at e
  have htot : val B ((List.range (n + n)).map fun j => a.getD j 0 + colSum q m j)
      = val B a + val B q * val B m := by
    rw [val_map_add, val_getD_range B a _ (by omega), val_colSum B m q _ (by omega)]
  rw [List.range_add, List.map_append, val_append, List.length_map, List.length_range,
    List.map_map, ← hv1] at htot
  refine ⟨val B q, by have := val_lt B q hq1; rwa [hl1] at this, ?_,
    by rw [List.length_reverse, l2], fun d hd => d2 d (List.mem_reverse.1 hd), z2⟩
  rw [← htot, e, Nat.mul_add]
  rfl

theorem rdc_final (R p T Q V top : Nat) (hp : p < R) (hT : T < p * R) (hQ : Q < R)
    (e : R * (V + R * top) = T + Q * p) :
    top ≤ 1 ∧ V + top * R < 2 * p ∧ ((V + top * R) % p * R) % p = T % p := by
  have hp0 : 0 < p := by
    apply Nat.pos_of_ne_zero; intro h0; subst h0; simp at hT
  have h1 : Q * p < R * p := Nat.mul_lt_mul_of_pos_right hQ hp0
  have h2 : R * (V + R * top) < R * (2 * p) := by
    have : R * (2 * p) = p * R + R * p := by grind
    omega
  have h3 : V + R * top < 2 * p := Nat.lt_of_mul_lt_mul_left h2
  have h4 : top ≤ 1 := by
    apply Classical.byContradiction
    intro hh
    have : R * 2 ≤ R * top := Nat.mul_le_mul_left R (by omega)
    omega
  rw [Nat.mul_comm top R]
  refine ⟨h4, h3, ?_⟩
  rw [Nat.mod_mul_mod, Nat.mul_comm, e, Nat.add_mul_mod_self_right]

end FpAux

-- `hub` (u < B) is not needed by the proof: q_i is reduced mod B whatever u is; kept for the C precondition
set_option linter.unusedVariables false in
/-- fp_rdcn_low, including the final-subtraction and carry-out (r1 ≠ 0) branches -/
theorem fpRdcn_spec (c : FpCtx) (hc : c.WF) (hu : (c.u * c.pv + 1) % c.B = 0) (hub : c.u < c.B)
    (t : List Nat) (hlen : t.length = 2 * c.n) (hdig : ∀ d ∈ t, d < c.B) (hT : val c.B t < c.pv * c.R) :
    c.El (fpRdcn c t) ∧ (val c.B (fpRdcn c t) * c.R) % c.pv = val c.B t % c.pv := by
  have hB := one_lt_B c hc
  have hpR := pv_lt_R c hc
  have hu' : (c.u * c.p.getD 0 0 + 1) % c.B = 0 := by
    have hpl := hc.hlen
    have hn := hc.hn
    have hpv : c.pv = val c.B c.p := rfl
    rw [hpv] at hu
    generalize c.p = m at *
    cases m with
    | nil => simp at hpl; omega
    | cons m0 ms =>
      simp only [val, List.getD_cons_zero] at hu ⊢
      have : c.u * (m0 + c.B * val c.B ms) + 1 = c.u * m0 + 1 + c.B * (c.u * val c.B ms) := by grind
      rwa [this, Nat.add_mul_mod_self_left] at hu
  rw [fpRdcn_eq]
  obtain ⟨Q, hQ, e, rl, rd, z⟩ := rdc_core c.B c.u c.n hB hc.hnB t c.p hlen hc.hlen hdig hc.hdig hu' _ rfl
  rw [foldl_range_last _ _ _ hc.hn] at e rl rd
  simp only [colStepR, rdcProc2_last _ _ _ _ _ _ hc.hn, regVal] at e rl rd ⊢
  generalize combaAdd c.B ((List.range (c.n - 1)).foldl (colStepR (rdcProc2 c.B c.n t c.p
    (rdcLoop1 c.B c.u t c.p c.n).1)) ([], (rdcLoop1 c.B c.u t c.p c.n).2)).2 (t.getD (2 * c.n - 1) 0) = r at *
  generalize ((List.range (c.n - 1)).foldl (colStepR (rdcProc2 c.B c.n t c.p
    (rdcLoop1 c.B c.u t c.p c.n).1)) ([], (rdcLoop1 c.B c.u t c.p c.n).2)).1 ++ [r.2.2] = res at *
  rw [show c.B ^ c.n = c.R from rfl] at e hQ
  rw [show val c.B c.p = c.pv from rfl] at e
  obtain ⟨f1, f2, f3⟩ := rdc_final c.R c.pv _ Q _ _ hpR hT hQ e
  have hr2 : r.1 = 0 := by
    apply Classical.byContradiction
    intro h
    have : c.B * 1 ≤ c.B * r.1 := Nat.mul_le_mul_left _ (by omega)
    omega
  rw [hr2, Nat.mul_zero, Nat.add_zero, Nat.mul_zero, Nat.add_zero] at f1 f2 f3
  obtain ⟨g1, g2⟩ := condSub_spec c hc res r.2.1 rl rd f1 f2
  refine ⟨g1, ?_⟩
  rw [g2, f3]

theorem fpRdcn_prod (c : FpCtx) (hc : c.WF) (hu : (c.u * c.pv + 1) % c.B = 0) (hub : c.u < c.B)
    (t : List Nat) (x y : Nat) (hx : x < c.pv) (hy : y < c.pv)
    (h : val c.B t = x * y ∧ t.length = 2 * c.n ∧ ∀ d ∈ t, d < c.B) :
    c.El (fpRdcn c t) ∧ (val c.B (fpRdcn c t) * c.R) % c.pv = (x * y) % c.pv := by
  rw [← h.1]
  exact fpRdcn_spec c hc hu hub t h.2.1 h.2.2
    (by rw [h.1]; exact Nat.mul_lt_mul'' hx (Nat.lt_trans hy (pv_lt_R c hc)))

theorem fpMulm_spec (c : FpCtx) (hc : c.WF) (hu : (c.u * c.pv + 1) % c.B = 0) (hub : c.u < c.B)
    (a b : List Nat) (ha : c.El a) (hb : c.El b) :
    c.El (fpMulm c a b) ∧ (val c.B (fpMulm c a b) * c.R) % c.pv = (val c.B a * val c.B b) % c.pv :=
  fpRdcn_prod c hc hu hub _ _ _ ha.2.2 hb.2.2
    (mulnLow_spec c.B (one_lt_B c hc) a b c.n ha.1 hb.1 hc.hnB ha.2.1 hb.2.1)

theorem fpSqrm_spec (c : FpCtx) (hc : c.WF) (hu : (c.u * c.pv + 1) % c.B = 0) (hub : c.u < c.B)
    (a : List Nat) (ha : c.El a) :
    c.El (fpSqrm c a) ∧ (val c.B (fpSqrm c a) * c.R) % c.pv = (val c.B a * val c.B a) % c.pv :=
  fpRdcn_prod c hc hu hub _ _ _ ha.2.2 ha.2.2 (sqrnLow_spec c.B (one_lt_B c hc) a c.n ha.1 hc.hnB ha.2.1)

/-- class-B characterisation: a canonical inverse is unique -/
theorem inv_unique (p a x y : Nat) (hx : x < p) (hy : y < p) (h1 : a * x % p = 1) (h2 : a * y % p = 1) : x = y := by
  have e1 : (x * (a * y)) % p = x := by
    rw [Nat.mul_mod, h2, Nat.mul_one, Nat.mod_mod, Nat.mod_eq_of_lt hx]
  have e2 : ((a * x) * y) % p = y := by
    rw [Nat.mul_mod, h1, Nat.one_mul, Nat.mod_mod, Nat.mod_eq_of_lt hy]
  have e3 : x * (a * y) = (a * x) * y := by
    rw [Nat.mul_left_comm, Nat.mul_assoc]
  rw [← e1, e3, e2]

end Relic.Model
