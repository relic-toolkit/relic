/-
The public bn_* layer of the model (RelicVerif/Model/Bn.lean) computes exact integer arithmetic in
normal form.
-/
import RelicVerif.Lemmas.BnLowAdd
import RelicVerif.Lemmas.BnLowShift
import RelicVerif.Lemmas.KnuthDList
import RelicVerif.Model.Bn
import RelicVerif.Lemmas.BnTrim
import RelicVerif.Lemmas.Ret

namespace Relic.Model
open Relic.Lemmas (Ret)

def ExactR (B : Nat) (r : Option Bn) (v : Int) : Prop := ∀ c, r = some c → c.WF B ∧ c.toInt B = v

namespace ExactR
variable {B : Nat} {v : Int}

theorem ret {r : Option Bn} (h : ExactR B r v) : Ret r fun c => c.WF B ∧ c.toInt B = v := h

theorem fail : ExactR B none v := Ret.fail

theorem ok {c : Bn} (h : c.WF B ∧ c.toInt B = v) : ExactR B (some c) v := Ret.ok h

theorem of_eq {r : Option Bn} {u : Int} (h : ExactR B r v) (e : v = u) : ExactR B r u := e ▸ h

theorem guard {p : Prop} [Decidable p] {r : Option Bn} (h : ExactR B r v) :
    ExactR B (if p then none else r) v := Ret.guard fun _ => h

theorem ite {p : Prop} [Decidable p] {r s : Option Bn} (h1 : p → ExactR B r v) (h2 : ¬p → ExactR B s v) :
    ExactR B (if p then r else s) v := Ret.ite h1 h2

theorem bind {r : Option Bn} {u : Int} {f : Bn → Option Bn} (h : ExactR B r v)
    (hf : ∀ c, c.WF B → c.toInt B = v → ExactR B (f c) u) : ExactR B (r >>= f) u :=
  Ret.bind h fun c hc => hf c hc.1 hc.2

/-- the common tail of bn_add_imp and bn_add_dig -/
theorem carry (hB : 0 < B) (neg : Bool) (q : List Nat) (cy n V : Nat) (hq : ∀ d ∈ q, d < B) (hcy : cy < B)
    (hl : q.length = n) (e : val B q + cy * B ^ n = V) (p : Prop) [Decidable p] :
    ExactR B (if cy ≠ 0 then (if p then none else some (bnTrim { neg := neg, dp := q ++ [cy] }))
      else some (bnTrim { neg := neg, dp := q })) (if neg then -(V : Int) else (V : Int)) := by
  split
  · exact guard (ok (bnTrim_snoc_exact hB neg q cy n V hq hcy hl e))
  · exact ok (bnTrim_nocarry_exact hB neg q cy n V hq ‹_› e)

end ExactR

variable (cfg : Cfg)

set_option linter.unnecessarySeqFocus false

theorem bnAddImp_exact (hB : 1 < cfg.B) (neg : Bool) (a b : Bn)
    (hda : ∀ d ∈ a.dp, d < cfg.B) (hdb : ∀ d ∈ b.dp, d < cfg.B) (hle : b.used ≤ a.used)
    (hb0 : b.used ≠ 0) :
    ExactR cfg.B (bnAddImp cfg neg a b)
      (if neg then -((val cfg.B a.dp + val cfg.B b.dp : Nat) : Int)
       else ((val cfg.B a.dp + val cfg.B b.dp : Nat) : Int)) := by
  rw [bnAddImp_eq, if_neg hb0]
  obtain ⟨e, c1, d1, l1⟩ := addCore_spec cfg.B hB a.dp b.dp hle hda hdb
  exact .guard (.carry (by omega) neg _ _ _ _ d1 (by omega) l1 e _)

theorem bnSubImp_exact (hB : 1 < cfg.B) (neg : Bool) (a b : Bn)
    (hda : ∀ d ∈ a.dp, d < cfg.B) (hdb : ∀ d ∈ b.dp, d < cfg.B) (hle : b.used ≤ a.used)
    (hv : val cfg.B b.dp ≤ val cfg.B a.dp) (hb0 : b.used ≠ 0) :
    ExactR cfg.B (bnSubImp cfg neg a b)
      (if neg then -((val cfg.B a.dp : Int) - (val cfg.B b.dp : Int))
       else ((val cfg.B a.dp : Int) - (val cfg.B b.dp : Int))) := by
  rw [bnSubImp_eq, if_neg hb0]
  obtain ⟨e, d1, l1⟩ := subCore_spec cfg.B hB a.dp b.dp hle hv hda hdb
  have := bnTrim_exact (B := cfg.B) (by omega) neg _ d1
  refine .guard (.ok ⟨this.1, ?_⟩)
  rw [this.2]
  split <;> omega

theorem bnAddSubDig_exact (hB : 1 < cfg.B) (a : Bn) (d : Nat) (s r : Bool) (ha : a.WF cfg.B) (hd : d < cfg.B) :
    ExactR cfg.B (bnAddSubDig cfg a d s r)
      (if s then (if r then -((val cfg.B a.dp : Int) + d) else ((val cfg.B a.dp : Int) + d))
       else (if r then -((d : Int) - (val cfg.B a.dp : Int)) else ((d : Int) - (val cfg.B a.dp : Int)))) := by
  rw [bnAddSubDig_eq]
  refine .guard ?_
  cases s
  · simp only [Bool.false_eq_true, if_false]
    split
    · -- |a| ≥ d: subtract the digit, the sign flips
      rename_i hcond
      obtain ⟨e, c2, d2, l2⟩ := sub1Low_spec cfg.B hB a.dp d hd ha.dig
      have hle : d ≤ val cfg.B a.dp := by
        rcases hcond with h | h
        · exact Nat.le_trans (Nat.le_of_lt hd) (ha.base_le_val hB h)
        · cases hdp : a.dp with
          | nil => exact absurd hdp ha.1
          | cons x xs => rw [hdp] at h; exact Nat.le_trans h (Nat.le_add_right _ _)
      have e' := High.borrow_zero cfg.B _ _ _ _ _ d2 l2 (c2 (.inr ha.1)) e hle
      have := bnTrim_exact (B := cfg.B) (by omega) (!r) _ d2
      refine .ok ⟨this.1, ?_⟩
      rw [this.2]
      cases r <;> simp only [Bool.not_false, Bool.not_true, ↓reduceIte, Bool.false_eq_true] <;> omega
    · -- a single digit below d
      rename_i hcond
      obtain ⟨x, hdp, hx, hvx⟩ := ha.singleton (by omega)
      rw [hdp, List.getD_cons_zero] at hcond
      have hm : (d + cfg.B - x) % cfg.B = d - x := by
        rw [show d + cfg.B - x = (d - x) + cfg.B by omega, Nat.add_mod_right, Nat.mod_eq_of_lt (by omega)]
      have hu : a.used = 1 := by rw [Bn.used, hdp]; rfl
      rw [if_pos hu, hvx, hdp, List.getD_cons_zero, hm]
      have := bnTrim_exact (B := cfg.B) (by omega) r [d - x] (by simp; omega)
      refine .ok ⟨this.1, ?_⟩
      rw [this.2]
      simp only [val, Nat.mul_zero, Nat.add_zero]
      split <;> omega
  · simp only [if_true]
    obtain ⟨e, c1, d1, l1⟩ := add1Low_spec cfg.B hB a.dp d hd ha.dig
    refine (ExactR.carry (by omega) r _ _ _ _ d1 (by have := c1 (.inr ha.1); omega) l1 e _).of_eq ?_
    split <;> omega

/-- bn_add and bn_sub share one body: add to `a` the magnitude of `b` taken with the sign `sb`;
    `bnAdd cfg a b` unfolds to `addSigned cfg a b b.neg` -/
def addSigned (a b : Bn) (sb : Bool) : Option Bn :=
  if a.neg = sb then
    if bnCmpAbs a b = -1 then bnAddImp cfg a.neg b a else bnAddImp cfg a.neg a b
  else
    if bnCmpAbs a b = -1 then bnSubImp cfg sb b a else bnSubImp cfg a.neg a b

theorem bnSub_eq (a b : Bn) : bnSub cfg a b = addSigned cfg a b (!b.neg) := by
  unfold bnSub addSigned
  cases a.neg <;> cases b.neg <;> by_cases h : bnCmpAbs a b = -1 <;> simp [h]

theorem addSigned_exact (hw : 0 < cfg.w) (a b : Bn) (sb : Bool) (ha : a.WF cfg.B) (hb : b.WF cfg.B) :
    ExactR cfg.B (addSigned cfg a b sb)
      (a.toInt cfg.B + (if sb then -(val cfg.B b.dp : Int) else (val cfg.B b.dp : Int))) := by
  have hB := cfg.one_lt_B hw
  have hlt := bnCmpAbs_lt_iff hB a b ha hb
  have hai : a.toInt cfg.B = if a.neg then -(val cfg.B a.dp : Int) else (val cfg.B a.dp : Int) := rfl
  unfold addSigned
  rw [hai]
  by_cases hc : bnCmpAbs a b = -1
  · have hv := hlt.1 hc
    have hu := Bn.WF.used_le_of_val_le hB ha hb (by omega)
    simp only [if_pos hc]
    split
    · rename_i hs
      subst hs
      refine (bnAddImp_exact cfg hB a.neg b a hb.dig ha.dig hu ha.used_ne_zero).of_eq ?_
      split <;> omega
    · rename_i hs
      refine (bnSubImp_exact cfg hB sb b a hb.dig ha.dig hu (by omega) ha.used_ne_zero).of_eq ?_
      revert hs
      cases a.neg <;> cases sb <;> intro hs <;>
        first | exact absurd rfl hs | (simp only [↓reduceIte, Bool.false_eq_true]; omega)
  · have hv : ¬ _ := fun h => hc (hlt.2 h)
    have hu := Bn.WF.used_le_of_val_le hB hb ha (by omega)
    simp only [if_neg hc]
    split
    · rename_i hs
      subst hs
      refine (bnAddImp_exact cfg hB a.neg a b ha.dig hb.dig hu hb.used_ne_zero).of_eq ?_
      split <;> omega
    · rename_i hs
      refine (bnSubImp_exact cfg hB a.neg a b ha.dig hb.dig hu (by omega) hb.used_ne_zero).of_eq ?_
      revert hs
      cases a.neg <;> cases sb <;> intro hs <;>
        first | exact absurd rfl hs | (simp only [↓reduceIte, Bool.false_eq_true]; omega)

theorem addSigned_total (a b : Bn) (sb : Bool) (h : max a.used b.used < cfg.cap) :
    (addSigned cfg a b sb).isSome := by
  have h1 : a.used < cfg.cap := Nat.lt_of_le_of_lt (Nat.le_max_left _ _) h
  have h2 : b.used < cfg.cap := Nat.lt_of_le_of_lt (Nat.le_max_right _ _) h
  unfold addSigned
  split <;> split
  · exact bnAddImp_total cfg _ _ _ h2
  · exact bnAddImp_total cfg _ _ _ h1
  · exact bnSubImp_total cfg _ _ _ h2
  · exact bnSubImp_total cfg _ _ _ h1

theorem bnAdd_exact (hw : 0 < cfg.w) (a b : Bn) (ha : a.WF cfg.B) (hb : b.WF cfg.B) :
    ExactR cfg.B (bnAdd cfg a b) (a.toInt cfg.B + b.toInt cfg.B) :=
  addSigned_exact cfg hw a b b.neg ha hb

theorem bnSub_exact (hw : 0 < cfg.w) (a b : Bn) (ha : a.WF cfg.B) (hb : b.WF cfg.B) :
    ExactR cfg.B (bnSub cfg a b) (a.toInt cfg.B - b.toInt cfg.B) := by
  rw [bnSub_eq]
  refine (addSigned_exact cfg hw a b (!b.neg) ha hb).of_eq ?_
  unfold Bn.toInt
  cases b.neg <;> simp only [↓reduceIte, Bool.not_false, Bool.not_true, Bool.false_eq_true] <;> omega

theorem bnAddDig_exact (hw : 0 < cfg.w) (a : Bn) (d : Nat) (ha : a.WF cfg.B) (hd : d < cfg.B) :
    ExactR cfg.B (bnAddDig cfg a d) (a.toInt cfg.B + d) := by
  have := bnAddSubDig_exact cfg (cfg.one_lt_B hw) a d (!a.neg) false ha hd
  unfold bnAddDig
  convert this using 1
  unfold Bn.toInt
  cases a.neg <;> simp <;> omega

theorem bnSubDig_exact (hw : 0 < cfg.w) (a : Bn) (d : Nat) (ha : a.WF cfg.B) (hd : d < cfg.B) :
    ExactR cfg.B (bnSubDig cfg a d) (a.toInt cfg.B - d) := by
  have := bnAddSubDig_exact cfg (cfg.one_lt_B hw) a d a.neg true ha hd
  unfold bnSubDig
  convert this using 1
  unfold Bn.toInt
  cases a.neg <;> simp <;> omega

theorem bnLsh_exact (hw : 0 < cfg.w) (a : Bn) (k : Nat) (ha : a.WF cfg.B) :
    ExactR cfg.B (bnLsh cfg a k) (a.toInt cfg.B * 2 ^ k) := by
  have hB := cfg.one_lt_B hw
  have hB0 : 0 < cfg.B := Nat.zero_lt_of_lt hB
  have hk : cfg.B ^ (k / cfg.w) * 2 ^ (k % cfg.w) = 2 ^ k := cfg.B_eq ▸ two_pow_div_mod cfg.w k
  have hsgn := toInt_natMul cfg.B a (2 ^ k)
  rw [Nat.cast_pow, Nat.cast_ofNat, Int.mul_comm] at hsgn
  have hz := digs_replicate_zero hB0 (k / cfg.w)
  rw [bnLsh_eq, ← hsgn]
  refine .guard ?_
  split
  · rename_i hbits
    have hbw : k % cfg.w < cfg.w := Nat.mod_lt _ hw
    obtain ⟨e, c1, d1, l1⟩ :=
      lshbLow_spec cfg.w (k % cfg.w) (Nat.le_of_lt hbw) a.dp 0 (Nat.pow_pos Nat.two_pos) ha.dig
    rw [← cfg.B_eq, Nat.add_zero] at e
    rw [← cfg.B_eq] at d1
    have hcy : (lshbLow cfg.w (k % cfg.w) a.dp 0).2 < cfg.B :=
      Nat.lt_trans c1 (Nat.pow_lt_pow_right (by omega) hbw)
    have hq := digs_append hz d1
    have e' : val cfg.B (List.replicate (k / cfg.w) 0 ++ (lshbLow cfg.w (k % cfg.w) a.dp 0).1)
        + (lshbLow cfg.w (k % cfg.w) a.dp 0).2 * cfg.B ^ (k / cfg.w + a.dp.length)
        = 2 ^ k * val cfg.B a.dp := by
      rw [val_replicate_zero_append, Nat.pow_add, ← hk, Nat.mul_assoc, ← e]
      ring
    have hl : (List.replicate (k / cfg.w) 0 ++ (lshbLow cfg.w (k % cfg.w) a.dp 0).1).length
        = k / cfg.w + a.dp.length := by rw [List.length_append, List.length_replicate, l1]
    split
    · exact .ok (bnTrim_snoc_exact hB0 a.neg _ _ _ _ hq hcy hl e')
    · exact .ok (bnTrim_nocarry_exact hB0 a.neg _ _ _ _ hq ‹_› e')
  · rename_i hbits
    have := bnTrim_exact hB0 a.neg _ (digs_append hz ha.dig)
    rw [val_replicate_zero_append] at this
    rw [← hk, show k % cfg.w = 0 by omega, Nat.pow_zero, Nat.mul_one]
    exact .ok this

theorem tdiv_eq_fdiv {a m : Int} (hm : 0 ≤ m) (hg : 0 ≤ a ∨ m ∣ a) : Int.tdiv a m = Int.fdiv a m := by
  rcases hg with h | h
  · rw [Int.fdiv_eq_ediv_of_nonneg _ hm, Int.tdiv_eq_ediv_of_nonneg h]
  · rw [Int.fdiv_eq_ediv_of_dvd h, Int.tdiv_eq_ediv_of_dvd h]

/-- the right shifts and bn_div_dig divide the magnitude and keep the sign: truncation toward zero -/
theorem tdiv_fin {B : Nat} (hB : 0 < B) (a : Bn) (m : Nat) (l : List Nat) (hl : ∀ d ∈ l, d < B)
    (hv : val B l = val B a.dp / m) :
    (bnTrim { neg := a.neg, dp := l }).WF B ∧
    (bnTrim { neg := a.neg, dp := l }).toInt B = Int.tdiv (a.toInt B) m := by
  have := bnTrim_exact hB a.neg l hl
  refine ⟨this.1, ?_⟩
  rw [this.2, hv]
  unfold Bn.toInt
  split
  · rw [Int.neg_tdiv, Int.tdiv_eq_ediv_of_nonneg (by omega)]; rfl
  · rw [Int.tdiv_eq_ediv_of_nonneg (by omega)]; rfl

theorem bnRsh_tdiv (hw : 0 < cfg.w) (a : Bn) (k : Nat) (ha : a.WF cfg.B) :
    ExactR cfg.B (bnRsh cfg a k) (Int.tdiv (a.toInt cfg.B) (2 ^ k)) := by
  rw [bnRsh_eq]
  obtain ⟨hv, hd⟩ := rshCore_spec cfg.w hw a.dp k ha.dig
  rw [show (2 : Int) ^ k = ((2 ^ k : Nat) : Int) by push_cast; rfl]
  exact .guard (.ok (tdiv_fin (Nat.pow_pos (by omega)) a (2 ^ k) _ hd hv))

theorem bnHlv_tdiv (hw : 0 < cfg.w) (a : Bn) (ha : a.WF cfg.B) :
    ExactR cfg.B (bnHlv cfg a) (Int.tdiv (a.toInt cfg.B) 2) := by
  unfold bnHlv
  rw [bnTrim_of_WF ha]
  obtain ⟨hv, _, hd, _⟩ := rsh1Low_spec cfg.w hw a.dp ha.dig
  exact .ok (tdiv_fin (Nat.pow_pos (by omega)) a 2 _ hd hv)

/-- bn_div_dig divides the magnitude: the quotient is truncated toward zero, while the remainder returned is that of
    floor division; for a negative dividend that `b` does not divide the two do not belong together -/
theorem bnDivRemDig_ret (hw : 0 < cfg.w) (a : Bn) (b : Nat) (ha : a.WF cfg.B) (hb0 : 0 < b) (hbB : b < cfg.B) :
    Ret (bnDivRemDig cfg a b) fun x => x.1.WF cfg.B ∧ x.1.toInt cfg.B = Int.tdiv (a.toInt cfg.B) b
      ∧ (x.2 : Int) = Int.fmod (a.toInt cfg.B) b := by
  have hB := cfg.one_lt_B hw
  unfold bnDivRemDig
  rw [if_neg (by omega)]
  refine .ite (fun h1 => .ok ?_) fun _ => ?_
  · dsimp only
    rw [bnTrim_of_WF ha]
    refine ⟨ha, ?_⟩
    rcases h1 with h1 | h1
    · subst h1; simp
    · rw [(toInt_eq_zero_iff cfg.B a).2 ((ha.isZero_iff hB).1 h1)]; simp
  · obtain ⟨e, c1, d1, l1⟩ := div1Low_spec cfg.B a.dp b hb0 hbB ha.dig
    generalize div1Low cfg.B a.dp b = p at *
    obtain ⟨qd, rd⟩ := p
    simp only at e c1 d1 l1 ⊢
    obtain ⟨hq, hrm⟩ : val cfg.B qd = val cfg.B a.dp / b ∧ rd = val cfg.B a.dp % b :=
      (Nat.div_mod_unique hb0).2 ⟨by rw [Nat.mul_comm, Nat.add_comm]; exact e, c1⟩ |>.imp Eq.symm Eq.symm
    have := tdiv_fin (B := cfg.B) (by omega) a b qd d1 hq
    refine .ok ⟨this.1, this.2, ?_⟩
    rw [Int.fmod_eq_emod_of_nonneg _ (by omega)]
    cases han : a.neg
    · rw [toInt_of_pos han, hrm]; simp
    · rw [toInt_of_neg han]
      by_cases h0 : rd = 0
      · rw [if_neg (by simp [h0]), h0]
        have : (b : Int) ∣ (val cfg.B a.dp : Int) := Int.ofNat_dvd.2 (Nat.dvd_of_mod_eq_zero (hrm ▸ h0))
        rw [Int.emod_eq_zero_of_dvd (Int.dvd_neg.2 this)]; rfl
      · -- -|a| = (b - r) + b·(-(|a| / b) - 1) with 0 < b - r < b
        rw [if_pos ⟨rfl, h0⟩, show b + cfg.B - rd = (b - rd) + cfg.B by omega, Nat.add_mod_right,
          Nat.mod_eq_of_lt (by omega),
          show -(val cfg.B a.dp : Int) = ((b - rd : Nat) : Int) + b * (-((val cfg.B a.dp / b : Nat) : Int) - 1) by
            have := Nat.div_add_mod (val cfg.B a.dp) b
            rw [← hrm] at this
            rw [Int.mul_sub, Int.mul_neg, Int.mul_one]
            zify [Nat.le_of_lt c1] at this ⊢
            omega,
          Int.add_mul_emod_self_left, Int.emod_eq_of_lt (by omega) (by omega)]

theorem bnSet2b_eq (hw : 0 < cfg.w) (k : Nat) : bnSet2b cfg k =
    if k ≥ cfg.cap * cfg.w then none
    else some { neg := false, dp := List.replicate (k / cfg.w) 0 ++ [2 ^ (k % cfg.w)] } := by
  unfold bnSet2b grow
  split
  · rfl
  · rename_i h
    have : ¬ (k / cfg.w + 1 > cfg.cap) := by
      have := (Nat.div_lt_iff_lt_mul (k := cfg.w) (x := k) (y := cfg.cap) hw).2 (by omega)
      omega
    simp [this]

end Relic.Model
