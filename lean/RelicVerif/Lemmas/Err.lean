/-
The macro machine of Model/Err.lean (RLC_TRY / RLC_CATCH / RLC_FINALLY / RLC_THROW with the context
fields last, caught, code) refines the structured try/throw/catch/finally semantics, for every program.
-/
import RelicVerif.Model.Err

namespace Relic.Model.Err

theorem getVar_setVar (vs : List (Nat × Nat)) (id v i : Nat) :
    getVar (setVar vs id v) i = if i = id then v else getVar vs i := by
  unfold getVar setVar
  by_cases h : i = id
  · subst h; simp
  · have h' : ¬ id = i := fun e => h e.symm
    simp only [h, if_false]
    rw [List.find?_cons]
    simp only [h', decide_false]
    -- removing the entries of another key does not change what is found for `i`
    rw [List.find?_filter]
    congr 3
    funext a
    by_cases hi : a.1 = i
    · simp [hi]
      omega
    · simp [hi]

def hid (blocks : List Frame) : Nat :=
  match blocks with
  | f :: _ => f.id
  | [] => 0

def topChain (b : Bool) : List Frame := if b then [{ id := 0, block := false }] else []

/-- `blocks` are the frames of the enclosing protected blocks, innermost first (the structured semantics only counts
    them); below them the chain holds ctx->error once a throw outside any block has happened -/
def Pre (blocks : List Frame) (ms : MSt) (ss : SSt) : Prop :=
  ms.trace = ss.trace ∧ ms.code = ss.code ∧ ms.last = blocks ++ topChain ss.top ∧
  ∀ f ∈ blocks.head?, f.block = true ∧ f.id ≤ ms.next

def Post (blocks : List Frame) (ms : MSt) (ss : SSt) (mr : MOut × MSt) (sr : SOut × SSt) : Prop :=
  mr.2.trace = sr.2.trace ∧ mr.2.code = sr.2.code ∧ ms.next ≤ mr.2.next ∧
  (blocks ≠ [] → sr.2.top = ss.top) ∧
  match sr.1 with
  | .normal =>
    mr.1 = .normal ∧ mr.2.last = blocks ++ topChain sr.2.top ∧
    ∀ i, i ≤ ms.next → getVar mr.2.vars i = getVar ms.vars i
  | .thrown e =>
    blocks ≠ [] ∧ mr.1 = .jump (hid blocks) ∧
    ∀ i, i ≤ ms.next → getVar mr.2.vars i = if i = hid blocks ∧ e ≠ 0 then e else getVar ms.vars i

theorem Pre_of_Post_normal {bl ms ss mr sr} (hpre : Pre bl ms ss) (hp : Post bl ms ss mr sr)
    (hn : sr.1 = .normal) : Pre bl mr.2 sr.2 := by
  obtain ⟨p1, p2, p3, -, p5⟩ := hp
  rw [hn] at p5
  exact ⟨p1, p2, p5.2.1, fun f hf => ⟨(hpre.2.2.2 f hf).1, Nat.le_trans (hpre.2.2.2 f hf).2 p3⟩⟩

theorem Post_mono {bl ms ss ms2 ss2 mr sr} (hp : Post bl ms2 ss2 mr sr) (hn : ms.next ≤ ms2.next)
    (ht : bl ≠ [] → ss2.top = ss.top)
    (hv : ∀ i, i ≤ ms.next → getVar ms2.vars i = getVar ms.vars i) : Post bl ms ss mr sr := by
  obtain ⟨p1, p2, p3, p4, p5⟩ := hp
  refine ⟨p1, p2, by omega, fun hd => by rw [p4 hd, ht hd], ?_⟩
  cases hs : sr.1 with
  | normal =>
    rw [hs] at p5
    exact ⟨p5.1, p5.2.1, fun i hi => by rw [p5.2.2 i (by omega), hv i hi]⟩
  | thrown e =>
    rw [hs] at p5
    exact ⟨p5.1, p5.2.1, fun i hi => by rw [p5.2.2 i (by omega), hv i hi]⟩

theorem Post_refl_normal {bl ms ss ms' ss'} (hpre : Pre bl ms ss) (ht : ms'.trace = ss'.trace)
    (hc : ms'.code = ss'.code) (hl : ms'.last = ms.last) (hn : ms'.next = ms.next)
    (hv : ms'.vars = ms.vars) (htop : ss'.top = ss.top) :
    Post bl ms ss (.normal, ms') (.normal, ss') :=
  ⟨ht, hc, by simp [hn], fun _ => htop, rfl, by simp only [hl, htop]; exact hpre.2.2.1, fun i _ => by simp only [hv]⟩

/-- continue after a normal end, pass a jump / a throw on: how both semantics run `seq` and FINALLY-then-handler -/
def mBind (r : MOut × MSt) (k : MSt → MOut × MSt) : MOut × MSt :=
  match r with
  | (.normal, s) => k s
  | r => r

def sBind (r : SOut × SSt) (k : SSt → SOut × SSt) : SOut × SSt :=
  match r with
  | (.normal, s) => k s
  | r => r

theorem mBind_normal (r : MOut × MSt) : mBind r (fun s => (.normal, s)) = r := by
  obtain ⟨o, s⟩ := r
  cases o <;> rfl

/-- the simulation passes through sequencing: the continuation starts from related states in which the identifiers and
    catch variables of the caller are untouched -/
theorem Post_bind {bl ms ss mr sr} {km : MSt → MOut × MSt} {ks : SSt → SOut × SSt} (hpre : Pre bl ms ss)
    (hp : Post bl ms ss mr sr)
    (hk : ∀ ms' ss', Pre bl ms' ss' → (∀ i, i ≤ ms.next → getVar ms'.vars i = getVar ms.vars i) →
      Post bl ms' ss' (km ms') (ks ss')) :
    Post bl ms ss (mBind mr km) (sBind sr ks) := by
  obtain ⟨mo, ms'⟩ := mr
  obtain ⟨so, ss'⟩ := sr
  cases so with
  | normal =>
    have hpre' := Pre_of_Post_normal hpre hp rfl
    obtain ⟨p1, p2, p3, p4, q1, q2, q4⟩ := hp
    simp only at q1
    subst q1
    exact Post_mono (hk ms' ss' hpre' q4) p3 p4 q4
  | thrown e =>
    have hj := hp.2.2.2.2.2.1
    simp only at hj
    subst hj
    exact hp

theorem sim_throw (e : Nat) (bl : List Frame) (ms : MSt) (ss : SSt) (hpre : Pre bl ms ss) :
    Post bl ms ss (mThrow ms e) (sEval (.throw e) bl.length ss) := by
  obtain ⟨h1, h2, h3, h4⟩ := hpre
  cases bl with
  | nil =>
    simp only [sEval, List.length_nil, if_true]
    unfold mThrow
    -- the chain is empty (first throw outside any block: ctx->error is linked in) or holds ctx->error already
    cases htop : ss.top <;> rw [htop] at h3 <;> simp only [topChain, if_true, Bool.false_eq_true, if_false, List.nil_append] at h3 <;>
      simp only [h3] <;>
      exact ⟨h1, rfl, Nat.le_refl _, fun hd => absurd rfl hd, rfl, rfl, fun i _ => rfl⟩
  | cons f rest =>
    obtain ⟨e2, e3⟩ := h4 f rfl
    simp only [sEval, List.length_cons, Nat.add_one_ne_zero, if_false]
    unfold mThrow
    simp only [h3, List.cons_append, e2, if_true]
    refine ⟨?_, ?_, ?_, fun _ => rfl, List.cons_ne_nil _ _, rfl, ?_⟩
    · split <;> exact h1
    · split <;> rfl
    · split <;> exact Nat.le_refl _
    · intro i hi
      show _ = if i = f.id ∧ e ≠ 0 then e else _
      by_cases he : e = 0
      · simp [he]
      · simp only [he, ne_eq, not_false_eq_true, if_true, and_true]
        rw [getVar_setVar]

theorem sim_tail (handler fin : Prog) (var : Bool) (id : Nat) (latched : Bool) (bl : List Frame)
    (ihf : ∀ ms ss, Pre bl ms ss → Post bl ms ss (mEval true fin ms) (sEval fin bl.length ss))
    (ihh : ∀ ms ss, Pre bl ms ss → Post bl ms ss (mEval true handler ms) (sEval handler bl.length ss))
    (ms : MSt) (ss : SSt) (hpre : Pre bl ms ss) (hle : id ≤ ms.next) (ev : Nat)
    (hv : latched = true → var = true → getVar ms.vars id = ev) :
    Post bl ms ss (mTail true (mEval true fin) (mEval true handler) var id latched ms)
      (if latched then
        sBind (sEval fin bl.length ss) fun s =>
          sEval handler bl.length (if var then { s with trace := s.trace ++ [.caught ev] } else s)
       else sEval fin bl.length ss) := by
  cases latched with
  | false =>
    rw [show mTail true (mEval true fin) (mEval true handler) var id false ms =
      mBind (mEval true fin ms) fun s => (.normal, s) from rfl, mBind_normal]
    exact ihf ms ss hpre
  | true =>
    refine Post_bind hpre (ihf ms ss hpre) fun ms' ss' hpre' hv' => ?_
    cases var with
    | false => exact ihh _ _ hpre'
    | true =>
      refine ihh _ _ ⟨?_, hpre'.2⟩
      simp only [if_true]
      rw [hpre'.1, hv' id hle, hv rfl rfl]

theorem sim (p : Prog) : ∀ bl ms ss, Pre bl ms ss → Post bl ms ss (mEval true p ms) (sEval p bl.length ss) := by
  induction p with
  | skip =>
    intro bl ms ss hpre
    exact Post_refl_normal hpre hpre.1 hpre.2.1 rfl rfl rfl rfl
  | act n =>
    intro bl ms ss hpre
    simp only [mEval, sEval]
    exact Post_refl_normal hpre (by simp [hpre.1]) hpre.2.1 rfl rfl rfl rfl
  | getcode =>
    intro bl ms ss hpre
    simp only [mEval, sEval]
    exact Post_refl_normal hpre (by simp [hpre.1, hpre.2.1]) rfl rfl rfl rfl rfl
  | throw e =>
    intro bl ms ss hpre
    simp only [mEval]
    exact sim_throw e bl ms ss hpre
  | seq p q ihp ihq =>
    intro bl ms ss hpre
    exact Post_bind hpre (ihp bl ms ss hpre) fun ms' ss' hpre' _ => ihq bl ms' ss' hpre'
  | tryc body handler fin var ihb ihh ihf =>
    intro bl ms ss hpre
    simp only [mEval, sEval]
    -- the body runs under a fresh frame on top of the chain
    have hb := ihb ({ id := ms.next + 1, block := true } :: bl) _ ss (show Pre _ { ms with
        last := { id := ms.next + 1, block := true } :: ms.last, next := ms.next + 1,
        vars := if var then setVar ms.vars (ms.next + 1) 99 else ms.vars } ss from
      ⟨hpre.1, hpre.2.1, congrArg _ hpre.2.2.1, fun f hf => by cases hf; exact ⟨rfl, Nat.le_refl _⟩⟩)
    generalize mEval true body _ = mr at hb ⊢
    generalize sEval body _ ss = sr at hb ⊢
    obtain ⟨mo, msb⟩ := mr
    obtain ⟨so, ssb⟩ := sr
    obtain ⟨p1, p2, p3, p4, p5⟩ := hb
    simp only [hid] at p1 p2 p3 p4 p5
    have p4 := p4 (List.cons_ne_nil _ _)
    -- the state in which FINALLY starts
    have hpre2 : ∀ c, Pre bl { msb with caught := c, last := ms.last } ssb := fun c =>
      ⟨p1, p2, by rw [p4]; exact hpre.2.2.1, fun f hf => ⟨(hpre.2.2.2 f hf).1, by
        have := (hpre.2.2.2 f hf).2
        simp only; omega⟩⟩
    -- the fresh catch variable is none of the caller's
    have hpush : ∀ i, i ≤ ms.next →
        getVar (if var then setVar ms.vars (ms.next + 1) 99 else ms.vars) i = getVar ms.vars i := by
      intro i hi
      split
      · rw [getVar_setVar, if_neg (by omega)]
      · rfl
    cases so with
    | normal =>
      obtain ⟨q1, q2, q4⟩ := p5
      subst q1
      simp only
      have ht := sim_tail handler fin var (ms.next + 1) false bl (ihf bl) (ihh bl) _ ssb (hpre2 false)
        (by simp only; omega) 0 (fun h => absurd h (by simp))
      simp only [Bool.false_eq_true, if_false] at ht
      exact Post_mono ht (by simp only; omega) (fun _ => p4)
        fun i hi => (q4 i (by omega)).trans (hpush i hi)
    | thrown e =>
      obtain ⟨q1, q2, q3⟩ := p5
      subst q2
      simp only [ne_eq, not_true_eq_false, if_false]
      have ht := sim_tail handler fin var (ms.next + 1) true bl (ihf bl) (ihh bl) _ ssb (hpre2 true)
        (by simp only; omega) (if e = 0 then 99 else e) (by
          intro _ hvar
          simp only
          rw [q3 _ (by omega), hvar]
          by_cases he : e = 0
          · simp [he, getVar_setVar]
          · simp [he])
      simp only [if_true] at ht
      refine Post_mono ht (by simp only; omega) (fun _ => p4) fun i hi => ?_
      simp only
      rw [q3 i (by omega)]
      simp only [show i ≠ ms.next + 1 by omega, false_and, if_false]
      exact hpush i hi

/-- `latch = true`, the RLC_ERR_CATCH of include/relic_err.h, where `_caught` is read once, before FINALLY: every program, every
    nesting shape -/
theorem mRun_eq_sRun (p : Prog) : mRun true p = sRun p := by
  have h := sim p [] {} {} ⟨rfl, rfl, rfl, fun _ hf => by cases hf⟩
  unfold mRun sRun
  generalize mEval true p {} = mr at h
  generalize sEval p _ {} = sr at h
  obtain ⟨mo, ms'⟩ := mr
  obtain ⟨so, ss'⟩ := sr
  obtain ⟨p1, p2, p3, p4, p5⟩ := h
  cases so with
  | thrown e => exact absurd rfl p5.1
  | normal =>
    obtain ⟨q1, q2, q4⟩ := p5
    simp only [List.nil_append] at p1 p2 q2 ⊢
    rw [p1, p2, q2]
    cases ss'.top <;> rfl

/-! ## `latch = false`: ctx->caught read again after FINALLY (as in /repo before commit ec31a13) -/

theorem mThrow_caught (s : MSt) (e : Nat) : (mThrow s e).2.caught = s.caught := by
  unfold mThrow
  simp only
  split
  · rfl
  · split
    · split <;> rfl
    · rfl

theorem noTry_caught (l : Bool) (p : Prog) (h : finallyFree.noTry p = true) :
    ∀ s, (mEval l p s).2.caught = s.caught := by
  induction p with
  | skip => intro s; rfl
  | act n => intro s; rfl
  | getcode => intro s; rfl
  | throw e => intro s; simp only [mEval]; exact mThrow_caught s e
  | seq p q ihp ihq =>
    intro s
    simp only [finallyFree.noTry, Bool.and_eq_true] at h
    have hp := ihp h.1 s
    simp only [mEval]
    generalize mEval l p s = mr at hp ⊢
    obtain ⟨mo, s'⟩ := mr
    cases mo with
    | normal => simp only; rw [ihq h.2 s']; exact hp
    | jump t => exact hp
  | tryc b hd f v _ _ _ => simp [finallyFree.noTry] at h

theorem mTail_latch_irrelevant (evalFin evalHandler : MSt → MOut × MSt) (var : Bool) (id : Nat)
    (latched : Bool) (s : MSt) (hc : ∀ s, (evalFin s).2.caught = s.caught) (hs : s.caught = latched) :
    mTail false evalFin evalHandler var id latched s = mTail true evalFin evalHandler var id latched s := by
  unfold mTail
  have h := hc s
  generalize evalFin s = r at h ⊢
  obtain ⟨o, s'⟩ := r
  cases o with
  | jump t => rfl
  | normal =>
    simp only at h ⊢
    rw [h, hs]
    simp

theorem mEval_orig_eq (p : Prog) (h : finallyFree p = true) : ∀ s, mEval false p s = mEval true p s := by
  induction p with
  | skip => intro s; rfl
  | act n => intro s; rfl
  | getcode => intro s; rfl
  | throw e => intro s; rfl
  | seq p q ihp ihq =>
    intro s
    simp only [finallyFree, Bool.and_eq_true] at h
    exact (congrArg (mBind · _) (ihp h.1 s)).trans (congrArg (mBind _) (funext (ihq h.2)))
  | tryc b hd f v ihb ihh ihf =>
    intro s
    simp only [finallyFree, Bool.and_eq_true] at h
    obtain ⟨⟨⟨hb, hh⟩, hf⟩, hn⟩ := h
    have e1 : mEval false f = mEval true f := funext (ihf hf)
    have e2 : mEval false hd = mEval true hd := funext (ihh hh)
    simp only [mEval]
    rw [ihb hb, e1, e2]
    generalize mEval true b _ = mr
    obtain ⟨mo, s'⟩ := mr
    cases mo with
    | normal =>
      simp only
      exact mTail_latch_irrelevant _ _ _ _ _ _ (noTry_caught true f hn) rfl
    | jump t =>
      simp only
      split
      · rfl
      · exact mTail_latch_irrelevant _ _ _ _ _ _ (noTry_caught true f hn) rfl

end Relic.Model.Err
