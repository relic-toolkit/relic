/-
C14 lemmas: the dedicated SHA-256 model of Model/Sha256.lean equals Spec/Sha256.lean; nist_kdf (md_kdf, md_mgf) and md_xmd of
Model/Md.lean equal the counter KDF and expand_message_xmd of Spec/Mac.lean.  (md_hmac = HMAC is proved under its statement,
Props/C14.hmac_conforms.)
-/
import RelicVerif.Model.Md
import RelicVerif.Lemmas.ShaStream
import RelicVerif.Lemmas.Loops
import RelicVerif.Lemmas.Codec

namespace Relic.Lemmas.Md
open Relic.Spec Relic.Model
open Relic.Lemmas.Loops (ceil_div_bounds foldl_sim map_range_zipWith)
open Relic.Spec.Mac (Bytes Hash)

/-! ## SHA-256: the dedicated model and the parametric one -/

section Sha
-- bare `Ctx`, `inputByte`, `input`, `result`, … are those of the dedicated model; the parametric ones are written `ShaStream.…`
open Relic.Spec.Sha256 Relic.Model.Sha256
open Relic.Model.ShaStream (sha256P)
open Relic.Lemmas.ShaStream (compress256_length digest256_take)

def toStream (c : Ctx) : ShaStream.Ctx UInt32 :=
  { h := c.h, lenBits := c.lenBits, block := c.block, computed := c.computed, corrupted := c.corrupted }

/-- kept by both models: the bit counter is reduced mod 2^64, the chaining value has eight words (so that the
    `take 32` of SHA256Result in the parametric model takes everything) -/
def Ok (c : Ctx) : Prop := c.lenBits < 2 ^ 64 ∧ c.h.length = 8

theorem sim_inputByte (c : Ctx) (b : UInt8) (hc : Ok c) :
    toStream (inputByte c b) = ShaStream.inputByte sha256P (toStream c) b ∧ Ok (inputByte c b) := by
  obtain ⟨hl, hh⟩ := hc
  unfold inputByte ShaStream.inputByte
  by_cases hcorr : c.corrupted = true
  · simp [toStream, hcorr, Ok, hl, hh]
  · by_cases hw : c.lenBits + 8 ≥ 2 ^ 64
    · have e : (c.lenBits + 8) % 2 ^ 64 < 8 := by omega
      simp [toStream, sha256P, ShaStream.corrupt64, hcorr, hw, e, Ok, hh]
      omega
    · have e : (c.lenBits + 8) % 2 ^ 64 = c.lenBits + 8 := by omega
      have h8 : ¬ c.lenBits + 8 < 8 := by omega
      by_cases hfull : c.block.length = 63 <;>
        simp [toStream, sha256P, ShaStream.corrupt64, processBlock, ShaStream.processBlock, hcorr, hw, e, h8, Ok,
          hfull, hh, compress256_length]
      all_goals omega

theorem sim_input (c : Ctx) (l : List UInt8) (hc : Ok c) :
    toStream (input c l) = ShaStream.input sha256P (toStream c) l ∧ Ok (input c l) := by
  obtain ⟨e, hf⟩ := foldl_sim toStream Ok inputByte _ sim_inputByte l c hc
  unfold input ShaStream.input
  constructor
  · rw [apply_ite toStream, apply_ite toStream, apply_ite toStream, e]
    rfl
  · split
    · exact hc
    split
    · exact hc
    split
    · exact hc
    · exact hf

theorem sim_padMessage (c : Ctx) : toStream (padMessage c) = ShaStream.padMessage sha256P (toStream c) := by
  unfold padMessage ShaStream.padMessage
  by_cases h : c.block.length ≥ 56 <;>
    simp [toStream, sha256P, processBlock, ShaStream.processBlock, h]

theorem sim_result (c : Ctx) (hc : Ok c) : result c = ShaStream.result sha256P (toStream c) := by
  unfold result ShaStream.result
  rw [← sim_padMessage]
  cases hcorr : c.corrupted
  · cases hcomp : c.computed
    · simp only [toStream, sha256P, hcorr, hcomp, Bool.false_eq_true, if_false]
      exact congrArg some (digest256_take _ (compress256_length _ _)).symm
    · simp only [toStream, sha256P, hcorr, hcomp, Bool.false_eq_true, if_true, if_false, digest256_take _ hc.2]
  · simp only [toStream, hcorr, if_true]

theorem mdMapChunks_eq_run (chunks : List Bytes) : mdMapChunks chunks = ShaStream.run sha256P chunks := by
  obtain ⟨e, hc⟩ := foldl_sim toStream Ok input _ sim_input chunks reset ⟨by decide, rfl⟩
  unfold mdMapChunks ShaStream.run
  rw [sim_result _ hc, e]
  rfl

theorem sha256_streaming (chunks : List Bytes) (hlen : 8 * chunks.flatten.length < 2 ^ 64) :
    Relic.Model.Sha256.mdMapChunks chunks = some (Relic.Spec.Sha256.sha256 chunks.flatten) := by
  rw [mdMapChunks_eq_run]
  exact Relic.Lemmas.ShaStream.sha256P_streaming chunks hlen

theorem sha256_oneshot (msg : Bytes) (hlen : 8 * msg.length < 2 ^ 64) :
    Relic.Model.Sha256.mdMap msg = some (Relic.Spec.Sha256.sha256 msg) := by
  have := sha256_streaming [msg] (by simpa using hlen)
  simpa [Relic.Model.Sha256.mdMapChunks, Relic.Model.Sha256.mdMap] using this

end Sha

theorem be32_eq_bytes (n : Nat) : Mac.be32 n = Codec.bytes n 4 := by
  simp [Mac.be32, Codec.bytes, List.range_succ]

theorem be32_mod (i : Nat) : Mac.be32 (i % 2 ^ 32) = Mac.be32 i := by
  rw [be32_eq_bytes, be32_eq_bytes]; exact Codec.bytes_mod i 4

theorem nistKdfLoop_eq (H : Hash) (hout : ∀ b, (H.h b).length = H.outLen) (hpos : 0 < H.outLen)
    (keyLen : Nat) (inp : Bytes) (value : Nat) (n j : Nat) (acc : Bytes)
    (hacc : acc.length = j * H.outLen) (hle : j * H.outLen ≤ keyLen)
    (hd : j + n = (keyLen + H.outLen - 1) / H.outLen) :
    Md.nistKdfLoop H inp keyLen n (value + j) acc =
      (acc ++ (List.range' j n).flatMap fun i => H.h (inp ++ Mac.be32 (value + i))).take keyLen := by
  obtain ⟨hd1, hd2⟩ := ceil_div_bounds keyLen H.outLen hpos
  generalize hdd : (keyLen + H.outLen - 1) / H.outLen = d at *
  induction n generalizing j acc with
  | zero =>
    simp only [Md.nistKdfLoop, List.range'_zero, List.flatMap_nil, List.append_nil]
    have : j = d := by omega
    subst this
    rw [List.take_of_length_le]
    rw [hacc]; have := Nat.mul_comm j H.outLen; omega
  | succ n ih =>
    simp only [Md.nistKdfLoop, be32_mod]
    split
    · rename_i hfull
      have := ih (j + 1) (acc ++ H.h (inp ++ Mac.be32 (value + j)))
        (by simp [hacc, hout, Nat.add_mul]) (by rw [Nat.add_mul]; omega) (by omega)
      rw [Nat.add_assoc, this]
      simp [List.range'_succ]
    · rename_i hpart
      have hn : n = 0 := by
        apply Classical.byContradiction
        intro hn
        have h2 : H.outLen * (j + 2) ≤ H.outLen * d := Nat.mul_le_mul_left _ (by omega)
        rw [Nat.mul_add, Nat.mul_comm] at h2
        omega
      subst hn
      simp only [Md.nistKdfLoop, List.take_length, List.range'_succ, List.range'_zero, List.flatMap_cons,
        List.flatMap_nil, List.append_nil]
      rw [List.take_append, List.take_of_length_le (l := acc) (by omega)]

/-- no bound on the counter: `be32` reduces it mod 2^32 on both sides -/
theorem nistKdf_eq (H : Hash) (hout : ∀ b, (H.h b).length = H.outLen) (hpos : 0 < H.outLen)
    (keyLen : Nat) (inp : Bytes) (value : Nat) :
    Md.nistKdf H keyLen inp value = Mac.counterKdf H value inp keyLen := by
  unfold Md.nistKdf Mac.counterKdf
  have := nistKdfLoop_eq H hout hpos keyLen inp value ((keyLen + H.outLen - 1) / H.outLen) 0 [] (by simp) (by simp) (by simp)
  simp only [Nat.add_zero, List.nil_append] at this
  simp only [this, List.range_eq_range']

theorem map_range_xor (a b : Bytes) (n : Nat) (ha : a.length = n) (hb : b.length = n) :
    (List.range n).map (fun j => a.getD j 0 ^^^ b.getD j 0) = Mac.xorBytes a b :=
  map_range_zipWith _ a b 0 0 n ha hb

/-- copy_len = HHashSize + min(0, buf_len − i·HHashSize) of md_xmd, with t = (i − 1)·HHashSize: what is still wanted, at most
    one digest -/
theorem copyLen_eq (b t o : Nat) : (if b < t + o then o - (t + o - b) else o) = min (b - t) o := by
  split
  · rw [Nat.min_eq_left (by omega)]; omega
  · rw [Nat.min_eq_right (by omega)]

theorem xmdLoop_eq (S : Md.Stream) (H : Hash) (hol : S.outLen = H.outLen)
    (hout : ∀ b, (H.h b).length = H.outLen) (bufLen : Nat) (dst b0 : Bytes)
    (hS : ∀ cs, cs.flatten.length ≤ H.outLen + 257 → S.run cs = some (H.h cs.flatten))
    (hb0 : b0.length = H.outLen) (hdst : dst.length ≤ 255) (n k : Nat) (bi buf : Bytes)
    (hbi : bi.length = H.outLen) :
    Md.mdXmd.loop S bufLen dst [UInt8.ofNat dst.length] b0 n (k + 1) bi buf =
      some (buf ++ ((Mac.xmdBlocks H b0 (dst ++ [UInt8.ofNat dst.length]) n bi (k + 1)).flatten.take
        (bufLen - k * H.outLen))) := by
  induction n generalizing k bi buf with
  | zero => simp [Md.mdXmd.loop, Mac.xmdBlocks]
  | succ n ih =>
    simp only [Md.mdXmd.loop, Mac.xmdBlocks]
    rw [hol, map_range_xor b0 bi _ hb0 hbi]
    have hxl : (Mac.xorBytes b0 bi).length = H.outLen := by simp [Mac.xorBytes, hb0, hbi]
    rw [hS _ (by simp [hxl]; omega)]
    simp only [Option.bind_eq_bind, Option.bind_some]
    have hfl : [Mac.xorBytes b0 bi ++ [UInt8.ofNat (k + 1)], dst, [UInt8.ofNat dst.length]].flatten
        = Mac.xorBytes b0 bi ++ [UInt8.ofNat (k + 1)] ++ (dst ++ [UInt8.ofNat dst.length]) := by simp
    rw [hfl]
    have hbi' := hout (Mac.xorBytes b0 bi ++ [UInt8.ofNat (k + 1)] ++ (dst ++ [UInt8.ofNat dst.length]))
    generalize H.h (Mac.xorBytes b0 bi ++ [UInt8.ofNat (k + 1)] ++ (dst ++ [UInt8.ofNat dst.length])) = bi' at *
    rw [ih (k + 1) bi' _ hbi']
    rw [Nat.add_mul, Nat.one_mul, copyLen_eq, ← hbi', ← List.take_eq_take_min, List.flatten_cons, List.take_append,
      List.append_assoc, Nat.sub_add_eq]

/-- `hS` is asked only for chunk lists of total length ≤ blockLen + |inp| + outLen + 259, which covers every call md_xmd makes
    (Z_pad ‖ msg ‖ 3 ‖ dst(≤255) ‖ 1 and outLen+1 ‖ dst ‖ 1): without a bound it could not be met by the streaming
    SHA-256, whose 64-bit bit counter overflows at 2^61 bytes -/
theorem mdXmd_eq (S : Md.Stream) (H : Hash) (n : Nat) (inp dst : Bytes)
    (hS : ∀ cs, cs.flatten.length ≤ S.blockLen + inp.length + S.outLen + 259 →
      S.run cs = some (H.h cs.flatten))
    (hol : S.outLen = H.outLen) (hbl : S.blockLen = H.blockLen) (hout : ∀ b, (H.h b).length = H.outLen)
    (hpos : 0 < H.outLen) (h64 : H.outLen ≤ 64)  :
    Md.mdXmd S n inp dst = Mac.expandMessageXmd H inp dst n := by
  unfold Md.mdXmd Mac.expandMessageXmd
  simp only [hol, hbl] at hS ⊢
  obtain ⟨hd1, hd2⟩ := ceil_div_bounds n H.outLen hpos
  generalize (n + H.outLen - 1) / H.outLen = ell at *
  by_cases hc : ell > 255 ∨ dst.length > 255
  · have hc' : ell > 255 ∨ n > 65535 ∨ dst.length > 255 := by omega
    rw [if_pos hc, if_pos hc']
    rfl
  · have hn : ¬ n > 65535 := by
      intro hn
      have : H.outLen * ell ≤ 64 * ell := Nat.mul_le_mul_right _ h64
      omega
    have hc' : ¬ (ell > 255 ∨ n > 65535 ∨ dst.length > 255) := by omega
    rw [if_neg hc, if_neg hc']
    rw [hS _ (by simp; omega)]
    simp only [Option.bind_eq_bind, Option.bind_some]
    rw [xmdLoop_eq S H hol hout n dst _ (fun cs h => hS cs (by omega)) (hout _) (by omega) ell 0 _ _ (by simp)]
    simp

/-- the `1000` of `hlen` is a round number above blockLen + outLen + 259 ≤ 451, the octets md_xmd feeds besides the message
    (`mdXmd_eq`); `h128` is there only to bound blockLen for it -/
theorem mdXmd_of_streaming (S : Md.Stream) (H : Hash) (B : Nat)
    (hS : ∀ cs : List Bytes, 8 * cs.flatten.length < B → S.run cs = some (H.h cs.flatten))
    (hol : S.outLen = H.outLen) (hbl : S.blockLen = H.blockLen) (hout : ∀ b, (H.h b).length = H.outLen)
    (hpos : 0 < H.outLen) (h64 : H.outLen ≤ 64) (h128 : H.blockLen ≤ 128) (n : Nat) (inp dst : Bytes)
    (hlen : 8 * (inp.length + 1000) < B) :
    Md.mdXmd S n inp dst = Mac.expandMessageXmd H inp dst n :=
  mdXmd_eq S H n inp dst (fun cs hcs => hS cs (by omega)) hol hbl hout hpos h64

end Relic.Lemmas.Md
