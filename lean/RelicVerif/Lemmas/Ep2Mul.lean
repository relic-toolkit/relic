/-
The Frobenius (GLS) loop of Model/Ep2Mul.lean computes Σ_j (±|k_j|) • ψ^j(P) for an additive endomorphism ψ, and the integer form
of bn_rec_frb (BN branch) returns sub-scalars with Σ_j k_j λ^j ≡ k (mod n) whenever the four columns of its coefficient rows
annihilate (1, λ, λ², λ³) modulo n — whatever the rounding of the quotients.
-/
import RelicVerif.Model.Ep2Mul
import RelicVerif.Lemmas.EpSim

namespace Relic.Lemmas.Ep2Mul
open Relic.Model Relic.Model.MulAlg Relic.Model.EbMul Relic.Model.EpMul Relic.Model.Ep2Mul Relic.Lemmas.EbMul Relic.Lemmas.EpSim

variable {G : Type} [AddCommGroup G]

theorem frbTab_spec (ψ : G →+ G) (a b : Bool) (x : G) (t : List G) (n : ℕ) (hn : t.length = n)
    (ht : ∀ i, i < n → t.getD i 0 = (2 * (i : ℤ) + 1) • sg a • x) :
    (frbTab gops ψ a b t).length = n ∧
    ∀ i, i < n → (frbTab gops ψ a b t).getD i 0 = (2 * (i : ℤ) + 1) • sg b • ψ x := by
  subst hn
  refine ⟨by simp [frbTab], fun i hi => ?_⟩
  have : (t.map fun x => (sg a * sg b) • ψ x).getD i ((sg a * sg b) • ψ 0) = (sg a * sg b) • ψ (t.getD i 0) :=
    List.getD_map ..
  simp only [frbTab, ite_xor_neg]
  rw [map_zero, smul_zero] at this
  rw [this, ht i hi, map_zsmul, map_zsmul, smul_comm, smul_smul (sg a * sg b), mul_right_comm, sg_mul_self, one_mul]

theorem mulGls_spec (ψ : G →+ G) (p : G) (tabLen : Nat) (s0 s1 s2 s3 : Bool) (n0 n1 n2 n3 : List Int)
    (hd : ∀ nf ∈ [n0, n1, n2, n3], ∀ d ∈ nf, d = 0 ∨ (d % 2 ≠ 0 ∧ d.natAbs < 2 * tabLen)) :
    mulGls gops ψ p tabLen s0 s1 s2 s3 n0 n1 n2 n3
      = (sg s0 * Rec.eval 1 n0) • p + (sg s1 * Rec.eval 1 n1) • ψ p
        + (sg s2 * Rec.eval 1 n2) • ψ (ψ p) + (sg s3 * Rec.eval 1 n3) • ψ (ψ (ψ p)) := by
  simp only [List.forall_mem_cons] at hd
  obtain ⟨hd0, hd1, hd2, hd3, _⟩ := hd
  unfold mulGls
  rw [ite_neg]
  obtain ⟨hl0, ht0⟩ := tabOdd_spec (sg s0 • p) tabLen
  obtain ⟨hl1, ht1⟩ := frbTab_spec ψ s0 s1 _ _ _ hl0 ht0
  obtain ⟨hl2, ht2⟩ := frbTab_spec ψ s1 s2 _ _ _ hl1 ht1
  obtain ⟨hl3, ht3⟩ := frbTab_spec ψ s2 s3 _ _ _ hl2 ht2
  refine (interleave_spec [(_, _, n0), (_, _, n1), (_, _, n2), (_, _, n3)] (fun a => a.1) (fun a => a.2.2)
    (fun a i r => stepTab gops id a.2.1 r (a.2.2.getD i 0))
    (forall_mem_four (stepTab_getD id id_zsmul _ _ _ hl0 ht0 n0 hd0) (stepTab_getD id id_zsmul _ _ _ hl1 ht1 n1 hd1)
      (stepTab_getD id id_zsmul _ _ _ hl2 ht2 n2 hd2) (stepTab_getD id id_zsmul _ _ _ hl3 ht3 n3 hd3)) _
    (le_max_four _ _ _ _ _)).trans ?_
  simp only [List.map_cons, List.map_nil, List.sum_cons, List.sum_nil, add_zero, ← add_assoc, smul_smul, mul_comm]

theorem gls_sum_zsmul (ψ : G →+ G) (p : G) (n : Nat) (hn : (n : ℤ) • p = 0) (lam : ℤ) (hψ : ψ p = lam • p)
    (k k0 k1 k2 k3 : ℤ) (hk : (n : ℤ) ∣ k0 + k1 * lam + k2 * lam ^ 2 + k3 * lam ^ 3 - k) :
    k0 • p + k1 • ψ p + k2 • ψ (ψ p) + k3 • ψ (ψ (ψ p)) = k • p := by
  obtain ⟨c, hc⟩ := hk
  have e : k0 + k1 * lam + k2 * lam ^ 2 + k3 * lam ^ 3 = k + c * n := by linear_combination hc
  simp only [hψ, map_zsmul, smul_smul, ← add_smul]
  have e2 : k0 + k1 * lam + k2 * (lam * lam) + k3 * (lam * lam * lam) = k + c * n := by rw [← e]; ring
  rw [e2, add_smul, mul_smul, hn, smul_zero, add_zero]

theorem centre_congr (n : Nat) (hn0 : 0 < n) (A : ℤ) : ∃ t : ℤ, centre n (A % (n : ℤ)).toNat = A + n * t := by
  have h1 := toNat_emod n hn0 A
  unfold centre
  split
  · exact ⟨-(A / n), by rw [h1, Int.emod_def]; ring⟩
  · exact ⟨-(A / n) - 1, by rw [h1, Int.emod_def]; ring⟩

/-- h0 … h3: the columns of the coefficient rows (`frbRows x`) annihilate (1, λ, λ², λ³) modulo n; the quotients b_i are arbitrary -/
theorem recFrbBN_congr (n : Nat) (hn0 : 0 < n) (x lam : ℤ)
    (h0 : (n : ℤ) ∣ (x + 1) + x * lam + x * lam ^ 2 + (-2 * x) * lam ^ 3)
    (h1 : (n : ℤ) ∣ (2 * x + 1) + (-x) * lam + (-(x + 1)) * lam ^ 2 + (-x) * lam ^ 3)
    (h2 : (n : ℤ) ∣ 2 * x + (2 * x + 1) * lam + (2 * x + 1) * lam ^ 2 + (2 * x + 1) * lam ^ 3)
    (h3 : (n : ℤ) ∣ (x - 1) + (4 * x + 2) * lam + (-(2 * x - 1)) * lam ^ 2 + (x - 1) * lam ^ 3)
    (k : Nat) (k0 k1 k2 k3 : ℤ) (h : recFrbBN k n x = [k0, k1, k2, k3]) :
    (n : ℤ) ∣ k0 + k1 * lam + k2 * lam ^ 2 + k3 * lam ^ 3 - k := by
  unfold recFrbBN at h
  simp only [List.cons.injEq, and_true] at h
  obtain ⟨e0, e1, e2, e3⟩ := h
  generalize frbQuot (2 * x * x + 3 * x + 1) k n = b0 at *
  generalize frbQuot (12 * x * x * x + 8 * x * x + x) k n = b1 at *
  generalize frbQuot (6 * x * x * x + 4 * x * x + x) k n = b2 at *
  generalize frbQuot (-(2 * x * x + x)) k n = b3 at *
  obtain ⟨t0, ht0⟩ := centre_congr n hn0 ((k : ℤ) - ((x + 1) * b0 + (2 * x + 1) * b1 + 2 * x * b2 + (x - 1) * b3))
  obtain ⟨t1, ht1⟩ := centre_congr n hn0 (-(x * b0 + -x * b1 + (2 * x + 1) * b2 + (4 * x + 2) * b3))
  obtain ⟨t2, ht2⟩ := centre_congr n hn0 (-(x * b0 + -(x + 1) * b1 + (2 * x + 1) * b2 + -(2 * x - 1) * b3))
  obtain ⟨t3, ht3⟩ := centre_congr n hn0 (-(-2 * x * b0 + -x * b1 + (2 * x + 1) * b2 + (x - 1) * b3))
  rw [ht0] at e0
  rw [ht1] at e1
  rw [ht2] at e2
  rw [ht3] at e3
  obtain ⟨c0, hc0⟩ := h0
  obtain ⟨c1, hc1⟩ := h1
  obtain ⟨c2, hc2⟩ := h2
  obtain ⟨c3, hc3⟩ := h3
  refine ⟨t0 + t1 * lam + t2 * lam ^ 2 + t3 * lam ^ 3 - (b0 * c0 + b1 * c1 + b2 * c2 + b3 * c3), ?_⟩
  linear_combination (-1 : ℤ) * e0 - lam * e1 - lam ^ 2 * e2 - lam ^ 3 * e3 - b0 * hc0 - b1 * hc1 - b2 * hc2 - b3 * hc3

end Relic.Lemmas.Ep2Mul
