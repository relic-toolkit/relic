/-
The generic layer of Spec/Tower.lean is the polynomial quotient ring it is meant to be: for a ring homomorphism
φ : R → S and any x ∈ S with x^k = φ c, evaluation  l ↦ Σ φ(l_i) x^i  of coefficient lists sends the operations of
`layer ringOps k c` to the ring operations of S. Here one lemma per step of `Poly.mulMod`, for the value and for the
length (the result has exactly k coefficients); Props/C10.lean §1 puts them together, with S = R[X]/(X^k − c) and x the
class of X (`adjoinRoot_root_pow`).
-/
import Mathlib.Algebra.Ring.Basic
import Mathlib.Algebra.CharP.Lemmas
import Mathlib.RingTheory.AdjoinRoot
import Mathlib.Tactic.Ring
import Mathlib.Tactic.LinearCombination
import RelicVerif.Spec.Tower

namespace Relic.Lemmas.Tower
open Relic.Spec.Tower

variable {R S : Type} [CommRing R] [CommRing S]

def ringOps : Ops R := { zero := 0, one := 1, add := (· + ·), neg := Neg.neg, mul := (· * ·) }

@[simp] theorem ringOps_zero : (ringOps : Ops R).zero = 0 := rfl
@[simp] theorem ringOps_one : (ringOps : Ops R).one = 1 := rfl
@[simp] theorem ringOps_add (a b : R) : (ringOps : Ops R).add a b = a + b := rfl
@[simp] theorem ringOps_neg (a : R) : (ringOps : Ops R).neg a = -a := rfl
@[simp] theorem ringOps_mul (a b : R) : (ringOps : Ops R).mul a b = a * b := rfl

def eval (φ : R →+* S) (x : S) : List R → S
  | [] => 0
  | a :: as => φ a + x * eval φ x as

@[simp] theorem eval_nil (φ : R →+* S) (x : S) : eval φ x [] = 0 := rfl
@[simp] theorem eval_cons (φ : R →+* S) (x : S) (a : R) (as : List R) : eval φ x (a :: as) = φ a + x * eval φ x as := rfl

theorem eval_add (φ : R →+* S) (x : S) : ∀ a b : List R, eval φ x (Poly.add ringOps a b) = eval φ x a + eval φ x b
  | [], b => by simp [Poly.add]
  | a :: as, [] => by simp [Poly.add]
  | a :: as, b :: bs => by
    simp only [Poly.add, eval_cons, eval_add φ x as bs, ringOps_add, map_add]
    ring

theorem eval_scale (φ : R →+* S) (x : S) (c : R) : ∀ a : List R, eval φ x (Poly.scale ringOps c a) = φ c * eval φ x a
  | [] => by simp [Poly.scale]
  | a :: as => by
    have ih := eval_scale φ x c as
    simp only [Poly.scale] at ih ⊢
    simp only [List.map_cons, eval_cons, ih, ringOps_mul, map_mul]
    ring

theorem eval_neg (φ : R →+* S) (x : S) : ∀ a : List R, eval φ x (Poly.neg ringOps a) = - eval φ x a
  | [] => by simp [Poly.neg]
  | a :: as => by
    have ih := eval_neg φ x as
    simp only [Poly.neg] at ih ⊢
    simp only [List.map_cons, eval_cons, ih, ringOps_neg, map_neg]
    ring

theorem eval_mul (φ : R →+* S) (x : S) : ∀ a b : List R, eval φ x (Poly.mul ringOps a b) = eval φ x a * eval φ x b
  | [], b => by simp [Poly.mul]
  | a :: as, b => by
    simp only [Poly.mul, eval_add, eval_scale, eval_cons, eval_mul φ x as b, ringOps_zero, map_zero]
    ring

theorem eval_take_drop (φ : R →+* S) (x : S) : ∀ (k : Nat) (l : List R),
    eval φ x (l.take k) + x ^ k * eval φ x (l.drop k) = eval φ x l
  | 0, l => by simp
  | k + 1, [] => by simp
  | k + 1, a :: as => by
    have ih := eval_take_drop φ x k as
    simp only [List.take_succ_cons, List.drop_succ_cons, eval_cons]
    rw [← ih]
    ring

theorem eval_reduce (φ : R →+* S) (x : S) (k : Nat) (c : R) (hx : x ^ k = φ c) :
    ∀ (fuel : Nat) (l : List R), eval φ x (Poly.reduce ringOps k c fuel l) = eval φ x l
  | 0, l => rfl
  | fuel + 1, l => by
    unfold Poly.reduce
    split
    · rfl
    · rw [eval_reduce φ x k c hx fuel, eval_add, eval_scale, ← hx, eval_take_drop]

theorem eval_replicate_zero (φ : R →+* S) (x : S) : ∀ n : Nat, eval φ x (List.replicate n (0 : R)) = 0
  | 0 => rfl
  | n + 1 => by simp [List.replicate_succ, eval_replicate_zero φ x n]

theorem eval_append (φ : R →+* S) (x : S) : ∀ a b : List R, eval φ x (a ++ b) = eval φ x a + x ^ a.length * eval φ x b
  | [], b => by simp
  | a :: as, b => by
    simp only [List.cons_append, eval_cons, eval_append φ x as b, List.length_cons]
    ring

theorem eval_pad (φ : R →+* S) (x : S) (k : Nat) (l : List R) : eval φ x (Poly.pad ringOps k l) = eval φ x l := by
  simp only [Poly.pad, eval_append]
  have : eval φ x (List.replicate (k - l.length) (ringOps (R := R)).zero) = 0 := eval_replicate_zero φ x _
  rw [this]; ring

theorem length_add : ∀ a b : List R, (Poly.add ringOps a b).length = max a.length b.length
  | [], b => by simp [Poly.add]
  | a :: as, [] => by simp [Poly.add]
  | a :: as, b :: bs => by simp [Poly.add, length_add as bs, Nat.succ_max_succ]

theorem length_scale (c : R) (a : List R) : (Poly.scale ringOps c a).length = a.length := by simp [Poly.scale]

theorem length_mul_le : ∀ a b : List R, (Poly.mul ringOps a b).length ≤ a.length + b.length
  | [], b => by simp [Poly.mul]
  | a :: as, b => by
    have ih := length_mul_le as b
    simp only [Poly.mul, length_add, length_scale, List.length_cons]
    omega

theorem length_reduce (k : Nat) (hk : 0 < k) (c : R) : ∀ (fuel : Nat) (l : List R), l.length ≤ k + fuel →
    (Poly.reduce ringOps k c fuel l).length ≤ k
  | 0, l, h => by simpa [Poly.reduce] using h
  | fuel + 1, l, h => by
    unfold Poly.reduce
    split
    · assumption
    · apply length_reduce k hk c fuel
      simp only [length_add, length_scale, List.length_take, List.length_drop]
      omega

open Polynomial in
theorem adjoinRoot_root_pow (k : Nat) (c : R) :
    (AdjoinRoot.root (X ^ k - C c : R[X])) ^ k = AdjoinRoot.of (X ^ k - C c) c := by
  have h := AdjoinRoot.eval₂_root (X ^ k - C c : R[X])
  simp only [eval₂_sub, eval₂_pow, eval₂_X, eval₂_C] at h
  exact sub_eq_zero.mp h

end Relic.Lemmas.Tower
