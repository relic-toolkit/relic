/-
Secret sharing and multiplication triples for property C06, in the abstract structures they live in: Lagrange interpolation
at 0 over a field reconstructs f(0) from ANY set of at least t distinct points of a polynomial of degree < t (Shamir), in
the product form mpc_sss_key evaluates; the ring identity behind the triple of mpc_mt_gen.
-/
import Mathlib.LinearAlgebra.Lagrange
import Mathlib.Algebra.Polynomial.Eval.Defs
import Mathlib.Algebra.Module.Basic
import Mathlib.Tactic.Ring
import Mathlib.Tactic.LinearCombination

namespace Relic.Lemmas.ShareC06
open Polynomial

/-- the formula of `mpc_sss_key`; `s` is any qualifying subset, in any order -/
theorem shamir_reconstruct_indexed {F ι : Type*} [Field F] [DecidableEq ι] (f : F[X]) (s : Finset ι) (x : ι → F)
    (hinj : Set.InjOn x s) (hdeg : f.degree < s.card) :
    (∑ i ∈ s, f.eval (x i) * ((∏ m ∈ s.erase i, x m) / (∏ m ∈ s.erase i, (x m - x i)))) = f.eval 0 := by
  classical
  have h := Lagrange.eq_interpolate (v := x) hinj hdeg
  conv_rhs => rw [h]
  rw [Lagrange.interpolate_apply, eval_finsetSum]
  refine Finset.sum_congr rfl fun i hi => ?_
  rw [eval_mul, eval_C]
  congr 1
  unfold Lagrange.basis
  rw [eval_prod, ← Finset.prod_div_distrib]
  refine Finset.prod_congr rfl fun m hm => ?_
  have hmi : m ≠ i := (Finset.mem_erase.mp hm).1
  have hms : m ∈ s := (Finset.mem_erase.mp hm).2
  have hne : x m ≠ x i := fun he => hmi (hinj hms hi he)
  have h1 : x m - x i ≠ 0 := sub_ne_zero.mpr hne
  have h2 : x i - x m ≠ 0 := sub_ne_zero.mpr (Ne.symm hne)
  simp only [Lagrange.basisDivisor, eval_mul, eval_C, eval_sub, eval_X]
  rw [div_eq_iff h1, zero_sub, mul_assoc, eq_comm, inv_mul_eq_iff_eq_mul₀ h2]
  ring

/-- the identity behind mpc_mt_gen's c0 := (a0+a1)(b0+b1) − c1; the function itself is not modelled -/
theorem beaver_gen {R : Type*} [CommRing R] (a0 a1 b0 b1 c1 : R) :
    ((a0 + a1) * (b0 + b1) - c1) + c1 = (a0 + a1) * (b0 + b1) := by
  ring

end Relic.Lemmas.ShareC06
