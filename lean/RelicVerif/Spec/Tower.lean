/-
Extension-field towers as iterated polynomial quotient rings  K[X]/(X^k − c)  — the specification side of C10
(and of the later slices that compute over Fp2 / Fp12: curves over Fp2, GT, pairings).

Deliberately naive: an element of a layer is the list of its k coefficients in the layer below, the product is the
schoolbook polynomial product followed by folding modulo X^k − c (lo + X^k·hi ↦ lo + c·hi). No Karatsuba, no
Chung–Hasan, no lazy reduction, no precomputed Frobenius constants: those belong to the model of the C code.

Two presentations of the same definitions:
* `Poly` / `layer`: generic over an operation record `Ops E` of the coefficient ring — the theorems instantiate it with
  a commutative ring (Lemmas/Tower.lean: evaluation at any x with x^k = c is multiplicative, hence the layer is the
  quotient ring);
* `Desc` / `ops`: a tower given at run time (p and, from the top level down, the pairs (degree, constant c)); elements
  are flat coefficient vectors over Z/pZ in the memory order of the library (outermost index first). This is what the
  driver executes.

No Mathlib.
-/
namespace Relic.Spec.Tower

/-- the ring operations a polynomial layer needs from its coefficient ring -/
structure Ops (E : Type) where
  zero : E
  one : E
  add : E → E → E
  neg : E → E
  mul : E → E → E

def Ops.sub {E : Type} (o : Ops E) (a b : E) : E := o.add a (o.neg b)

/-! ### polynomials as coefficient lists (constant term first) -/
namespace Poly
variable {E : Type} (o : Ops E)

def add : List E → List E → List E
  | [], b => b
  | a, [] => a
  | x :: a, y :: b => o.add x y :: add a b

def scale (c : E) (a : List E) : List E := a.map (o.mul c)

def neg (a : List E) : List E := a.map o.neg

/-- schoolbook product -/
def mul : List E → List E → List E
  | [], _ => []
  | x :: a, b => add o (scale o x b) (o.zero :: mul a b)

/-- folding modulo X^k − c: a list longer than k is split as lo + X^k·hi and replaced by lo + c·hi, until at most k
    coefficients remain (`fuel` bounds the number of folds; every fold shortens the list when k > 0) -/
def reduce (k : Nat) (c : E) : Nat → List E → List E
  | 0, l => l
  | fuel + 1, l => if l.length ≤ k then l else reduce k c fuel (add o (l.take k) (scale o c (l.drop k)))

/-- exactly k coefficients -/
def pad (k : Nat) (l : List E) : List E := l ++ List.replicate (k - l.length) o.zero

/-- product in K[X]/(X^k − c) on coefficient lists -/
def mulMod (k : Nat) (c : E) (a b : List E) : List E :=
  pad o k (reduce o k c (a.length + b.length) (mul o a b))

end Poly

/-- the layer K[X]/(X^k − c) over a coefficient ring given by `o` -/
def layer {E : Type} (o : Ops E) (k : Nat) (c : E) : Ops (List E) where
  zero := List.replicate k o.zero
  one := Poly.pad o k [o.one]
  add := Poly.add o
  neg := Poly.neg o
  mul := Poly.mulMod o k c

/-- square-and-multiply, most significant bit first (the value is the n-th power; the order of the multiplications is
    immaterial in a commutative ring) -/
def powAux {E : Type} (o : Ops E) (a : E) : Nat → Nat → E
  | 0, _ => o.one
  | fuel + 1, n =>
    if n = 0 then o.one else
    let h := powAux o a fuel (n / 2)
    let s := o.mul h h
    if n % 2 = 1 then o.mul s a else s

def pow {E : Type} (o : Ops E) (a : E) (n : Nat) : E := powAux o a (Nat.log2 n + 1) n

/-! ### towers given at run time -/

/-- one extension step: adjoin a root of X^deg − nr, `nr` a flat element of the level below -/
structure Level where
  deg : Nat
  nr : List Nat
deriving Repr, BEq, Inhabited

/-- a tower over Z/pZ; `levels` lists the steps from the TOP level down to the first extension -/
structure Desc where
  p : Nat
  levels : List Level
deriving Repr, Inhabited

/-- number of Z/pZ coefficients of an element -/
def dim : List Level → Nat
  | [] => 1
  | l :: ls => l.deg * dim ls

def Desc.dim (d : Desc) : Nat := Tower.dim d.levels

/-- n consecutive chunks of d entries -/
def chunks (d : Nat) : Nat → List Nat → List (List Nat)
  | 0, _ => []
  | n + 1, l => l.take d :: chunks d n (l.drop d)

/-- Z/pZ on singleton lists -/
def baseOps (p : Nat) : Ops (List Nat) where
  zero := [0]
  one := [1 % p]
  add a b := [(a.headD 0 + b.headD 0) % p]
  neg a := [(p - a.headD 0 % p) % p]
  mul a b := [(a.headD 0 * b.headD 0) % p]

/-- the operations of a tower on flat coefficient vectors -/
def ops (p : Nat) : List Level → Ops (List Nat)
  | [] => baseOps p
  | l :: ls =>
    let o := ops p ls
    let lay := layer o l.deg l.nr
    let split := chunks (dim ls) l.deg
    { zero := lay.zero.flatten
      one := lay.one.flatten
      add := fun a b => (lay.add (split a) (split b)).flatten
      neg := fun a => (lay.neg (split a)).flatten
      mul := fun a b => (lay.mul (split a) (split b)).flatten }

def Desc.ops (d : Desc) : Ops (List Nat) := Tower.ops d.p d.levels

/-- the sub-tower below the top level -/
def Desc.below (d : Desc) : Desc := { d with levels := d.levels.drop 1 }

/-- canonical representative: exactly dim coefficients, each reduced modulo p -/
def Desc.canon (d : Desc) (a : List Nat) : List Nat :=
  ((a.take d.dim) ++ List.replicate (d.dim - a.length) 0).map (· % d.p)

def Desc.zero (d : Desc) : List Nat := d.ops.zero
def Desc.one (d : Desc) : List Nat := d.ops.one
def Desc.add (d : Desc) (a b : List Nat) : List Nat := d.ops.add a b
def Desc.neg (d : Desc) (a : List Nat) : List Nat := d.ops.neg a
def Desc.sub (d : Desc) (a b : List Nat) : List Nat := d.ops.sub a b
def Desc.mul (d : Desc) (a b : List Nat) : List Nat := d.ops.mul a b
def Desc.sqr (d : Desc) (a : List Nat) : List Nat := d.ops.mul a a
def Desc.pow (d : Desc) (a : List Nat) (n : Nat) : List Nat := Tower.pow d.ops a n
def Desc.eq (d : Desc) (a b : List Nat) : Bool := d.canon a == d.canon b
def Desc.isZero (d : Desc) (a : List Nat) : Bool := (d.canon a).all (· == 0)
def Desc.isOne (d : Desc) (a : List Nat) : Bool := d.canon a == d.one

/-- an integer (a residue modulo p) as an element of the tower -/
def Desc.ofNat (d : Desc) (n : Nat) : List Nat := (n % d.p) :: List.replicate (d.dim - 1) 0

/-- an element of the sub-tower below the top level as an element of the top level (constant polynomial) -/
def Desc.ofBelow (d : Desc) (a : List Nat) : List Nat := d.canon (a ++ List.replicate (d.dim - a.length) 0)

/-- a ↦ a^p, by definition -/
def Desc.frobenius (d : Desc) (a : List Nat) : List Nat := d.pow a d.p

def Desc.frobeniusPow (d : Desc) (a : List Nat) : Nat → List Nat
  | 0 => d.canon a
  | i + 1 => d.frobenius (Desc.frobeniusPow d a i)

/-- the generator adjoined at the top level (X itself, for a level of degree ≥ 2); the element 1 for the empty tower -/
def Desc.gen (d : Desc) : List Nat :=
  match d.levels with
  | [] => [1 % d.p]
  | _ :: ls => d.canon (List.replicate (Tower.dim ls) 0 ++ [1])

/-- conjugation of a quadratic top level over the level below: a0 + a1·X ↦ a0 − a1·X (identity otherwise) -/
def Desc.conj (d : Desc) (a : List Nat) : List Nat :=
  match d.levels with
  | l :: ls =>
    if l.deg = 2 then
      let n := Tower.dim ls
      let a := d.canon a
      a.take n ++ (Tower.ops d.p ls).neg (a.drop n)
    else d.canon a
  | [] => d.canon a

/-! #### the p-power map through its values on the generators

In a commutative ring of characteristic p the map a ↦ a^p is a ring homomorphism (Props/C10.lean,
`spec_frobenius_expand`), so (Σ a_j X^j)^p = Σ a_j^p (X^p)^j. `FrobTable` holds X^p for every level (computed with `pow`,
i.e. from the definition); `frobeniusVia` applies the expansion recursively. The driver cross-checks it against
`frobenius` on sampled lines. -/

/-- X^p for each level, top level first; entry i is a flat element of the tower `levels.drop i` -/
abbrev FrobTable := List (List Nat)

def frobTable (p : Nat) : List Level → FrobTable
  | [] => []
  | l :: ls =>
    let d : Desc := { p := p, levels := l :: ls }
    d.pow d.gen p :: frobTable p ls

def Desc.frobTable (d : Desc) : FrobTable := Tower.frobTable d.p d.levels

def frobeniusVia (p : Nat) : List Level → FrobTable → List Nat → List Nat
  | [], _, a => [a.headD 0 % p]
  | _ :: _, [], a => a
  | l :: ls, gp :: tbl, a =>
    let d : Desc := { p := p, levels := l :: ls }
    let cs := chunks (Tower.dim ls) l.deg a
    -- Horner in X^p with the coefficients' own p-th powers
    cs.reverse.foldl (fun acc c => d.add (d.mul acc gp) (d.ofBelow (frobeniusVia p ls tbl c))) d.zero

def Desc.frobeniusVia (d : Desc) (tbl : FrobTable) (a : List Nat) : List Nat :=
  Tower.frobeniusVia d.p d.levels tbl (d.canon a)

def Desc.frobeniusViaPow (d : Desc) (tbl : FrobTable) (a : List Nat) : Nat → List Nat
  | 0 => d.canon a
  | i + 1 => d.frobeniusVia tbl (Desc.frobeniusViaPow d tbl a i)

/-! #### inverse by linear algebra (independent of any tower formula): solve  M_a · x = 1  over Z/pZ by Gauss–Jordan
elimination, M_a the matrix of multiplication by a in the monomial basis. Returns `none` when a is not invertible. -/

def invModP (p x : Nat) : Nat := Tower.pow (baseOps p) [x % p] (p - 2) |>.headD 0

/-- the i-th unit vector -/
def Desc.unit (d : Desc) (i : Nat) : List Nat := (List.range d.dim).map fun j => if j = i then 1 % d.p else 0

/-- rows of the augmented system: row r lists the r-th coordinates of a·e_0 … a·e_{n-1}, then the r-th coordinate of 1 -/
def Desc.mulMatrix (d : Desc) (a : List Nat) : List (List Nat) :=
  let cols := (List.range d.dim).map fun i => d.mul a (d.unit i)
  (List.range d.dim).map fun r => cols.map (fun c => c.getD r 0) ++ [d.one.getD r 0]

def gaussJordan (p n : Nat) (rows : List (List Nat)) : Option (List (List Nat)) :=
  (List.range n).foldlM (fun (m : List (List Nat)) col =>
    -- pivot: a row at or below `col` with a non-zero entry in this column
    match (List.range n).find? (fun r => r ≥ col && (m.getD r []).getD col 0 % p != 0) with
    | none => none
    | some pr =>
      let prow := m.getD pr []
      let inv := invModP p (prow.getD col 0)
      let prow := prow.map fun x => x * inv % p
      let m := (m.set pr (m.getD col [])).set col prow
      some ((List.range n).map fun r =>
        let row := m.getD r []
        if r = col then row else
        let f := row.getD col 0
        if f = 0 then row else (row.zip prow).map fun (x, y) => (x + (p - f * y % p)) % p)) rows

def Desc.inv? (d : Desc) (a : List Nat) : Option (List Nat) :=
  (gaussJordan d.p d.dim (d.mulMatrix (d.canon a))).map fun m => m.map fun row => row.getD d.dim 0

/-! ### text helpers (coefficients as lower-case hex separated by commas, library memory order) -/

def hexDigit? (c : Char) : Option Nat :=
  if '0' ≤ c ∧ c ≤ '9' then some (c.toNat - '0'.toNat)
  else if 'a' ≤ c ∧ c ≤ 'f' then some (c.toNat - 'a'.toNat + 10)
  else if 'A' ≤ c ∧ c ≤ 'F' then some (c.toNat - 'A'.toNat + 10)
  else none

def parseHex? (s : String) : Option Nat :=
  if s.isEmpty then none else
  s.foldl (fun acc c => match acc, hexDigit? c with
    | some a, some d => some (a * 16 + d)
    | _, _ => none) (some 0)

def hexOf (n : Nat) : String := String.ofList (Nat.toDigits 16 n)

/-- "c0,c1,…" with exactly `n` coefficients -/
def parseCoeffs? (n : Nat) (s : String) : Option (List Nat) := do
  let cs ← (s.splitOn ",").mapM parseHex?
  if cs.length = n then some cs else none

def Desc.parse? (d : Desc) (s : String) : Option (List Nat) := (parseCoeffs? d.dim s).map d.canon

def fmtCoeffs (a : List Nat) : String := String.intercalate "," (a.map hexOf)

def Desc.fmt (d : Desc) (a : List Nat) : String := fmtCoeffs (d.canon a)

end Relic.Spec.Tower
